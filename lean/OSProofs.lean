import OSProofs.Gauss
import OSProofs.RealInst
import OSProofs.RealBounds
import OSProofs.RealSums
import OSProofs.Sched
import OSProofs.LeafFacts
import OSProofs.Gauss2
import OSProofs.LeafCode
import OSProofs.ValidateLemmas
import OSProofs.WrapBasics
import OSProofs.SortLemmas
import OSProofs.C02Lemmas
import OSProofs.C03Lemmas
import OSProofs.Spec
import OSProofs.SpecLemmas
import OSProofs.Props.C01
import OSProofs.PredictLemmas
import OSProofs.PredictSumLemmas
import OSProofs.C06Lemmas
import OSProofs.Props.C06
import OSProofs.C07Lemmas
import OSProofs.Props.C07
import OSProofs.Props.C09
import OSProofs.Props.C12
import OSProofs.DrawLemmas
import OSProofs.Props.C10
import OSProofs.Props.C10Teams
import OSProofs.Props.C11
import OSProofs.C20Lemmas
import OSProofs.Props.C20b
import OSProofs.C08bLemmas
import OSProofs.Props.C08b
import OSProofs.RateMap
import OSProofs.Props.C16b
import OSProofs.PairLemmas
import OSProofs.C05Lemmas
import OSProofs.Props.C05b
import OSProofs.Props.C02
import OSProofs.Props.C03
import OSProofs.Props.C04
import OSProofs.Props.C05
import OSProofs.Props.C08
import OSProofs.Props.C13
import OSProofs.Props.C14
import OSProofs.Props.C15
import OSProofs.Props.C16
import OSProofs.Props.C17
import OSProofs.Props.C18
import OSProofs.Props.C19
import OSProofs.Props.C20
import OSProofs.C04Lemmas
import OSProofs.C04SortLemmas
import OSProofs.C04FullLemmas
import OSProofs.C04PlayerLemmas
import OSProofs.Props.C04b
import OSProofs.Props.C01b
import OSProofs.Props.C11b
import OSProofs.C05SpecLemmas
import OSProofs.Props.C05c
import OSProofs.Props.C19b
import OSProofs.CodeShapedLemmas
import OSProofs.CodeShaped
import OSProofs.Ladder
import OSProofs.C01dLemmas
import OSProofs.Props.C01d
import OSProofs.LeagueLemmas
import OSProofs.LeagueRealLemmas
import OSProofs.Props.C06b
import OSProofs.Props.C20c
import OSProofs.LiftLemmas
import OSProofs.Props.C07b
import OSProofs.Props.C05d
import OSProofs.HiPrecLemmas
import OSProofs.Props.Oracle
import OSProofs.GenTie
import OSProofs.MonoArith
import OSProofs.MonoArithInst
import OSProofs.FL1Lemmas
import OSProofs.Props.FL1
import OSProofs.Props.FL1Inst
import OSProofs.OrderLaws
import OSProofs.MonoLemmas
import OSProofs.RankLemmas
import OSProofs.FL2Lemmas
import OSProofs.Props.FL2
import OSProofs.Loops
import OSProofs.Props.Loops
import OSProofs.Props.LoopsReal
import OSProofs.GammaLemmas
import OSProofs.GammaRealLemmas
import OSProofs.Props.Gamma
import OSProofs.TwoTeamLemmas
import OSProofs.FL3Lemmas
import OSProofs.Props.GenC12
import OSProofs.Props.FL3
import OSProofs.Props.FL3Inst
import OSProofs.VLangTie
import OSProofs.GenValTie
import OSProofs.PredictLoops
import OSProofs.Props.PredictLoops
import OSProofs.C08MagLemmas
import OSProofs.C08MagLemmasB
import OSProofs.Props.C08Mag
import OSProofs.FL4Lemmas
import OSProofs.Props.FL4
import OSProofs.Props.FL4Inst
import OSProofs.FL5Lemmas
import OSProofs.Props.FL5
import OSProofs.Props.FL5Inst
