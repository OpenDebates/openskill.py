import OSModel.Compute
import OSModel.Predict
/-
  Code-shaped (literal) transliterations of the two Python loops that the rest of the model
  replaces by a closed form:

  * `PlackettLuce._sum_q`   (models/weng_lin/plackett_luce.py)  — closed form `plSumQ`
  * `_arg_sort`/`_rank_data` (models/common.py)                 — closed form `rankData`

  `OSModel/Loops.lean` and `OSModel/PredictLoops.lean` call them from the literal `_compute` and
  `predict_rank`.  `OSProofs/CodeShaped.lean` proves `plSumQCode ts c = plSumQ ts c` (ranks non-decreasing,
  `0 + x = x` for the first term) and `rankDataCode v = rankData v` (total preorder); over ℝ both hold
  outright (`OSProofs/Props/LoopsReal.lean`).
-/
namespace OS
open Scalar

/-! ### `_sum_q` : a Python `dict` is an association list in insertion order -/

/-- `if q in d: d[q] += x  else: d[q] = x` on a dict represented by its items in insertion
    order: an existing entry is updated in place, a new key is appended at the end. -/
def dictAdd {β : Type} [Add β] : List (Nat × β) → Nat → β → List (Nat × β)
  | [], q, x => [(q, x)]
  | (k, v) :: rest, q, x =>
    if k = q then (k, v + x) :: rest else (k, v) :: dictAdd rest q x

variable {α : Type} [Scalar α]

/-- body of the inner loop `for q, team_q in enumerate(team_ratings)` for a fixed `team_i` -/
def plSumQInner (ts : List (TeamAgg α)) (rankI : Nat) (summed : α) (d : List (Nat × α)) :
    List (Nat × α) :=
  ts.zipIdx.foldl
    (fun d tq => if rankI ≥ tq.1.rank then dictAdd d tq.2 summed else d) d

/-- the dict `sum_q` after the double loop -/
def plSumQDict (ts : List (TeamAgg α)) (c : α) : List (Nat × α) :=
  ts.zipIdx.foldl
    (fun d ti =>
      let summed := exp (ti.1.mu / c)
      plSumQInner ts ti.1.rank summed d)
    []

/-- `_sum_q(team_ratings, c)`, literally: `list(sum_q.values())` -/
def plSumQCode (ts : List (TeamAgg α)) (c : α) : List α :=
  (plSumQDict ts c).map (·.2)

/-! ### `_arg_sort` / `_rank_data` -/

/-- Python's tuple comparison `(v, i) <= (w, j)` when `==` on the first component is
    `¬ v < w ∧ ¬ w < v`: the first differing component decides. -/
def lexLe (a b : α × Nat) : Bool :=
  decide (a.1 < b.1) || (!decide (b.1 < a.1) && decide (a.2 ≤ b.2))

/-- `_arg_sort(vector)`:
    `[i for (v, i) in sorted((v, i) for (i, v) in enumerate(vector))]` -/
def argSortCode (v : List α) : List Nat :=
  (v.zipIdx.mergeSort lexLe).map (·.2)

/-- `a != b` for scalars -/
def sne (a b : α) : Bool := decide (a < b) || decide (b < a)

/-- Python `range(a, b)` -/
def pyRange (a b : Nat) : List Nat := List.range' a (b - a)

/-- `_rank_data(vector)`, literally.  The loop state is `(duplicate_count, rank_vector_with_ties)`
    (`sum_ranks` is written but never read in the Python code, so it is left out).  List
    reads `l[k]` are `l.getD k default`; every index that occurs is in range.  Python's integer
    expression `index - duplicate_count + 1` is written `index + 1 - dup` because `Nat`
    subtraction truncates (`duplicate_count ≤ index + 1` always, so the value is the same). -/
def rankDataCode (v : List α) : List Nat :=
  let n := v.length
  let argSortRank := argSortCode v
  let argSorted : List α := argSortRank.map (fun r => v.getD r (ofNat 0))
  let step := fun (st : Nat × List Nat) (index : Nat) =>
    let dup := st.1 + 1
    if index == n - 1 || sne (argSorted.getD index (ofNat 0)) (argSorted.getD (index + 1) (ofNat 0))
    then
      let out := (pyRange (index + 1 - dup) (index + 1)).foldl
        (fun out j => out.set (argSortRank.getD j 0) (index + 1 - dup + 1)) st.2
      (0, out)
    else (dup, st.2)
  ((List.range n).foldl step (0, List.replicate n 0)).2

end OS
