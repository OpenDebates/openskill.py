import OSModel.Compute
import OSModel.Ladder
import OSModel.Rate
import OSModel.CodeShaped
/-
  Loop-shaped (literal) transliterations of the five `_compute` bodies of
  /repo/openskill/models/weng_lin/{plackett_luce, bradley_terry_full, bradley_terry_part,
  thurstone_mosteller_full, thurstone_mosteller_part}.py (the code AS REPAIRED at /repo HEAD), and of
  the loops of `rate` itself that `OSModel/Rate.lean` abbreviates.

  `OSModel/Compute.lean` replaces every loop by a `sumL ∘ map ∘ filter` expression.  Here the loops are
  kept as loops: statement by statement, accumulator by accumulator, in the code's iteration order.

  Conventions
  * `for k, x in enumerate(xs): …` is a `foldl` over `xs.zipIdx`; the loop variable is the pair `(x, k)`.
    The state of the fold is the tuple of the variables the loop body assigns to.
  * `result.append(x)` is `result ++ [x]`;  `continue` returns the state unchanged.
  * `omega += x` is `omega + x`, `omega -= x` is `omega - x`, `omega *= y` is `omega * y`, `x**2` is `x * x`;
    the literals `0`, `0.0`, `1`, `1.0`, `2` are `ofNat`, `0.5` is `ofNat 1 / ofNat 2`; an `int` that meets a
    `float` in arithmetic (`a[q]`) is converted by `ofNat`.
  * A list read `l[k]` is `l.getD k default`; every index that occurs is in range (this is proved, not
    assumed: the equality theorems of `OSProofs/Props/Loops.lean` go through the reads).
  * Python objects are values here (no aliasing): `modified_player.mu = mu` is a record update.
  * The inner `for q …` loop of every full-pairing model is a separate definition (`loop…Inner`) called
    from the outer loop, only so that the proofs can name it; the two partial-pairing models are nested
    functions (`i_map`, `od_reduce`) in the Python text already.
  * The helper METHODS `_c`, `_sum_q`, `_a`, `_calculate_team_ratings`, `_ladder_pairs`, `gamma`, `v w vt wt`
    are calls, modelled by `plC`, `plSumQ`, `plA`, `teamAggs`, `ladderPairsCode`, `gammaVal`, `L.v …`
    (`plSumQCode` of `CodeShaped.lean` is the literal `_sum_q`; `computeLoopPLCodeOn` below uses it together
    with the literal `_c`; the second half of the file has the literal `_calculate_team_ratings`,
    `_calculate_rankings` and the loops of `rate`, assembled in `computeCode` and `rateLoop`).

  `OSModel/PredictLoops.lean` calls `teamRatingsCode`; nothing else in `OSModel` uses this file.
  `OSProofs/Props/Loops.lean` proves
  `computeLoop K L P teams dense = compute K L P teams dense`.
-/
namespace OS
open Scalar
variable {α : Type} [Scalar α]

/-- the value of an out-of-range list read (never reached) -/
def Rating.dflt : Rating α := { id := 0, mu := ofNat 0, sigma := ofNat 0 }

/-! ### the player loop (the same text in all five files) -/

/-- ```
    intermediate_result_per_team = []
    for j, j_players in enumerate(team_i.team):
        mu = j_players.mu
        sigma = j_players.sigma
        mu += (sigma**2 / team_i.sigma_squared) * omega
        sigma *= math.sqrt(max(1 - (sigma**2 / team_i.sigma_squared) * delta, self.kappa))
        modified_player = original_teams[i][j]      # full pairing and Plackett-Luce
        modified_player = team_i.team[j]            # partial pairing
        modified_player.mu = mu
        modified_player.sigma = sigma
        intermediate_result_per_team.append(modified_player)
    ```
    `src` is the list the modified player is read from (`original_teams[i]` or `team_i.team`). -/
def loopPlayers (kappa : α) (team_i : TeamAgg α) (src : List (Rating α)) (omega delta : α) :
    List (Rating α) :=
  team_i.players.zipIdx.foldl                           -- for j, j_players in enumerate(team_i.team):
    (fun intermediate_result_per_team jp =>
      let j_players := jp.1
      let j := jp.2
      let mu := j_players.mu                            -- mu = j_players.mu
      let sigma := j_players.sigma                      -- sigma = j_players.sigma
      let mu := mu + (sigma * sigma / team_i.sig2) * omega
                                                        -- mu += (sigma**2 / team_i.sigma_squared) * omega
      let sigma := sigma * sqrt (smax (ofNat 1 - (sigma * sigma / team_i.sig2) * delta) kappa)
                                                        -- sigma *= math.sqrt(max(1 - (sigma**2 / team_i.sigma_squared) * delta, self.kappa))
      let modified_player := src.getD j Rating.dflt     -- modified_player = original_teams[i][j]   /  team_i.team[j]
      let modified_player := { modified_player with mu := mu }        -- modified_player.mu = mu
      let modified_player := { modified_player with sigma := sigma }  -- modified_player.sigma = sigma
      intermediate_result_per_team ++ [modified_player])              -- intermediate_result_per_team.append(modified_player)
    []                                                  -- intermediate_result_per_team = []

/-! ### Plackett–Luce -/

/-- the inner loop of `PlackettLuce._compute` for a fixed `(i, team_i)`; returns `(omega, delta)` -/
def loopPLInner (team_ratings : List (TeamAgg α)) (c : α) (sum_q : List α) (a : List Nat)
    (i : Nat) (team_i : TeamAgg α) : α × α :=
  let omega : α := ofNat 0                              -- omega = 0.0
  let delta : α := ofNat 0                              -- delta = 0.0
  let i_mu_over_c := exp (team_i.mu / c)                -- i_mu_over_c = math.exp(team_i.mu / c)
  team_ratings.zipIdx.foldl                             -- for q, team_q in enumerate(team_ratings):
    (fun od tq =>
      let omega := od.1
      let delta := od.2
      let team_q := tq.1
      let q := tq.2
      let i_mu_over_ce_over_sum_q := i_mu_over_c / sum_q.getD q (ofNat 0)
                                                        -- i_mu_over_ce_over_sum_q = i_mu_over_c / sum_q[q]
      if team_q.rank ≤ team_i.rank then                 -- if team_q.rank <= team_i.rank:
        let delta := delta +
          i_mu_over_ce_over_sum_q * (ofNat 1 - i_mu_over_ce_over_sum_q) / ofNat (a.getD q 0)
                                                        -- delta += (i_mu_over_ce_over_sum_q * (1 - i_mu_over_ce_over_sum_q) / a[q])
        if q = i then                                   -- if q == i:
          let omega := omega + (ofNat 1 - i_mu_over_ce_over_sum_q) / ofNat (a.getD q 0)
                                                        -- omega += (1 - i_mu_over_ce_over_sum_q) / a[q]
          (omega, delta)
        else                                            -- else:
          let omega := omega - i_mu_over_ce_over_sum_q / ofNat (a.getD q 0)
                                                        -- omega -= i_mu_over_ce_over_sum_q / a[q]
          (omega, delta)
      else (omega, delta))
    (omega, delta)

/-- the body of `PlackettLuce._compute` after `team_ratings = …`; the methods `_c` and `_sum_q` are
    parameters (`cF`, `sumQF`) so that the same text can be run with their closed forms (`plC`,
    `plSumQ`) and with their literal loops (`plCLoop`, `plSumQCode`).  `_a` is `plA`, which is the
    Python text already (`list(map(lambda i: len(list(filter(lambda q: i.rank == q.rank, …))), …))`). -/
def computeLoopPLWith (cF : α → List (TeamAgg α) → α) (sumQF : List (TeamAgg α) → α → List α)
    (P : Params α) (teams : List (List (Rating α))) (team_ratings : List (TeamAgg α)) :
    List (List (Rating α)) :=
  let original_teams := teams                           -- original_teams = teams
  let c := cF P.beta team_ratings                       -- c = self._c(team_ratings)
  let sum_q := sumQF team_ratings c                     -- sum_q = self._sum_q(team_ratings, c)
  let a := plA team_ratings                             -- a = self._a(team_ratings)
  team_ratings.zipIdx.foldl                             -- for i, team_i in enumerate(team_ratings):
    (fun result it =>
      let team_i := it.1
      let i := it.2
      let od := loopPLInner team_ratings c sum_q a i team_i   -- (omega = 0.0 … end of the `for q` loop)
      let omega := od.1
      let delta := od.2
      let omega := omega * (team_i.sig2 / c)            -- omega *= team_i.sigma_squared / c
      let delta := delta * (team_i.sig2 / (c * c))      -- delta *= team_i.sigma_squared / c**2
      let gamma_value := gammaVal P.gamma c team_ratings.length team_i.mu team_i.sig2 team_i.players team_i.rank
                                                        -- gamma_value = self.gamma(c, len(team_ratings), team_i.mu, team_i.sigma_squared, team_i.team, team_i.rank)
      let delta := delta * gamma_value                  -- delta *= gamma_value
      let intermediate_result_per_team :=
        loopPlayers P.kappa team_i (original_teams.getD i []) omega delta   -- (the player loop)
      result ++ [intermediate_result_per_team])         -- result.append(intermediate_result_per_team)
    []                                                  -- result = []

/-- `PlackettLuce._compute` after `team_ratings = …`, with `_c` and `_sum_q` as modelled in
    `Compute.lean` -/
def computeLoopPLOn (_L : Leaves α) (P : Params α) (teams : List (List (Rating α)))
    (team_ratings : List (TeamAgg α)) : List (List (Rating α)) :=
  computeLoopPLWith plC plSumQ P teams team_ratings

/-- `_c(team_ratings)`, literally -/
def plCLoop (beta : α) (team_ratings : List (TeamAgg α)) : α :=
  let beta_squared := beta * beta                       -- beta_squared = self.beta**2
  let collective_team_sigma : α := ofNat 0              -- collective_team_sigma = 0.0
  let collective_team_sigma := team_ratings.foldl       -- for team in team_ratings:
    (fun collective_team_sigma team =>
      collective_team_sigma + (team.sig2 + beta_squared))   -- collective_team_sigma += team.sigma_squared + beta_squared
    collective_team_sigma
  sqrt collective_team_sigma                            -- return math.sqrt(collective_team_sigma)

/-- `PlackettLuce._compute` after `team_ratings = …`, with the literal `_c` (`plCLoop`) and the literal
    `_sum_q` (`plSumQCode`, the dict-building double loop of `CodeShaped.lean`) -/
def computeLoopPLCodeOn (_L : Leaves α) (P : Params α) (teams : List (List (Rating α)))
    (team_ratings : List (TeamAgg α)) : List (List (Rating α)) :=
  computeLoopPLWith plCLoop plSumQCode P teams team_ratings

/-! ### Bradley–Terry, full pairing -/

/-- the inner loop of `BradleyTerryFull._compute` for a fixed `(i, team_i)` -/
def loopBTFInner (P : Params α) (team_ratings : List (TeamAgg α)) (i : Nat) (team_i : TeamAgg α) :
    α × α :=
  let beta := P.beta                                    -- beta = self.beta
  let omega : α := ofNat 0                              -- omega = 0.0
  let delta : α := ofNat 0                              -- delta = 0.0
  team_ratings.zipIdx.foldl                             -- for q, team_q in enumerate(team_ratings):
    (fun od tq =>
      let omega := od.1
      let delta := od.2
      let team_q := tq.1
      let q := tq.2
      if q = i then (omega, delta) else                 -- if q == i: continue
      let c_iq := sqrt (team_i.sig2 + team_q.sig2 + (ofNat 2 * (beta * beta)))
                                                        -- c_iq = math.sqrt(team_i.sigma_squared + team_q.sigma_squared + (2 * beta**2))
      let piq := ofNat 1 / (ofNat 1 + exp ((team_q.mu - team_i.mu) / c_iq))
                                                        -- piq = 1 / (1 + math.exp((team_q.mu - team_i.mu) / c_iq))
      let sigma_squared_to_ciq := team_i.sig2 / c_iq    -- sigma_squared_to_ciq = team_i.sigma_squared / c_iq
      let s : α := ofNat 0                              -- s = 0.0
      let s : α :=
        if team_q.rank > team_i.rank then ofNat 1       -- if team_q.rank > team_i.rank: s = 1.0
        else if team_q.rank = team_i.rank then ofNat 1 / ofNat 2   -- elif team_q.rank == team_i.rank: s = 0.5
        else s
      let omega := omega + sigma_squared_to_ciq * (s - piq)   -- omega += sigma_squared_to_ciq * (s - piq)
      let gamma_value := gammaVal P.gamma c_iq team_ratings.length team_i.mu team_i.sig2 team_i.players team_i.rank
                                                        -- gamma_value = self.gamma(c_iq, len(team_ratings), team_i.mu, team_i.sigma_squared, team_i.team, team_i.rank)
      let delta := delta + ((gamma_value * sigma_squared_to_ciq) / c_iq) * piq * (ofNat 1 - piq)
                                                        -- delta += ((gamma_value * sigma_squared_to_ciq) / c_iq) * piq * (1 - piq)
      (omega, delta))
    (omega, delta)

/-- `BradleyTerryFull._compute`, loop-shaped.  (The Python text also evaluates `c = self._c(…)`,
    `sum_q = self._sum_q(…)`, `a = self._a(…)` and never reads them: dead assignments, left out.) -/
def computeLoopBTFOn (_L : Leaves α) (P : Params α) (teams : List (List (Rating α)))
    (team_ratings : List (TeamAgg α)) : List (List (Rating α)) :=
  let original_teams := teams                           -- original_teams = teams
  team_ratings.zipIdx.foldl                             -- for i, team_i in enumerate(team_ratings):
    (fun result it =>
      let team_i := it.1
      let i := it.2
      let od := loopBTFInner P team_ratings i team_i    -- (omega = 0.0 … end of the `for q` loop)
      let omega := od.1
      let delta := od.2
      let intermediate_result_per_team :=
        loopPlayers P.kappa team_i (original_teams.getD i []) omega delta   -- (the player loop)
      result ++ [intermediate_result_per_team])         -- result.append(intermediate_result_per_team)
    []                                                  -- result = []

/-! ### Bradley–Terry, partial pairing -/

/-- `od_reduce(od, game_q)` of `BradleyTerryPart._compute.i_map` -/
def loopBTPReduce (P : Params α) (n : Nat) (team_i : TeamAgg α) (od : α × α)
    (game_q : List (TeamAgg α)) : α × α :=
  let beta := P.beta                                    -- beta = self.beta
  game_q.foldl                                          -- omega, delta = od ; for team_q in game_q:
    (fun od team_q =>
      let omega := od.1
      let delta := od.2
      let c_iq := sqrt (team_i.sig2 + team_q.sig2 + (ofNat 2 * (beta * beta)))
                                                        -- c_iq = math.sqrt(team_i.sigma_squared + team_q.sigma_squared + (2 * beta**2))
      let p_iq := ofNat 1 / (ofNat 1 + exp ((team_q.mu - team_i.mu) / c_iq))
                                                        -- p_iq = 1 / (1 + math.exp((team_q.mu - team_i.mu) / c_iq))
      let sigma_squared_to_ciq := team_i.sig2 / c_iq    -- sigma_squared_to_ciq = team_i.sigma_squared / c_iq
      let s : α := ofNat 0                              -- s = 0.0
      let s : α :=
        if team_q.rank > team_i.rank then ofNat 1       -- if team_q.rank > team_i.rank: s = 1
        else if team_q.rank = team_i.rank then ofNat 1 / ofNat 2   -- elif team_q.rank == team_i.rank: s = 0.5
        else s
      let omega := omega + sigma_squared_to_ciq * (s - p_iq)   -- omega += sigma_squared_to_ciq * (s - p_iq)
      let gamma_value := gammaVal P.gamma c_iq n team_i.mu team_i.sig2 team_i.players team_i.rank
                                                        -- gamma_value = self.gamma(c_iq, len(team_ratings), team_i.mu, team_i.sigma_squared, team_i.team, team_i.rank)
      let delta := delta + ((gamma_value * sigma_squared_to_ciq) / c_iq) * p_iq * (ofNat 1 - p_iq)
                                                        -- delta += (((gamma_value * sigma_squared_to_ciq) / c_iq) * p_iq * (1 - p_iq))
      (omega, delta))
    od                                                  -- return omega, delta

/-- `BradleyTerryPart._compute`, loop-shaped -/
def computeLoopBTPOn (_L : Leaves α) (P : Params α) (_teams : List (List (Rating α)))
    (team_ratings : List (TeamAgg α)) : List (List (Rating α)) :=
  let adjacent_teams := ladderPairsCode team_ratings    -- adjacent_teams = _ladder_pairs(team_ratings)
  let i_map := fun (team_i : TeamAgg α) (adjacent_i : List (TeamAgg α)) =>   -- def i_map(team_i, adjacent_i):
    let od := loopBTPReduce P team_ratings.length team_i (ofNat 0, ofNat 0) adjacent_i
                                                        -- i_omega, i_delta = od_reduce([0.0, 0.0], adjacent_i)
    let i_omega := od.1
    let i_delta := od.2
    loopPlayers P.kappa team_i team_i.players i_omega i_delta   -- (the player loop; return intermediate_result_per_team)
  (team_ratings.zip adjacent_teams).map (fun i => i_map i.1 i.2)
                                                        -- return list(map(lambda i: i_map(i[0], i[1]), zip(team_ratings, adjacent_teams)))

/-! ### Thurstone–Mosteller, full pairing -/

/-- the inner loop of `ThurstoneMostellerFull._compute` for a fixed `(i, team_i)` -/
def loopTMFInner (L : Leaves α) (P : Params α) (team_ratings : List (TeamAgg α)) (i : Nat)
    (team_i : TeamAgg α) : α × α :=
  let beta := P.beta                                    -- beta = self.beta
  let omega : α := ofNat 0                              -- omega = 0.0
  let delta : α := ofNat 0                              -- delta = 0.0
  team_ratings.zipIdx.foldl                             -- for q, team_q in enumerate(team_ratings):
    (fun od tq =>
      let omega := od.1
      let delta := od.2
      let team_q := tq.1
      let q := tq.2
      if q = i then (omega, delta) else                 -- if q == i: continue
      let c_iq := sqrt (team_i.sig2 + team_q.sig2 + (ofNat 2 * (beta * beta)))
                                                        -- c_iq = math.sqrt(team_i.sigma_squared + team_q.sigma_squared + (2 * beta**2))
      let delta_mu := (team_i.mu - team_q.mu) / c_iq    -- delta_mu = (team_i.mu - team_q.mu) / c_iq
      let sigma_squared_to_ciq := team_i.sig2 / c_iq    -- sigma_squared_to_ciq = team_i.sigma_squared / c_iq
      let gamma_value := gammaVal P.gamma c_iq team_ratings.length team_i.mu team_i.sig2 team_i.players team_i.rank
                                                        -- gamma_value = self.gamma(c_iq, len(team_ratings), team_i.mu, team_i.sigma_squared, team_i.team, team_i.rank)
      if team_q.rank > team_i.rank then                 -- if team_q.rank > team_i.rank:
        let omega := omega + sigma_squared_to_ciq * L.v delta_mu (P.kappa / c_iq)
                                                        -- omega += sigma_squared_to_ciq * v(delta_mu, self.kappa / c_iq)
        let delta := delta + gamma_value * sigma_squared_to_ciq / c_iq * L.w delta_mu (P.kappa / c_iq)
                                                        -- delta += (gamma_value * sigma_squared_to_ciq / c_iq * w(delta_mu, self.kappa / c_iq))
        (omega, delta)
      else if team_q.rank < team_i.rank then            -- elif team_q.rank < team_i.rank:
        let omega := omega + -sigma_squared_to_ciq * L.v (-delta_mu) (P.kappa / c_iq)
                                                        -- omega += -sigma_squared_to_ciq * v(-delta_mu, self.kappa / c_iq)
        let delta := delta + gamma_value * sigma_squared_to_ciq / c_iq * L.w (-delta_mu) (P.kappa / c_iq)
                                                        -- delta += (gamma_value * sigma_squared_to_ciq / c_iq * w(-delta_mu, self.kappa / c_iq))
        (omega, delta)
      else                                              -- else:
        let omega := omega + sigma_squared_to_ciq * L.vt delta_mu (P.kappa / c_iq)
                                                        -- omega += sigma_squared_to_ciq * vt(delta_mu, self.kappa / c_iq)
        let delta := delta + gamma_value * sigma_squared_to_ciq / c_iq * L.wt delta_mu (P.kappa / c_iq)
                                                        -- delta += (gamma_value * sigma_squared_to_ciq / c_iq * wt(delta_mu, self.kappa / c_iq))
        (omega, delta))
    (omega, delta)

/-- `ThurstoneMostellerFull._compute`, loop-shaped.  (Dead assignments `c`, `sum_q`, `a` left out,
    as for Bradley–Terry full.) -/
def computeLoopTMFOn (L : Leaves α) (P : Params α) (teams : List (List (Rating α)))
    (team_ratings : List (TeamAgg α)) : List (List (Rating α)) :=
  let original_teams := teams                           -- original_teams = teams
  team_ratings.zipIdx.foldl                             -- for i, team_i in enumerate(team_ratings):
    (fun result it =>
      let team_i := it.1
      let i := it.2
      let od := loopTMFInner L P team_ratings i team_i  -- (omega = 0.0 … end of the `for q` loop)
      let omega := od.1
      let delta := od.2
      let intermediate_result_per_team :=
        loopPlayers P.kappa team_i (original_teams.getD i []) omega delta   -- (the player loop)
      result ++ [intermediate_result_per_team])         -- result.append(intermediate_result_per_team)
    []                                                  -- result = []

/-! ### Thurstone–Mosteller, partial pairing -/

/-- `od_reduce(od, game_q)` of `ThurstoneMostellerPart._compute.i_map` -/
def loopTMPReduce (L : Leaves α) (P : Params α) (n : Nat) (team_i : TeamAgg α) (od : α × α)
    (game_q : List (TeamAgg α)) : α × α :=
  let beta := P.beta                                    -- beta = self.beta
  game_q.foldl                                          -- omega, delta = od ; for team_q in game_q:
    (fun od team_q =>
      let omega := od.1
      let delta := od.2
      let c_iq := ofNat 2 * sqrt (team_i.sig2 + team_q.sig2 + (ofNat 2 * (beta * beta)))
                                                        -- c_iq = 2 * math.sqrt(team_i.sigma_squared + team_q.sigma_squared + (2 * beta**2))
      let delta_mu := (team_i.mu - team_q.mu) / c_iq    -- delta_mu = (team_i.mu - team_q.mu) / c_iq
      let sigma_squared_to_c_iq := team_i.sig2 / c_iq   -- sigma_squared_to_c_iq = team_i.sigma_squared / c_iq
      let gamma_value := gammaVal P.gamma c_iq n team_i.mu team_i.sig2 team_i.players team_i.rank
                                                        -- gamma_value = self.gamma(c_iq, len(team_ratings), team_i.mu, team_i.sigma_squared, team_i.team, team_i.rank)
      if team_q.rank > team_i.rank then                 -- if team_q.rank > team_i.rank:
        let omega := omega + sigma_squared_to_c_iq * L.v delta_mu (P.kappa / c_iq)
                                                        -- omega += sigma_squared_to_c_iq * v(delta_mu, self.kappa / c_iq)
        let delta := delta + (gamma_value * sigma_squared_to_c_iq) / c_iq * L.w delta_mu (P.kappa / c_iq)
                                                        -- delta += ((gamma_value * sigma_squared_to_c_iq) / c_iq * w(delta_mu, self.kappa / c_iq))
        (omega, delta)
      else if team_q.rank < team_i.rank then            -- elif team_q.rank < team_i.rank:
        let omega := omega + -sigma_squared_to_c_iq * L.v (-delta_mu) (P.kappa / c_iq)
                                                        -- omega += -sigma_squared_to_c_iq * v(-delta_mu, self.kappa / c_iq)
        let delta := delta + (gamma_value * sigma_squared_to_c_iq) / c_iq * L.w (-delta_mu) (P.kappa / c_iq)
                                                        -- delta += ((gamma_value * sigma_squared_to_c_iq) / c_iq * w(-delta_mu, self.kappa / c_iq))
        (omega, delta)
      else                                              -- else:
        let omega := omega + sigma_squared_to_c_iq * L.vt delta_mu (P.kappa / c_iq)
                                                        -- omega += sigma_squared_to_c_iq * vt(delta_mu, self.kappa / c_iq)
        let delta := delta + (gamma_value * sigma_squared_to_c_iq) / c_iq * L.wt delta_mu (P.kappa / c_iq)
                                                        -- delta += ((gamma_value * sigma_squared_to_c_iq) / c_iq * wt(delta_mu, self.kappa / c_iq))
        (omega, delta))
    od                                                  -- return omega, delta

/-- `ThurstoneMostellerPart._compute`, loop-shaped -/
def computeLoopTMPOn (L : Leaves α) (P : Params α) (_teams : List (List (Rating α)))
    (team_ratings : List (TeamAgg α)) : List (List (Rating α)) :=
  let adjacent_teams := ladderPairsCode team_ratings    -- adjacent_teams = _ladder_pairs(team_ratings)
  let i_map := fun (team_i : TeamAgg α) (adjacent_i : List (TeamAgg α)) =>   -- def i_map(team_i, adjacent_i):
    let od := loopTMPReduce L P team_ratings.length team_i (ofNat 0, ofNat 0) adjacent_i
                                                        -- i_omega, i_delta = od_reduce([0.0, 0.0], adjacent_i)
    let i_omega := od.1
    let i_delta := od.2
    loopPlayers P.kappa team_i team_i.players i_omega i_delta   -- (the player loop; return intermediate_result_per_team)
  (team_ratings.zip adjacent_teams).map (fun i => i_map i.1 i.2)
                                                        -- return list(map(lambda i: i_map(i[0], i[1]), zip(team_ratings, adjacent_teams)))

/-! ### dispatch -/

/-- the body of `model._compute` after its first assignment, for the model of kind `K` -/
def computeLoopOn (K : Kind) (L : Leaves α) (P : Params α) (teams : List (List (Rating α)))
    (team_ratings : List (TeamAgg α)) : List (List (Rating α)) :=
  match K with
  | .PL => computeLoopPLOn L P teams team_ratings
  | .BTF => computeLoopBTFOn L P teams team_ratings
  | .BTP => computeLoopBTPOn L P teams team_ratings
  | .TMF => computeLoopTMFOn L P teams team_ratings
  | .TMP => computeLoopTMPOn L P teams team_ratings

/-- `PlackettLuce._compute(teams, ranks)`, loop-shaped (the dense ranks are already computed) -/
def computeLoopPL (L : Leaves α) (P : Params α) (teams : List (List (Rating α))) (dense : List Nat) :
    List (List (Rating α)) :=
  let team_ratings := teamAggs teams dense              -- team_ratings = self._calculate_team_ratings(teams, ranks=ranks)
  computeLoopPLOn L P teams team_ratings               -- (the rest of the body)

/-- `BradleyTerryFull._compute(teams, ranks)`, loop-shaped (the dense ranks are already computed) -/
def computeLoopBTF (L : Leaves α) (P : Params α) (teams : List (List (Rating α))) (dense : List Nat) :
    List (List (Rating α)) :=
  let team_ratings := teamAggs teams dense              -- team_ratings = self._calculate_team_ratings(teams, ranks=ranks)
  computeLoopBTFOn L P teams team_ratings               -- (the rest of the body)

/-- `BradleyTerryPart._compute(teams, ranks)`, loop-shaped (the dense ranks are already computed) -/
def computeLoopBTP (L : Leaves α) (P : Params α) (teams : List (List (Rating α))) (dense : List Nat) :
    List (List (Rating α)) :=
  let team_ratings := teamAggs teams dense              -- team_ratings = self._calculate_team_ratings(teams, ranks=ranks)
  computeLoopBTPOn L P teams team_ratings               -- (the rest of the body)

/-- `ThurstoneMostellerFull._compute(teams, ranks)`, loop-shaped (the dense ranks are already computed) -/
def computeLoopTMF (L : Leaves α) (P : Params α) (teams : List (List (Rating α))) (dense : List Nat) :
    List (List (Rating α)) :=
  let team_ratings := teamAggs teams dense              -- team_ratings = self._calculate_team_ratings(teams, ranks=ranks)
  computeLoopTMFOn L P teams team_ratings               -- (the rest of the body)

/-- `ThurstoneMostellerPart._compute(teams, ranks)`, loop-shaped (the dense ranks are already computed) -/
def computeLoopTMP (L : Leaves α) (P : Params α) (teams : List (List (Rating α))) (dense : List Nat) :
    List (List (Rating α)) :=
  let team_ratings := teamAggs teams dense              -- team_ratings = self._calculate_team_ratings(teams, ranks=ranks)
  computeLoopTMPOn L P teams team_ratings               -- (the rest of the body)

/-- `model._compute(teams, ranks)` for the model of kind `K`, loop-shaped -/
def computeLoop (K : Kind) (L : Leaves α) (P : Params α) (teams : List (List (Rating α)))
    (dense : List Nat) : List (List (Rating α)) :=
  match K with
  | .PL => computeLoopPL L P teams dense
  | .BTF => computeLoopBTF L P teams dense
  | .BTP => computeLoopBTP L P teams dense
  | .TMF => computeLoopTMF L P teams dense
  | .TMP => computeLoopTMP L P teams dense

/-- `rateCore` (Rate.lean) with `compute` replaced by `computeLoop` -/
def rateCoreLoop {ρ : Type} (K : Kind) (L : Leaves α) (P : Params α) (le : ρ → ρ → Bool)
    (teams : List (List (Rating α))) (ranks : Option (List ρ)) (o : CallOpts α) :
    List (List (Rating α)) :=
  let infl := inflate (resolveTau P o) teams
  let res := match ranks with
    | none => computeLoop K L P infl (List.range infl.length)
    | some r =>
      let u := unwind le r infl
      let dense := denseRanks (fun a b => !le b a) (sortedKeys le r)
      (unwind leNat u.2 (computeLoop K L P u.1 dense)).1
  if resolveLimit P o then clampTeams teams res else res

/-! ## The loops of `rate` and of the helpers `_compute` calls

  `_calculate_team_ratings`, `_calculate_rankings` (the same text in all five files), the tau loop, the
  score negation, the copy into `processed_result`, the `limit_sigma` loop. -/

/-- `functools.reduce(lambda x, y: x + y, xs)` — NO initial value: the fold starts from the first
    element.  (On an empty sequence Python raises `TypeError`; validation rejects empty teams, `ofNat 0`
    stands for that unreachable case.) -/
def reduceAdd : List α → α
  | [] => ofNat 0
  | x :: xs => xs.foldl (fun x y => x + y) x

/-- `_calculate_team_ratings(game, ranks)` after its first statement (`rank = self._calculate_rankings(…)`) -/
def teamRatingsLoop (game : List (List (Rating α))) (rank : List Nat) : List (TeamAgg α) :=
  game.zipIdx.foldl                                     -- for index, team in enumerate(game):
    (fun result ti =>
      let team := ti.1
      let index := ti.2
      let mu_summed := reduceAdd (team.map (fun p => p.mu))
                                                        -- mu_summed = reduce(lambda x, y: x + y, map(lambda p: p.mu, team))
      let sigma_squared := reduceAdd (team.map (fun p => p.sigma * p.sigma))
                                                        -- sigma_squared = reduce(lambda x, y: x + y, map(lambda p: p.sigma**2, team))
      result ++ [{ mu := mu_summed, sig2 := sigma_squared, players := team, rank := rank.getD index 0 }])
                                                        -- result.append(…TeamRating(mu_summed, sigma_squared, team, rank[index]))
    []                                                  -- result = []

/-- Python `d[k] = v` on a dict represented by its items in insertion order -/
def dictSet {β : Type} : List (Nat × β) → Nat → β → List (Nat × β)
  | [], k, v => [(k, v)]
  | (k', v') :: rest, k, v =>
    if k' = k then (k', v) :: rest else (k', v') :: dictSet rest k v

/-- the second half of `_calculate_rankings`: from `team_scores` to `list(rank_output.values())`.
    The reads `team_scores[index - 1]`, `team_scores[index]` are `[·]?`; both are in range whenever the
    guard `index > 0` holds. -/
def rankOutputLoop {ρ : Type} (lt : ρ → ρ → Bool) (team_scores : List ρ) : List Nat :=
  let rank_output : List (Nat × Nat) := []              -- rank_output = {}
  let s : Nat := 0                                      -- s = 0
  let st := team_scores.zipIdx.foldl                    -- for index, value in enumerate(team_scores):
    (fun (st : Nat × List (Nat × Nat)) vi =>
      let s := st.1
      let rank_output := st.2
      let index := vi.2
      let s :=
        if index > 0 then                               -- if index > 0:
          match team_scores[index - 1]?, team_scores[index]? with
          | some a, some b => if lt a b then index else s   -- if team_scores[index - 1] < team_scores[index]: s = index
          | _, _ => s
        else s
      (s, dictSet rank_output index s))                 -- rank_output[index] = s
    (s, rank_output)
  st.2.map (·.2)                                        -- return list(rank_output.values())

/-- `_calculate_rankings(game, ranks)` with `ranks` truthy -/
def rankingsLoopRanks {ρ γ : Type} (lt : ρ → ρ → Bool) (game : List γ) (ranks : List ρ) : List Nat :=
  let team_scores : List ρ := game.zipIdx.foldl         -- team_scores = [] ; for index, _ in enumerate(game):
    (fun team_scores gi =>
      let index := gi.2
      team_scores ++ (ranks[index]?).toList)            -- team_scores.append(ranks[index])
    []
  rankOutputLoop lt team_scores

/-- `_calculate_rankings(game)` (no ranks): the scores are the positions, compared as `int`s -/
def rankingsLoopNone {γ : Type} (game : List γ) : List Nat :=
  let team_scores : List Nat := game.zipIdx.map (fun gi => gi.2)   -- team_scores = [i for i, _ in enumerate(game)]
  rankOutputLoop (fun a b => decide (a < b)) team_scores

/-- `_calculate_team_ratings(game, ranks)`, literally: `ranks = none` is "ranks falsy" -/
def teamRatingsCode {ρ : Type} (lt : ρ → ρ → Bool) (game : List (List (Rating α)))
    (ranks : Option (List ρ)) : List (TeamAgg α) :=
  let rank := match ranks with
    | some ranks => rankingsLoopRanks lt game ranks     -- if ranks: rank = self._calculate_rankings(game, ranks)
    | none => rankingsLoopNone game                     -- else: rank = self._calculate_rankings(game)
  teamRatingsLoop game rank

/-- `model._compute(teams, ranks)`, everything literal: `_calculate_team_ratings`,
    `_calculate_rankings`, the loops of the body, and for Plackett–Luce `_c` and `_sum_q` -/
def computeCode {ρ : Type} (K : Kind) (L : Leaves α) (P : Params α) (lt : ρ → ρ → Bool)
    (teams : List (List (Rating α))) (ranks : Option (List ρ)) : List (List (Rating α)) :=
  let team_ratings := teamRatingsCode lt teams ranks    -- team_ratings = self._calculate_team_ratings(teams, ranks=ranks)
  match K with
  | .PL => computeLoopPLCodeOn L P teams team_ratings
  | K => computeLoopOn K L P teams team_ratings

/-- the tau loop of `rate`.  The Python loop writes `teams[team_index][player_index].sigma` in place
    while it enumerates `teams`; slot `(i, j)` is written exactly once, at iteration `(i, j)`, from the
    value the loop variable `player` had before. -/
def inflateLoop (tau : α) (teams : List (List (Rating α))) : List (List (Rating α)) :=
  let tau_squared := tau * tau                          -- tau_squared = tau * tau
  teams.zipIdx.foldl                                    -- for team_index, team in enumerate(teams):
    (fun teams tt =>
      let team := tt.1
      let team_index := tt.2
      team.zipIdx.foldl                                 -- for player_index, player in enumerate(team):
        (fun teams pp =>
          let player := pp.1
          let player_index := pp.2
          teams.modify team_index (fun row => row.modify player_index (fun obj =>
            { obj with sigma := sqrt (player.sigma * player.sigma + tau_squared) })))
                                                        -- teams[team_index][player_index].sigma = math.sqrt(player.sigma * player.sigma + tau_squared)
        teams)
    teams

/-- `ranks = []; for score in scores: ranks.append(_unary_minus(score))` -/
def negateLoop {ρ : Type} (neg : ρ → ρ) (scores : List ρ) : List ρ :=
  scores.foldl (fun ranks score => ranks ++ [neg score]) []

/-- `for item in result: team = []; for player in item: team.append(player); processed_result.append(team)` -/
def copyLoop {β : Type} (result : List (List β)) : List (List β) :=
  result.foldl                                          -- for item in result:
    (fun processed_result item =>
      let team := item.foldl (fun team player => team ++ [player]) []   -- team = [] ; for player in item: team.append(player)
      processed_result ++ [team])                       -- processed_result.append(team)
    []                                                  -- processed_result = []

/-- the `limit_sigma` loop of `rate` -/
def clampLoop (original_teams processed_result : List (List (Rating α))) : List (List (Rating α)) :=
  processed_result.zipIdx.foldl                         -- for team_index, team in enumerate(processed_result):
    (fun final_result tt =>
      let team := tt.1
      let team_index := tt.2
      let final_team := team.zipIdx.foldl               -- final_team = [] ; for player_index, player in enumerate(team):
        (fun final_team pp =>
          let player := pp.1
          let player_index := pp.2
          let player_original := (original_teams.getD team_index []).getD player_index Rating.dflt
                                                        -- player_original = original_teams[team_index][player_index]
          let player :=
            if player.sigma ≤ player_original.sigma then    -- if player.sigma <= player_original.sigma:
              { player with sigma := player.sigma }         -- player.sigma = player.sigma
            else                                            -- else:
              { player with sigma := player_original.sigma }   -- player.sigma = player_original.sigma
          final_team ++ [player])                       -- final_team.append(player)
        []
      final_result ++ [final_team])                     -- final_result.append(final_team)
    []                                                  -- final_result = []

/-- `rate(teams, ranks, scores, tau, limit_sigma)` after validation, every loop literal.  The three
    library calls that are not loops of this function stay calls: `_unwind` (`unwind`), `sorted`
    (`sortedKeys`), `copy.deepcopy` (values are immutable here).  `lt a b` is Python's `a < b` on rank
    values; in `rateCore` it is `!le b a`. -/
def rateLoop {ρ : Type} (K : Kind) (L : Leaves α) (P : Params α) (le : ρ → ρ → Bool) (neg : ρ → ρ)
    (teams : List (List (Rating α))) (oc : Outcome ρ) (o : CallOpts α) : List (List (Rating α)) :=
  let lt : ρ → ρ → Bool := fun a b => !le b a
  let original_teams := teams                           -- original_teams = copy.deepcopy(teams)
  let tau := resolveTau P o                             -- tau = tau if tau is not None else self.tau
  let teams := inflateLoop tau teams                    -- tau_squared = tau * tau ; for … (the tau loop)
  let ranks : Option (List ρ) := match oc with
    | .omitted => none
    | .ranks r => some r
    | .scores s => some (negateLoop neg s)              -- if not ranks and scores: ranks = [] ; for score in scores: …
  let processed_result := match ranks with
    | some ranks =>                                     -- if ranks:
      let rank_teams_unwound := unwind le ranks teams   -- rank_teams_unwound = _unwind(ranks, teams)
      let ordered_teams := rank_teams_unwound.1         -- ordered_teams = rank_teams_unwound[0]
      let tenet := rank_teams_unwound.2                 -- tenet = rank_teams_unwound[1]
      let teams := ordered_teams                        -- teams = ordered_teams
      let ranks := sortedKeys le ranks                  -- ranks = sorted(ranks)
      let result := computeCode K L P lt teams (some ranks)   -- if ranks and tenet: result = self._compute(teams, ranks)
      let unwound_result := (unwind leNat tenet result).1     -- unwound_result = _unwind(tenet, result)[0]
      copyLoop unwound_result                           -- for item in unwound_result: …
    | none =>                                           -- else:
      let result := computeCode K L P lt teams none     -- result = self._compute(teams)
      copyLoop result                                   -- for item in result: …
  let final_result := processed_result                  -- final_result = processed_result
  let limit_sigma := resolveLimit P o                   -- if limit_sigma is None: limit_sigma = self.limit_sigma
  if limit_sigma then                                   -- if limit_sigma:
    clampLoop original_teams processed_result           -- final_result = [] ; for … (the limit_sigma loop)
  else final_result                                     -- return final_result

end OS
