import OSModel.Compute
/-
  common.py :: _ladder_pairs, literally:
      left  = [None] + teams[:-1]
      right = teams[1:] + [None]
      for l, r in zip_longest(left, right):  [l, r] / [l] / [r] / []   (by truthiness; team ratings are truthy)
  `OSProofs/Ladder.lean` proves its agreement with `neighboursOf` (the closed form `compute` uses for
  partial pairing).
-/
namespace OS

def ladderPairsCode {β : Type} (teams : List β) : List (List β) :=
  let left : List (Option β) := none :: teams.dropLast.map some
  let right : List (Option β) := teams.tail.map some ++ [none]
  (left.zip right).map (fun lr => lr.1.toList ++ lr.2.toList)

end OS
