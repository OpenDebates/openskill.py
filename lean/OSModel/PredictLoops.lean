import OSModel.Predict
import OSModel.Sort
import OSModel.CodeShaped
import OSModel.Loops
/-
  Statement-by-statement transliterations of
    predict_win / predict_draw / predict_rank   (the same text in all five files of
                                                 /repo/openskill/models/weng_lin/*.py; checked by
                                                 comparing the ASTs of the method bodies)
    _unwind                                     (/repo/openskill/models/weng_lin/common.py)
    _matrix_transpose                           (/repo/openskill/models/common.py)
  with the Python line as a comment next to each Lean line.  `OSModel/Predict.lean` and
  `OSModel/Sort.lean` replace the loops by closed forms; `OSProofs/Props/PredictLoops.lean` proves the
  two equal.

  Conventions (those of `OSModel/Loops.lean`)
  * `xs.append(x)` is `xs ++ [x]`;  `x**2` is `x * x`;  the literals `0 1 2` are `ofNat`; an `int` that
    meets a `float` in arithmetic is converted by `ofNat`; `int / int` (true division) is the quotient of
    the two converted values.
  * A list read `l[k]` is `l.getD k default` where a default exists, `l[k]?` otherwise; every index that
    occurs is in range (proved, not assumed: the equality theorems go through the reads).
  * The method `_calculate_team_ratings` is `teamRatingsCode` of `Loops.lean` (literal: it calls the
    literal `_calculate_rankings`, uses `reduce` WITHOUT an initial value, reads `rank[index]`).
    The predictions call it WITHOUT ranks.
  * `sum(xs)` of floats is `sumL` (left fold that starts from the int `0`).  CPython >= 3.12 adds floats
    in `sum` with Neumaier compensation, so there the float result can differ from the plain left fold
    in the last place; CPython <= 3.11 is the plain left fold.
  * `phi_major`, `phi_major_inverse`, `math.sqrt` are the `Scalar` operations `Phi`, `PhiInv`, `sqrt`.

  Nothing else in `OSModel` uses this file.
-/
namespace OS
open Scalar

/-! ### `itertools.permutations(xs, 2)` -/

/-- `itertools.permutations(iterable, 2)`, as the itertools documentation defines it:
    ```
    pool = tuple(iterable)
    n = len(pool)
    for indices in product(range(n), repeat=2):     # i outer, j inner, both ascending
        if len(set(indices)) == 2:                  # i != j
            yield tuple(pool[i] for i in indices)
    ``` -/
def permutations2 {β : Type} (iterable : List β) : List (β × β) :=
  let pool := iterable                                  -- pool = tuple(iterable)
  let n := pool.length                                  -- n = len(pool)
  (List.range n).foldl                                  -- for i in range(n):
    (fun out i =>
      (List.range n).foldl                              --   for j in range(n):
        (fun out j =>
          if i != j then                                --     if i != j:
            match pool[i]?, pool[j]? with
            | some a, some b => out ++ [(a, b)]         --       yield (pool[i], pool[j])
            | _, _ => out
          else out)
        out)
    []

/-! ### `itertools.zip_longest(*[iter(xs)] * k)` -/

/-- one output tuple of `zip_longest(it, it, …, it)` (`k` references to ONE iterator `it`): position
    by position, left to right, `next(it)` is called; a position whose call raises `StopIteration`
    is filled with `None`.  The iterator is the list of the items it has not yielded yet.
    Returns (the tuple, the iterator afterwards). -/
def zlRound {β : Type} : Nat → List β → List (Option β) × List β
  | 0, it => ([], it)
  | k + 1, [] => let r := zlRound k []; (none :: r.1, r.2)          -- StopIteration: fillvalue
  | k + 1, x :: it => let r := zlRound k it; (some x :: r.1, r.2)   -- next(it) = x

theorem zlRound_snd {β : Type} (k : Nat) (it : List β) : (zlRound k it).2 = it.drop k := by
  induction k generalizing it with
  | zero => rfl
  | succ k ih =>
    cases it with
    | nil => simp [zlRound, ih]
    | cons x xs => simp [zlRound, ih]

/-- `list(itertools.zip_longest(*[iter(xs)] * k))`.  `zip_longest` stops as soon as, within one round,
    the last of its still-active arguments raises `StopIteration`; all `k` arguments being the same
    iterator, that is: a round that starts on the exhausted iterator emits nothing and ends the
    iteration, and a round that obtains at least one item emits its tuple (padded with `None`), after
    which the iterator is exhausted or not.  With `k = 0` there is no argument and nothing is emitted. -/
def zipLongestIter {β : Type} (k : Nat) : List β → List (List (Option β))
  | [] => []
  | x :: xs =>
    if k = 0 then [] else
      (zlRound k (x :: xs)).1 :: zipLongestIter k ((zlRound k (x :: xs)).2)
termination_by l => l.length
decreasing_by rw [zlRound_snd]; simp; omega

/-- `sum(team_prob)` for a tuple produced by `zip_longest`: a `None` in the tuple would make Python
    raise `TypeError`; no tuple contains one when the number of items is a multiple of `k`
    (`zipLongestIter_eq_chunk`), which `n * (n - 1)` is of `n - 1`.  The `None`s are skipped here. -/
def sumTuple {α : Type} [Scalar α] (team_prob : List (Option α)) : α :=
  sumL (team_prob.filterMap id)

/-! ### the three predictions -/

variable {α : Type} [Scalar α]

/-- the value of an out-of-range list read (never reached) -/
def TeamAgg.dflt : TeamAgg α := { mu := ofNat 0, sig2 := ofNat 0, rank := 0, players := [] }

/-- `self._calculate_team_ratings(game)` — called WITHOUT ranks: `ranks=None` is falsy, so
    `_calculate_rankings(game)` is called without ranks too and returns `[0, 1, …, len(game)-1]`
    (`lp_rankingsLoopNone_eq`); the team at position `k` gets rank `k`. -/
def calcTeamRatingsNoRanks (game : List (List (Rating α))) : List (TeamAgg α) :=
  teamRatingsCode (fun (a b : Nat) => decide (a < b)) game none

/-- `predict_win(teams)` after `self._check_teams(teams)`, literally -/
def predictWinLoop (beta : α) (teams : List (List (Rating α))) : List α :=
  let n := teams.length                                 -- n = len(teams)
  let denominator : α := ofNat (n * (n - 1)) / ofNat 2  -- denominator = (n * (n - 1)) / 2
  if n = 2 then                                         -- if n == 2:
    let total_player_count := (teams.getD 0 []).length + (teams.getD 1 []).length
                                                        --   total_player_count = len(teams[0]) + len(teams[1])
    let teams_ratings := calcTeamRatingsNoRanks teams   --   teams_ratings = self._calculate_team_ratings(teams)
    let a := teams_ratings.getD 0 TeamAgg.dflt          --   a = teams_ratings[0]
    let b := teams_ratings.getD 1 TeamAgg.dflt          --   b = teams_ratings[1]
    let result := Phi ((a.mu - b.mu)                    --   result = phi_major((a.mu - b.mu)
      / sqrt (ofNat total_player_count * (beta * beta)  --     / math.sqrt(total_player_count * self.beta**2
              + a.sig2 + b.sig2))                       --                 + a.sigma_squared + b.sigma_squared))
    [result, ofNat 1 - result]                          --   return [result, 1 - result]
  else
  let pairwise_probabilities : List α :=                -- pairwise_probabilities = []
    (permutations2 teams).foldl                         -- for pair_a, pair_b in itertools.permutations(teams, 2):
      (fun pairwise_probabilities ab =>
        let pair_a := ab.1
        let pair_b := ab.2
        let pair_a_subset := calcTeamRatingsNoRanks [pair_a]    -- pair_a_subset = self._calculate_team_ratings([pair_a])
        let pair_b_subset := calcTeamRatingsNoRanks [pair_b]    -- pair_b_subset = self._calculate_team_ratings([pair_b])
        let mu_a := (pair_a_subset.getD 0 TeamAgg.dflt).mu      -- mu_a = pair_a_subset[0].mu
        let sigma_a := (pair_a_subset.getD 0 TeamAgg.dflt).sig2 -- sigma_a = pair_a_subset[0].sigma_squared
        let mu_b := (pair_b_subset.getD 0 TeamAgg.dflt).mu      -- mu_b = pair_b_subset[0].mu
        let sigma_b := (pair_b_subset.getD 0 TeamAgg.dflt).sig2 -- sigma_b = pair_b_subset[0].sigma_squared
        pairwise_probabilities ++                               -- pairwise_probabilities.append(
          [Phi ((mu_a - mu_b) / sqrt (ofNat n * (beta * beta) + sigma_a + sigma_b))])
                                                        --   phi_major((mu_a - mu_b) / math.sqrt(n * self.beta**2 + sigma_a + sigma_b)))
      []
  (zipLongestIter (n - 1) pairwise_probabilities).map   -- return [ … for team_prob in itertools.zip_longest(*[iter(pairwise_probabilities)] * (n - 1))]
    (fun team_prob => sumTuple team_prob / denominator) --   (sum(team_prob) / denominator)

/-- `predict_draw(teams)` after `self._check_teams(teams)`, literally -/
def predictDrawLoop (beta : α) (teams : List (List (Rating α))) : α :=
  let n := teams.length                                 -- n = len(teams)
  let total_player_count : Nat := (teams.map (fun t => t.length)).foldl (· + ·) 0
                                                        -- total_player_count = sum([len(_) for _ in teams])
  let draw_probability : α := ofNat 1 / ofNat total_player_count   -- draw_probability = 1 / total_player_count
  let draw_margin :=                                    -- draw_margin = (
    sqrt (ofNat total_player_count)                     --   math.sqrt(total_player_count)
      * beta                                            --   * self.beta
      * PhiInv ((ofNat 1 + draw_probability) / ofNat 2) --   * phi_major_inverse((1 + draw_probability) / 2))
  let pairwise_probabilities : List α :=                -- pairwise_probabilities = []
    (permutations2 teams).foldl                         -- for pair_a, pair_b in itertools.permutations(teams, 2):
      (fun pairwise_probabilities ab =>
        let pair_a := ab.1
        let pair_b := ab.2
        let pair_a_subset := calcTeamRatingsNoRanks [pair_a]    -- pair_a_subset = self._calculate_team_ratings([pair_a])
        let pair_b_subset := calcTeamRatingsNoRanks [pair_b]    -- pair_b_subset = self._calculate_team_ratings([pair_b])
        let mu_a := (pair_a_subset.getD 0 TeamAgg.dflt).mu      -- mu_a = pair_a_subset[0].mu
        let sigma_a := (pair_a_subset.getD 0 TeamAgg.dflt).sig2 -- sigma_a = pair_a_subset[0].sigma_squared
        let mu_b := (pair_b_subset.getD 0 TeamAgg.dflt).mu      -- mu_b = pair_b_subset[0].mu
        let sigma_b := (pair_b_subset.getD 0 TeamAgg.dflt).sig2 -- sigma_b = pair_b_subset[0].sigma_squared
        pairwise_probabilities ++                               -- pairwise_probabilities.append(
          [Phi ((draw_margin - mu_a + mu_b)                     --   phi_major((draw_margin - mu_a + mu_b)
                / sqrt (ofNat n * (beta * beta) + sigma_a + sigma_b))   --     / math.sqrt(n * self.beta**2 + sigma_a + sigma_b))
           - Phi ((mu_a - mu_b - draw_margin)                   --   - phi_major((mu_a - mu_b - draw_margin)
                / sqrt (ofNat n * (beta * beta) + sigma_a + sigma_b))]) --     / math.sqrt(n * self.beta**2 + sigma_a + sigma_b)))
      []
  let denominator : Nat := 1                            -- denominator = 1
  let denominator : Nat :=
    if n > 2 then n * (n - 1)                           -- if n > 2: denominator = n * (n - 1)
    else denominator
  sabs (sumL pairwise_probabilities) / ofNat denominator   -- return abs(sum(pairwise_probabilities)) / denominator

/-- `max(ranks)` for a list of `int`s: the first item, replaced by every later item that is strictly
    greater.  (`max([])` raises `ValueError`; `0` stands for that case — no team at all — which
    validation rejects.) -/
def pyMaxNat : List Nat → Nat
  | [] => 0
  | x :: xs => xs.foldl (fun maxitem item => if item > maxitem then item else maxitem) x

/-- `predict_rank(teams)` after `self._check_teams(teams)`, literally.  `_rank_data` is the literal
    `rankDataCode` of `CodeShaped.lean`.  The Python `int`s `_ - max_ordinal` can be negative: they are
    `Int`s here, `abs` is `Int.natAbs`. -/
def predictRankLoop (beta : α) (teams : List (List (Rating α))) : List (Nat × α) :=
  let n := teams.length                                 -- n = len(teams)
  let total_player_count : Nat := (teams.map (fun t => t.length)).foldl (· + ·) 0
                                                        -- total_player_count = sum([len(_) for _ in teams])
  let denom : α := ofNat (n * (n - 1)) / ofNat 2        -- denom = (n * (n - 1)) / 2
  let draw_probability : α := ofNat 1 / ofNat total_player_count   -- draw_probability = 1 / total_player_count
  let draw_margin :=                                    -- draw_margin = (
    sqrt (ofNat total_player_count)                     --   math.sqrt(total_player_count)
      * beta                                            --   * self.beta
      * PhiInv ((ofNat 1 + draw_probability) / ofNat 2) --   * phi_major_inverse((1 + draw_probability) / 2))
  let pairwise_probabilities : List α :=                -- pairwise_probabilities = []
    (permutations2 teams).foldl                         -- for pair_a, pair_b in itertools.permutations(teams, 2):
      (fun pairwise_probabilities ab =>
        let pair_a := ab.1
        let pair_b := ab.2
        let pair_a_subset := calcTeamRatingsNoRanks [pair_a]    -- pair_a_subset = self._calculate_team_ratings([pair_a])
        let pair_b_subset := calcTeamRatingsNoRanks [pair_b]    -- pair_b_subset = self._calculate_team_ratings([pair_b])
        let mu_a := (pair_a_subset.getD 0 TeamAgg.dflt).mu      -- mu_a = pair_a_subset[0].mu
        let sigma_a := (pair_a_subset.getD 0 TeamAgg.dflt).sig2 -- sigma_a = pair_a_subset[0].sigma_squared
        let mu_b := (pair_b_subset.getD 0 TeamAgg.dflt).mu      -- mu_b = pair_b_subset[0].mu
        let sigma_b := (pair_b_subset.getD 0 TeamAgg.dflt).sig2 -- sigma_b = pair_b_subset[0].sigma_squared
        pairwise_probabilities ++                               -- pairwise_probabilities.append(
          [Phi ((mu_a - mu_b - draw_margin)                     --   phi_major((mu_a - mu_b - draw_margin)
                / sqrt (ofNat n * (beta * beta) + sigma_a + sigma_b))]) --     / math.sqrt(n * self.beta**2 + sigma_a + sigma_b)))
      []
  let win_probability : List α :=                       -- win_probability = [
    (zipLongestIter (n - 1) pairwise_probabilities).map --   … for team_prob in itertools.zip_longest(*[iter(pairwise_probabilities)] * (n - 1))]
      (fun team_prob => sumTuple team_prob / denom)     --   (sum(team_prob) / denom)
  let ranked_probability := win_probability.map (fun x => sabs x)   -- ranked_probability = [abs(_) for _ in win_probability]
  let ranks : List Nat := rankDataCode ranked_probability           -- ranks = list(_rank_data(ranked_probability))
  let max_ordinal : Nat := pyMaxNat ranks                           -- max_ordinal = max(ranks)
  let ranks : List Nat :=                                           -- ranks = [abs(_ - max_ordinal) + 1 for _ in ranks]
    ranks.map (fun (x : Nat) => (Int.ofNat x - Int.ofNat max_ordinal).natAbs + 1)
  let predictions := ranks.zip ranked_probability       -- predictions = list(zip(ranks, ranked_probability))
  predictions                                           -- return predictions

/-! ### `_unwind` -/

/-- `_matrix_transpose(matrix)` = `[list(row) for row in zip(*matrix)]` for a matrix whose rows all have
    exactly two entries (`[tenet[i], [x, i]]`), a row being a pair here.  `zip(*matrix)` of `m ≥ 1` rows
    of length 2 yields two tuples (the first entries, the second entries); `zip()` of no rows yields
    nothing, and the result is the empty list (`none`). -/
def matrixTranspose2 {κ γ : Type} (matrix : List (κ × γ)) : Option (List κ × List γ) :=
  match matrix with
  | [] => none
  | row :: rows => some ((row :: rows).map (·.1), (row :: rows).map (·.2))

/-- `_unwind(tenet, objects)` for a list `objects` (the `isinstance(objects, list)` branch), literally.
    The read `tenet[i]` is `tenet[i]?`: when `tenet` is SHORTER than `objects` Python raises
    `IndexError` at the first missing entry; here the rows from that entry on are dropped (so that the
    function is total); when `tenet` is longer the surplus entries are never read.  `le a b` is
    `not (b < a)` on the keys, the only comparison `list.sort` makes; `list.sort(key=…)` is stable and so
    is `List.mergeSort`. -/
def unwindCode {κ β : Type} (le : κ → κ → Bool) (tenet : List κ) (objects : List β) :
    List β × List Nat :=
  let objects_to_sort := objects
  let matrix : List (κ × (β × Nat)) :=                  -- matrix = [[tenet[i], [x, i]] for i, x in enumerate(objects_to_sort)]
    objects_to_sort.zipIdx.filterMap (fun xi => (tenet[xi.2]?).map (fun t => (t, (xi.1, xi.2))))
  let unsorted_matrix := matrixTranspose2 matrix        -- unsorted_matrix = _matrix_transpose(matrix)
  match unsorted_matrix with
  | some unsorted_matrix =>                             -- if unsorted_matrix:
    let zipped_matrix := unsorted_matrix.1.zip unsorted_matrix.2   -- zipped_matrix = list(zip(unsorted_matrix[0], unsorted_matrix[1]))
    let _pick_zeroth_index := fun (item : κ × (β × Nat)) => item.1 -- def _pick_zeroth_index(item): return item[0]
    let zipped_matrix := zipped_matrix.mergeSort                   -- zipped_matrix.sort(key=_pick_zeroth_index)
      (fun a b => le (_pick_zeroth_index a) (_pick_zeroth_index b))
    let sorted_matrix := zipped_matrix.map (fun p => p.2)          -- sorted_matrix = [x for _, x in zipped_matrix]
    (sorted_matrix.map (fun p => p.1), sorted_matrix.map (fun p => p.2))
                                                        -- return [x for x, _ in sorted_matrix], [x for _, x in sorted_matrix]
  | none => ([], [])                                    -- else: return [], []

end OS
