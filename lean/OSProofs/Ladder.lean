import OSModel.Ladder
/-!
# `_ladder_pairs` (literal) = the neighbours the model of partial pairing uses
-/
namespace OS
variable {β : Type}

theorem ladderPairsCode_length (ts : List β) : (ladderPairsCode ts).length = max ts.length 1 := by
  cases ts with
  | nil => simp [ladderPairsCode]
  | cons a as =>
    simp only [ladderPairsCode, List.length_map, List.length_zip, List.length_cons, List.length_append,
      List.length_dropLast, List.tail_cons, List.length_nil]
    omega

/-- entry `i` of `_ladder_pairs(teams)` is `[teams[i-1], teams[i+1]]` restricted to what exists —
exactly `neighboursOf teams i` -/
theorem ladderPairsCode_getElem (ts : List β) (i : Nat) (hi : i < ts.length) :
    (ladderPairsCode ts)[i]? = some (neighboursOf ts i) := by
  have hl : (none :: ts.dropLast.map some)[i]? = some (if i = 0 then none else ts[i - 1]?) := by
    cases i with
    | zero => rfl
    | succ k =>
      rw [List.getElem?_cons_succ, List.getElem?_map, List.getElem?_dropLast,
        if_pos (Nat.lt_sub_of_add_lt hi), if_neg (Nat.succ_ne_zero k), Nat.add_sub_cancel,
        List.getElem?_eq_getElem (Nat.lt_of_succ_lt hi)]
      rfl
  have hr : (ts.tail.map some ++ [none])[i]? = some (ts[i + 1]?) := by
    rw [List.getElem?_append, List.length_map, List.length_tail, List.getElem?_map, List.getElem?_tail]
    by_cases h : i < ts.length - 1
    · rw [if_pos h, List.getElem?_eq_getElem (Nat.add_lt_of_lt_sub h)]
      rfl
    · rw [if_neg h, Nat.sub_eq_zero_of_le (Nat.le_sub_one_of_lt hi),
        List.getElem?_eq_none (Nat.sub_le_iff_le_add.mp (Nat.le_of_not_lt h))]
      rfl
  have hz := (List.getElem?_zip_eq_some (z := (if i = 0 then none else ts[i - 1]?, ts[i + 1]?))).mpr
    ⟨hl, hr⟩
  unfold ladderPairsCode neighboursOf
  rw [List.getElem?_map, hz, Option.map_some]
  cases i <;> rfl

/-- the whole list, for a non-empty team list (the library calls it with ≥ 2 teams) -/
theorem ladderPairsCode_eq (ts : List β) (h : ts ≠ []) :
    ladderPairsCode ts = (List.range ts.length).map (neighboursOf ts) := by
  apply List.ext_getElem?
  intro i
  by_cases hi : i < ts.length
  · rw [ladderPairsCode_getElem ts i hi]
    simp [hi]
  · have hl := ladderPairsCode_length ts
    have hpos : 0 < ts.length := List.length_pos_iff.mpr h
    rw [List.getElem?_eq_none (by omega), List.getElem?_eq_none (by simp; omega)]

example : ladderPairsCode [1, 2, 3] = [[2], [1, 3], [2]] := by decide
example : ladderPairsCode [1, 2] = [[2], [1]] := by decide
example : ladderPairsCode ([] : List Nat) = [[]] := by decide

end OS
