import OSProofs.RealInst
import OSProofs.WrapBasics
import OSProofs.PredictSumLemmas
import Mathlib.Algebra.Order.BigOperators.Group.List
import OSProofs.RealBounds
/-!
# `sumL` over ℝ

Over ℝ the left fold `sumL` is `List.sum` (`sumL_eq_sum`), so its signs and bounds are Mathlib's;
what the model adds with `sumL` (team variances, the two components of `sumPairs`) inherits them.
-/
noncomputable section
namespace OS
variable {β : Type}

@[simp] theorem sumL_nil : sumL ([] : List ℝ) = 0 := by simp [sumL]
@[simp] theorem sumL_singleton (x : ℝ) : sumL [x] = x := by simp [sumL]
@[simp] theorem sumL_pair (x y : ℝ) : sumL [x, y] = x + y := by simp [sumL]

theorem sumL_map_nonneg {l : List β} {f : β → ℝ} (h : ∀ x ∈ l, 0 ≤ f x) : 0 ≤ sumL (l.map f) := by
  rw [sumL_eq_sum]; exact sum_map_nonneg l f h

theorem sumL_map_mul_left (k : ℝ) (f : β → ℝ) (l : List β) :
    sumL (l.map (fun x => k * f x)) = k * sumL (l.map f) := by
  simp only [sumL_eq_sum, List.sum_map_mul_left]

theorem sumL_map_le {l : List β} {f g : β → ℝ} (h : ∀ x ∈ l, f x ≤ g x) :
    sumL (l.map f) ≤ sumL (l.map g) := by
  rw [sumL_eq_sum, sumL_eq_sum]; exact List.sum_le_sum h

theorem sumL_othersOf (F : β → ℝ) (ts : List β) (i : Nat) (hi : i < ts.length) :
    sumL ((othersOf ts i).map F) = sumL (ts.map F) - F ts[i] := by
  rw [sumL_eq_sum, sumL_eq_sum, othersOf_eq_eraseIdx, sum_map_eraseIdx ts F i hi]

theorem sumL_neighboursOf (F : β → ℝ) (ts : List β) (i : Nat)
    (hi : i < ts.length) :
    sumL ((neighboursOf ts i).map F)
      = (if h : 0 < i then F (ts[i - 1]'(by omega)) else 0)
        + (if h : i + 1 < ts.length then F ts[i + 1] else 0) := by
  unfold neighboursOf
  by_cases h0 : i = 0
  · subst h0
    by_cases h1 : 0 + 1 < ts.length
    · simp [h1]
    · simp [h1]
  · have h0' : 0 < i := by omega
    have h2 : i - 1 < ts.length := by omega
    by_cases h1 : i + 1 < ts.length
    · simp [h0, h0', h1, h2]
    · simp [h0, h0', h1, h2]

theorem sumPairs_map (l : List β) (f : β → ℝ × ℝ) :
    sumPairs (l.map f) = ((l.map (fun x => (f x).1)).sum, (l.map (fun x => (f x).2)).sum) := by
  simp only [sumPairs, sumL_eq_sum, List.map_map, Function.comp_def]

theorem sumPairs_map_snd_nonneg (l : List β) (pr : β → ℝ × ℝ) (h : ∀ q, 0 ≤ (pr q).2) :
    0 ≤ (sumPairs (l.map pr)).2 :=
  sumL_map_nonneg (List.forall_mem_map.2 fun q _ => h q)

theorem teamAgg_sig2_nonneg (team : List (Rating ℝ)) (rank : Nat) :
    0 ≤ (teamAgg team rank).sig2 :=
  sumL_map_nonneg fun p _ => mul_self_nonneg p.sigma

theorem teamAggs_sig2_nonneg {teams : List (List (Rating ℝ))} {ranks : List Nat} {t : TeamAgg ℝ}
    (h : t ∈ teamAggs teams ranks) : 0 ≤ t.sig2 := by
  obtain ⟨S, _, r, rfl⟩ := mem_teamAggs h
  exact teamAgg_sig2_nonneg S r

end OS
end
