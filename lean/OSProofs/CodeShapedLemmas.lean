import OSModel.CodeShaped
import OSProofs.RankLemmas
import OSProofs.Loops

/-!
# Helper lemmas for `OSProofs/CodeShaped.lean`

Part 1: the insertion-ordered dict (`dictAdd`), the inner and the outer loop of `_sum_q`.
Part 2: `_calculate_rankings` is monotone.
Part 3: `_arg_sort` (lexicographic merge sort of `(value, index)` pairs) and the run-scanning
loop of `_rank_data`, for a scalar type whose `<` / `≤` form a total preorder (`OrderLaws`): no
antisymmetry and no decidable equality on `α` is used.
Generic over `[Scalar α]` and Mathlib-free.
-/

namespace OS
open Scalar

/-! ## Part 1: `_sum_q` -/

section dict
variable {β : Type} [Add β]

/-- left-to-right sum that starts from the first element (no leading zero); `none` for `[]` -/
def lit_sum1 : List β → Option β
  | [] => none
  | x :: xs => some (xs.foldl (· + ·) x)

theorem lit_sum1_eq_none {l : List β} : lit_sum1 l = none ↔ l = [] := by
  cases l <;> simp [lit_sum1]

theorem lit_sum1_concat (l : List β) (x : β) :
    lit_sum1 (l ++ [x]) = some ((lit_sum1 l).elim x (· + x)) := by
  cases l with
  | nil => rfl
  | cons a l => exact congrArg some List.foldl_append

/-- `d[k] += x` when `k` is present: its first entry is updated in place -/
theorem dictAdd_mem (pre : List (Nat × β)) (k : Nat) (v x : β) (rest : List (Nat × β))
    (h : ∀ kv ∈ pre, kv.1 ≠ k) :
    dictAdd (pre ++ (k, v) :: rest) k x = pre ++ (k, v + x) :: rest := by
  induction pre with
  | nil => exact if_pos rfl
  | cons e pre ih =>
    exact (if_neg (h e (List.mem_cons_self ..))).trans
      (congrArg (e :: ·) (ih (fun kv hkv => h kv (List.mem_cons_of_mem _ hkv))))

/-- `d[k] += x` when `k` is absent: a new entry at the end -/
theorem dictAdd_fresh (d : List (Nat × β)) (k : Nat) (x : β) (h : ∀ kv ∈ d, kv.1 ≠ k) :
    dictAdd d k x = d ++ [(k, x)] := by
  induction d with
  | nil => rfl
  | cons e d ih =>
    exact (if_neg (h e (List.mem_cons_self ..))).trans
      (congrArg (e :: ·) (ih (fun kv hkv => h kv (List.mem_cons_of_mem _ hkv))))

variable {γ : Type}

/-- The inner loop (`p`: the rows it adds `x` to) on a dict that holds, after some entries `pre` it
    does not touch, one entry `(key, v)` for every row of `L` with `F row = some v`, in the order of
    `L`, these rows being an initial segment of `L`.  Afterwards a row has the entry the loop gave
    it: `v + x` if it had `v` (updated in place), `x` if it had none (appended). -/
theorem lit_inner_prefix (p : γ × Nat → Prop) [DecidablePred p] (x : β) (F : γ × Nat → Option β)
    (L : List (γ × Nat)) (hF : L.Pairwise (fun a b => F a = none → F b = none))
    (pre : List (Nat × β)) (hk : (pre.map (·.1) ++ L.map (·.2)).Nodup) :
    L.foldl (fun d tq => if p tq then dictAdd d tq.2 x else d)
        (pre ++ L.filterMap (fun a => (F a).map (Prod.mk a.2))) =
      pre ++ L.filterMap (fun a =>
        (if p a then some ((F a).elim x (· + x)) else F a).map (Prod.mk a.2)) := by
  induction L generalizing pre with
  | nil => rfl
  | cons a L ih =>
    rw [List.pairwise_cons] at hF
    have hfresh : ∀ kv ∈ pre, kv.1 ≠ a.2 := fun kv hkv =>
      (List.nodup_append.mp hk).2.2 kv.1 (List.mem_map_of_mem hkv) a.2 (List.mem_cons_self ..)
    have ih' := fun v => ih hF.2 (pre ++ [(a.2, v)])
      (by rw [List.map_append, List.append_assoc]; exact hk)
    rw [List.foldl_cons]
    cases hFa : F a with
    | some v =>
      by_cases hpa : p a
      · -- the key of `a` is in the dict, right after `pre`
        simp only [List.filterMap_cons, hFa, if_pos hpa, Option.map_some, Option.elim_some]
        rw [dictAdd_mem pre a.2 v x _ hfresh]
        simpa only [List.append_assoc, List.singleton_append] using ih' (v + x)
      · simp only [List.filterMap_cons, hFa, if_neg hpa, Option.map_some]
        simpa only [List.append_assoc, List.singleton_append] using ih' v
    | none =>
      -- no entry for `a`, hence none for the rows after it: the dict is `pre`
      have hnil : L.filterMap (fun b => (F b).map (Prod.mk b.2)) = [] :=
        List.filterMap_eq_nil_iff.mpr fun b hb => congrArg _ (hF.1 b hb hFa)
      by_cases hpa : p a
      · simp only [List.filterMap_cons, hFa, if_pos hpa, Option.map_none, Option.map_some,
          Option.elim_none, hnil, List.append_nil]
        rw [dictAdd_fresh pre a.2 x hfresh]
        simpa only [hnil, List.append_nil, List.append_assoc, List.singleton_append] using ih' x
      · simp only [List.filterMap_cons, hFa, if_neg hpa, Option.map_none]
        exact ih hF.2 pre (hk.sublist ((List.Sublist.refl _).append (List.sublist_cons_self ..)))

end dict

theorem filterMap_congr_left {β γ : Type} {f g : β → Option γ} {l : List β}
    (h : ∀ a ∈ l, f a = g a) : l.filterMap f = l.filterMap g := by
  induction l with
  | nil => rfl
  | cons a l ih =>
    rw [List.filterMap_cons, List.filterMap_cons, h a (List.mem_cons_self ..),
      ih fun b hb => h b (List.mem_cons_of_mem _ hb)]

/-! #### the outer loop -/

section outer
variable {α : Type} [Scalar α]

/-- `acc = l[0]; for x in l[1:]: acc += x` (and `0` for the empty list): the left-to-right sum
    without the leading `0 +` of `sumL` -/
def lit_sumL1 (l : List α) : α := (lit_sum1 l).getD (ofNat 0)

theorem lit_sumL1_eq_reduceAdd (l : List α) : lit_sumL1 l = reduceAdd l := by
  cases l <;> rfl

/-- the dict `sum_q` after the outer loop has processed the teams `done`: one entry for every row of
    `L` that some team of `done` reaches, in the order of `L` -/
def lit_dictAfter (L : List (TeamAgg α × Nat)) (e : TeamAgg α → α) (done : List (TeamAgg α)) :
    List (Nat × α) :=
  L.filterMap fun tq =>
    (lit_sum1 ((done.filter (fun tj => decide (tq.1.rank ≤ tj.rank))).map e)).map (Prod.mk tq.2)

/-- one iteration of the outer loop, on rows sorted by rank: the rows reached so far are an initial
    segment of `L` -/
theorem lit_dictAfter_step (L : List (TeamAgg α × Nat)) (e : TeamAgg α → α)
    (hL : (L.map (·.2)).Nodup) (hs : L.Pairwise (fun a b => a.1.rank ≤ b.1.rank))
    (done : List (TeamAgg α)) (ti : TeamAgg α) :
    L.foldl (fun d tq => if ti.rank ≥ tq.1.rank then dictAdd d tq.2 (e ti) else d)
      (lit_dictAfter L e done) = lit_dictAfter L e (done ++ [ti]) := by
  refine (lit_inner_prefix (fun tq => ti.rank ≥ tq.1.rank) (e ti) _ L (hs.imp ?_) [] hL).trans
    (filterMap_congr_left fun a _ => ?_)
  · -- a row that no team reaches: the rows after it rank no better and are not reached either
    intro a b hab ha
    rw [lit_sum1_eq_none, List.map_eq_nil_iff, List.filter_eq_nil_iff] at ha ⊢
    exact fun tj htj hb => ha tj htj (decide_eq_true (Nat.le_trans hab (of_decide_eq_true hb)))
  · rw [List.filter_append, List.map_append]
    by_cases hpa : ti.rank ≥ a.1.rank
    · rw [if_pos hpa, List.filter_cons_of_pos (p := fun tj : TeamAgg α => decide (a.1.rank ≤ tj.rank))
        (decide_eq_true hpa)]
      exact congrArg _ (lit_sum1_concat _ _).symm
    · rw [if_neg hpa, List.filter_cons_of_neg (p := fun tj : TeamAgg α => decide (a.1.rank ≤ tj.rank))
        (decide_eq_false hpa ▸ Bool.false_ne_true), List.filter_nil, List.map_nil, List.append_nil]

theorem lit_dictAfter_fold (L : List (TeamAgg α × Nat)) (e : TeamAgg α → α)
    (hL : (L.map (·.2)).Nodup) (hs : L.Pairwise (fun a b => a.1.rank ≤ b.1.rank))
    (rest done : List (TeamAgg α)) :
    rest.foldl (fun d ti =>
        L.foldl (fun d tq => if ti.rank ≥ tq.1.rank then dictAdd d tq.2 (e ti) else d) d)
      (lit_dictAfter L e done) = lit_dictAfter L e (done ++ rest) := by
  induction rest generalizing done with
  | nil => rw [List.append_nil]; rfl
  | cons ti rest ih =>
    rw [List.foldl_cons, lit_dictAfter_step L e hL hs, ih, List.append_assoc]
    rfl

/-- **the dict `sum_q` for non-decreasing ranks**: one entry per team, in the order of the teams -/
theorem lit_plSumQDict_sorted (ts : List (TeamAgg α)) (c : α)
    (hs : ts.Pairwise (fun a b => a.rank ≤ b.rank)) :
    plSumQDict ts c = ts.zipIdx.map (fun tq => (tq.2, lit_sumL1
      ((ts.filter (fun tj => decide (tq.1.rank ≤ tj.rank))).map (fun ti => exp (ti.mu / c))))) := by
  have hL : (ts.zipIdx.map (·.2)).Nodup := by
    rw [List.zipIdx_map_snd 0 ts]
    exact List.nodup_range'
  rw [← List.zipIdx_map_fst 0 ts, List.pairwise_map] at hs
  -- the outer loop enumerates `team_ratings`, reads the team only, and starts from the empty dict
  have h := lit_dictAfter_fold ts.zipIdx (fun ti => exp (ti.mu / c)) hL hs (ts.zipIdx.map (·.1)) []
  rw [show lit_dictAfter ts.zipIdx _ [] = [] from List.filterMap_eq_nil_iff.mpr fun _ _ => rfl,
    List.foldl_map, List.zipIdx_map_fst, List.nil_append] at h
  refine (h : plSumQDict ts c = _).trans ?_
  -- every team reaches itself, so every row has an entry
  rw [← List.filterMap_eq_map']
  refine filterMap_congr_left fun tq htq => ?_
  have hmem : exp (tq.1.mu / c) ∈ (ts.filter (fun tj => decide (tq.1.rank ≤ tj.rank))).map
      (fun ti => exp (ti.mu / c)) :=
    List.mem_map_of_mem (List.mem_filter.mpr
      ⟨List.mem_of_getElem? (List.mem_zipIdx_iff_getElem?.mp htq), decide_eq_true (Nat.le_refl _)⟩)
  obtain ⟨b, bs, hl⟩ := List.exists_cons_of_ne_nil (List.ne_nil_of_mem hmem)
  rw [lit_sumL1, hl]
  rfl

end outer

/-! ## Part 2: `_calculate_rankings` -/

theorem denseRanksAux_mono {ρ : Type} (lt : ρ → ρ → Bool) (l : List ρ) :
    ∀ (prev : ρ) (idx s : Nat), s ≤ idx →
      (∀ y ∈ denseRanksAux lt prev idx s l, s ≤ y) ∧
      (denseRanksAux lt prev idx s l).Pairwise (· ≤ ·) := by
  induction l with
  | nil => intro prev idx s _; simp [denseRanksAux]
  | cons x xs ih =>
    intro prev idx s hs
    simp only [denseRanksAux]
    have hs' : (if lt prev x = true then idx else s) ≤ idx + 1 := by split <;> omega
    have hge : s ≤ (if lt prev x = true then idx else s) := by split <;> omega
    obtain ⟨h1, h2⟩ := ih x (idx + 1) _ hs'
    refine ⟨?_, ?_⟩
    · intro y hy
      rcases List.mem_cons.mp hy with rfl | hy
      · exact hge
      · exact Nat.le_trans hge (h1 y hy)
    · exact List.pairwise_cons.mpr ⟨h1, h2⟩


/-! ## Part 3: `_arg_sort` / `_rank_data`, for a total preorder (`OrderLaws`) -/

section rankdata
variable {α : Type} [Scalar α]

/-! ### the assignment loop `for j in range(a, b): out[idx[j]] = r` -/

theorem foldl_set_length (ps : List Nat) (r : Nat) (out : List Nat) :
    (ps.foldl (fun out p => out.set p r) out).length = out.length := by
  induction ps generalizing out with
  | nil => rfl
  | cons p ps ih => rw [List.foldl_cons, ih, List.length_set]

theorem getElem?_foldl_set (ps : List Nat) (r : Nat) (out : List Nat) (i : Nat) :
    (ps.foldl (fun out p => out.set p r) out)[i]? =
      if i ∈ ps then (if i < out.length then some r else none) else out[i]? := by
  induction ps generalizing out with
  | nil => simp
  | cons p ps ih =>
    rw [List.foldl_cons, ih, List.length_set, List.getElem?_set]
    by_cases h1 : i ∈ ps
    · simp [h1]
    · by_cases h2 : p = i
      · subst h2; simp [h1]
      · have h2' : ¬ i = p := fun e => h2 e.symm
        simp [h1, h2, h2']

theorem mem_pyRange {a b j : Nat} : j ∈ pyRange a b ↔ a ≤ j ∧ j < b := by
  unfold pyRange
  rw [List.mem_range'_1]
  exact ⟨fun h => ⟨h.1, by omega⟩, fun h => ⟨h.1, by omega⟩⟩

/-- `for j in range(a, b): out[idx[j]] = r` with a duplicate-free `idx`: the slots `idx[a], …, idx[b-1]`
    become `r`, every other slot `idx[j]` keeps its value -/
theorem lit_setRun (idx : List Nat) (hnd : idx.Nodup) (a b r : Nat) (hb : b ≤ idx.length)
    (out : List Nat) (hlt : ∀ j < idx.length, idx.getD j 0 < out.length) :
    let out' := (pyRange a b).foldl (fun out j => out.set (idx.getD j 0) r) out
    out'.length = out.length ∧ ∀ j < idx.length,
      out'[idx.getD j 0]? = if a ≤ j ∧ j < b then some r else out[idx.getD j 0]? := by
  intro out'
  have e : out' =
      ((pyRange a b).map (fun j => idx.getD j 0)).foldl (fun out p => out.set p r) out := by
    show (pyRange a b).foldl _ out = _
    rw [List.foldl_map]
  refine ⟨by rw [e, foldl_set_length], fun j hj => ?_⟩
  rw [e, getElem?_foldl_set]
  by_cases h : a ≤ j ∧ j < b
  · rw [if_pos (List.mem_map.mpr ⟨j, mem_pyRange.mpr h, rfl⟩), if_pos (hlt j hj), if_pos h]
  · rw [if_neg h, if_neg]
    intro hm
    obtain ⟨j', hj', e'⟩ := List.mem_map.mp hm
    have h' := mem_pyRange.mp hj'
    have := (List.getD_inj (Nat.lt_of_lt_of_le h'.2 hb) hj hnd).mp e'
    exact h (this ▸ h')

/-! ### `_arg_sort` -/

/-- Python's `(v, i) <= (w, j)`: `v < w`, or `v == w` (neither is below the other) and `i <= j`.
Only `<` on `α` is consulted. -/
theorem lexLe_iff (a b : α × Nat) :
    lexLe a b = true ↔ a.1 < b.1 ∨ (¬ b.1 < a.1 ∧ a.2 ≤ b.2) := by
  unfold lexLe
  simp only [Bool.or_eq_true, Bool.and_eq_true, Bool.not_eq_true', decide_eq_true_eq,
    decide_eq_false_iff_not]

theorem lexLe_total (a b : α × Nat) : (lexLe a b || lexLe b a) = true := by
  rw [Bool.or_eq_true, lexLe_iff, lexLe_iff]
  by_cases h : a.1 < b.1
  · exact Or.inl (Or.inl h)
  · by_cases h' : b.1 < a.1
    · exact Or.inr (Or.inl h')
    · rcases Nat.le_total a.2 b.2 with h2 | h2
      · exact Or.inl (Or.inr ⟨h', h2⟩)
      · exact Or.inr (Or.inr ⟨h, h2⟩)

theorem OrderLaws.lexLe_trans (O : OrderLaws α) (a b c : α × Nat) (h1 : lexLe a b = true)
    (h2 : lexLe b c = true) : lexLe a c = true := by
  rw [lexLe_iff] at *
  rcases h1 with h1 | ⟨h1, h1'⟩ <;> rcases h2 with h2 | ⟨h2, h2'⟩
  · exact Or.inl (O.lt_trans h1 h2)
  · exact Or.inl (O.lt_of_lt_of_le h1 (O.le_of_not_lt h2))
  · exact Or.inl (O.lt_of_le_of_lt (O.le_of_not_lt h1) h2)
  · exact Or.inr ⟨O.not_lt_of_le (O.le_trans' (O.le_of_not_lt h1) (O.le_of_not_lt h2)),
      Nat.le_trans h1' h2'⟩

/-- the sorted `(value, index)` pairs -/
def sortedPairs (v : List α) : List (α × Nat) := v.zipIdx.mergeSort lexLe

theorem sortedPairs_perm (v : List α) : (sortedPairs v).Perm v.zipIdx := List.mergeSort_perm _ _

theorem sortedPairs_length (v : List α) : (sortedPairs v).length = v.length := by
  simp [sortedPairs]

theorem OrderLaws.sortedPairs_sorted (O : OrderLaws α) (v : List α) :
    ((sortedPairs v).map (·.1)).Pairwise (· ≤ ·) := by
  rw [List.pairwise_map]
  refine (List.pairwise_mergeSort O.lexLe_trans lexLe_total v.zipIdx).imp ?_
  intro a b h
  rcases (lexLe_iff a b).mp h with h | ⟨h, _⟩
  · exact O.le_of_lt h
  · exact O.le_of_not_lt h

theorem lit_argSortCode_eq (v : List α) : argSortCode v = (sortedPairs v).map (·.2) := rfl

/-- `arg_sorted_vector = [vector[rank] for rank in arg_sort_rank_vector]` is the list of the first
components of the sorted pairs -/
theorem lit_argSorted_eq (v : List α) :
    (argSortCode v).map (fun r => v.getD r (ofNat 0)) = (sortedPairs v).map (·.1) := by
  rw [lit_argSortCode_eq, List.map_map]
  apply List.map_congr_left
  intro a ha
  have hm : a ∈ v.zipIdx := (sortedPairs_perm v).mem_iff.mp ha
  rw [List.mem_zipIdx_iff_getElem?] at hm
  simp [List.getD, hm]

theorem argSortCode_perm (v : List α) : (argSortCode v).Perm (List.range v.length) := by
  rw [lit_argSortCode_eq, range_eq_zipIdx_snd]
  exact (sortedPairs_perm v).map (·.2)

theorem sortedPairs_fst_perm (v : List α) : ((sortedPairs v).map (·.1)).Perm v := by
  have h := (sortedPairs_perm v).map (·.1)
  rwa [show v.zipIdx.map (·.1) = v from List.zipIdx_map_fst 0 v] at h

/-! ### the main loop of `_rank_data` -/

/-- one iteration of `for index in range(vector_length)` (the `step` inside `rankDataCode`) -/
def lit_step (n : Nat) (sv : List α) (idx : List Nat) (st : Nat × List Nat)
    (index : Nat) : Nat × List Nat :=
  let dup := st.1 + 1
  if index == n - 1 || sne (sv.getD index (ofNat 0)) (sv.getD (index + 1) (ofNat 0)) then
    (0, (pyRange (index + 1 - dup) (index + 1)).foldl
          (fun out j => out.set (idx.getD j 0) (index + 1 - dup + 1)) st.2)
  else (dup, st.2)

theorem sne_iff (a b : α) : sne a b = true ↔ (a < b ∨ b < a) := by
  unfold sne
  simp only [Bool.or_eq_true, decide_eq_true_eq]

/-- start position of the run of equivalent values that contains position `k` of the sorted vector
(`n` for `k = n`) -/
def lit_start (sv : List α) (k : Nat) : Nat :=
  if k < sv.length then cntLt sv (sv.getD k (ofNat 0)) else sv.length

theorem lit_start_of_lt {sv : List α} {k : Nat} (hk : k < sv.length) :
    lit_start sv k = cntLt sv (sv.getD k (ofNat 0)) := if_pos hk

theorem lit_start_of_not_lt {sv : List α} {k : Nat} (hk : ¬ k < sv.length) :
    lit_start sv k = sv.length := if_neg hk

/-- loop invariant after the indices `< k` have been processed -/
structure RankLoopInv (sv : List α) (idx : List Nat) (k : Nat) (st : Nat × List Nat) : Prop where
  dup : st.1 + lit_start sv k = k
  len : st.2.length = sv.length
  done : ∀ j < lit_start sv k, st.2[idx.getD j 0]? = some (cntLt sv (sv.getD j (ofNat 0)) + 1)

namespace OrderLaws
variable (O : OrderLaws α) (sv : List α) (hs : sv.Pairwise (· ≤ ·))
include O hs

/-- in a sorted list the entries below `x` are a prefix -/
theorem lt_cntLt_iff (x : α) (p : Nat) (hp : p < sv.length) :
    p < cntLt sv x ↔ sv.getD p (ofNat 0) < x := by
  induction sv generalizing p with
  | nil => exact absurd hp (Nat.not_lt_zero p)
  | cons a l ih =>
    rw [List.pairwise_cons] at hs
    by_cases ha : a < x
    · rw [cntLt_cons, if_pos ha]
      cases p with
      | zero => exact ⟨fun _ => ha, fun _ => by omega⟩
      | succ p =>
        rw [List.getD_cons_succ, ← ih hs.2 p (Nat.lt_of_succ_lt_succ hp)]
        omega
    · -- `x ≤ a`, and `a` is below every other entry: nothing is counted, no entry is below `x`
      have hall : ∀ y ∈ a :: l, ¬ y < x := by
        intro y hy
        rcases List.mem_cons.mp hy with rfl | hy
        · exact ha
        · exact O.not_lt_of_le (O.le_trans' (O.le_of_not_lt ha) (hs.1 y hy))
      have hz : cntLt (a :: l) x = 0 := List.length_eq_zero_iff.mpr
        (List.filter_eq_nil_iff.mpr fun y hy => by simpa using hall y hy)
      rw [hz, ← List.getElem_eq_getD (h := hp)]
      exact ⟨fun h => absurd h (Nat.not_lt_zero p), fun h => absurd h (hall _ (List.getElem_mem hp))⟩

theorem getD_le_getD (i j : Nat) (hij : i ≤ j) (hj : j < sv.length) :
    sv.getD i (ofNat 0) ≤ sv.getD j (ofNat 0) := by
  rcases Nat.lt_or_eq_of_le hij with h | h
  · rw [← List.getElem_eq_getD (h := hj), ← List.getElem_eq_getD (h := Nat.lt_trans h hj)]
    exact List.pairwise_iff_getElem.mp hs i j (by omega) hj h
  · subst h; exact O.le_refl' _

theorem lit_start_le (k : Nat) : lit_start sv k ≤ k := by
  by_cases h : k < sv.length
  · rw [lit_start_of_lt h]
    exact Nat.le_of_not_lt fun hc => O.lt_irrefl _ ((O.lt_cntLt_iff sv hs _ k h).mp hc)
  · rw [lit_start_of_not_lt h]
    exact Nat.le_of_not_lt h

/-- a run ends at `k`: the next run starts at `k + 1` -/
theorem lit_start_succ_end (k : Nat) (hk : k < sv.length)
    (hc : (k == sv.length - 1 || sne (sv.getD k (ofNat 0)) (sv.getD (k + 1) (ofNat 0))) = true) :
    lit_start sv (k + 1) = k + 1 := by
  have h2 := O.lit_start_le sv hs (k + 1)
  by_cases hk1 : k + 1 < sv.length
  · -- not the last position: the two neighbours differ, so `sv[k]` is strictly below `sv[k + 1]`
    have hlt : sv.getD k (ofNat 0) < sv.getD (k + 1) (ofNat 0) := by
      rcases Bool.or_eq_true _ _ ▸ hc with hc | hc
      · exact absurd (beq_iff_eq.mp hc) (by omega)
      · exact ((sne_iff _ _).mp hc).resolve_right
          (O.not_lt_of_le (O.getD_le_getD sv hs k (k + 1) (Nat.le_succ k) hk1))
    rw [lit_start_of_lt hk1] at h2 ⊢
    exact Nat.le_antisymm h2 ((O.lt_cntLt_iff sv hs _ k hk).mpr hlt)
  · rw [lit_start_of_not_lt hk1]
    exact Nat.le_antisymm (Nat.le_of_not_lt hk1) hk

omit hs in
/-- position `k + 1` continues the run of `k` -/
theorem lit_start_succ_run (k : Nat) (hk : k < sv.length)
    (hc : ¬ (k == sv.length - 1 || sne (sv.getD k (ofNat 0)) (sv.getD (k + 1) (ofNat 0))) = true) :
    lit_start sv (k + 1) = lit_start sv k := by
  rw [Bool.or_eq_true, not_or, beq_iff_eq, sne_iff, not_or] at hc
  have hk1 : k + 1 < sv.length := by omega
  rw [lit_start_of_lt hk1, lit_start_of_lt hk]
  exact O.cntLt_congr sv (O.le_of_not_lt hc.2.1) (O.le_of_not_lt hc.2.2)

/-- all entries of the run that contains `k`, up to `k`, have `start k` entries strictly below them -/
theorem lit_cntLt_of_run (k j : Nat) (hk : k < sv.length) (h1 : lit_start sv k ≤ j) (h2 : j ≤ k) :
    cntLt sv (sv.getD j (ofNat 0)) = lit_start sv k := by
  rw [lit_start_of_lt hk] at h1 ⊢
  exact O.cntLt_congr sv (O.getD_le_getD sv hs j k h2 hk)
    (O.le_of_not_lt ((not_congr (O.lt_cntLt_iff sv hs _ j (Nat.lt_of_le_of_lt h2 hk))).mp
      (Nat.not_lt.mpr h1)))

variable (idx : List Nat) (hperm : idx.Perm (List.range sv.length))
include hperm

theorem rankLoopInv_step (k : Nat) (hk : k < sv.length) (st : Nat × List Nat)
    (h : RankLoopInv sv idx k st) : RankLoopInv sv idx (k + 1) (lit_step sv.length sv idx st k) := by
  obtain ⟨hdup, hl, hdone⟩ := h
  by_cases hc :
      (k == sv.length - 1 || sne (sv.getD k (ofNat 0)) (sv.getD (k + 1) (ofNat 0))) = true
  · -- end of a run: the slots `idx[start k], …, idx[k]` are written, earlier runs are untouched
    have hstart' := O.lit_start_succ_end sv hs k hk hc
    have e1 : k + 1 - (st.1 + 1) = lit_start sv k := by
      rw [Nat.add_sub_add_right]
      exact Nat.sub_eq_of_eq_add' hdup.symm
    have hlen : idx.length = sv.length := hperm.length_eq.trans List.length_range
    have hk' : k + 1 ≤ idx.length := hlen ▸ hk
    rw [show lit_step sv.length sv idx st k = (0, _) from if_pos hc, e1]
    obtain ⟨hl', hget⟩ := lit_setRun idx (hperm.nodup_iff.mpr List.nodup_range) (lit_start sv k)
      (k + 1) (lit_start sv k + 1) hk' st.2 fun j hj => by
        rw [hl, ← List.getElem_eq_getD (h := hj)]
        exact List.mem_range.mp (hperm.mem_iff.mp (List.getElem_mem hj))
    refine ⟨by rw [hstart', Nat.zero_add], hl'.trans hl, fun j hj => ?_⟩
    rw [hstart'] at hj
    rw [hget j (Nat.lt_of_lt_of_le hj hk')]
    by_cases hjs : lit_start sv k ≤ j
    · rw [if_pos ⟨hjs, hj⟩, O.lit_cntLt_of_run sv hs k j hk hjs (Nat.le_of_lt_succ hj)]
    · rw [if_neg (fun h => hjs h.1)]
      exact hdone j (Nat.not_le.mp hjs)
  · -- inside a run: only the duplicate count grows
    have hstart' := O.lit_start_succ_run sv k hk hc
    rw [show lit_step sv.length sv idx st k = (st.1 + 1, st.2) from if_neg hc]
    refine ⟨?_, hl, fun j hj => hdone j (hstart' ▸ hj)⟩
    show st.1 + 1 + _ = _
    rw [hstart', Nat.add_right_comm, hdup]

theorem rankLoopInv_fold (k : Nat) (hk : k ≤ sv.length) :
    RankLoopInv sv idx k
      ((List.range k).foldl (lit_step sv.length sv idx) (0, List.replicate sv.length 0)) := by
  induction k with
  | zero =>
    have h0 : lit_start sv 0 = 0 := Nat.le_zero.mp (O.lit_start_le sv hs 0)
    exact ⟨(Nat.zero_add _).trans h0, List.length_replicate,
      fun j hj => absurd (h0 ▸ hj) (Nat.not_lt_zero j)⟩
  | succ k ih =>
    rw [List.range_succ, List.foldl_append, List.foldl_cons, List.foldl_nil]
    exact O.rankLoopInv_step sv hs idx hperm k hk _ (ih (Nat.le_of_lt hk))

/-- what the loop of `_rank_data` computes, for any sorted vector `sv` and any index vector `idx` that
permutes its positions: entry `idx[j]` of the result is one plus the number of entries of `sv` strictly
below `sv[j]` -/
theorem lit_loop_spec :
    let out := ((List.range sv.length).foldl (lit_step sv.length sv idx)
      (0, List.replicate sv.length 0)).2
    out.length = sv.length ∧
      ∀ j < sv.length, out[idx.getD j 0]? = some (cntLt sv (sv.getD j (ofNat 0)) + 1) := by
  intro out
  have h := O.rankLoopInv_fold sv hs idx hperm sv.length (Nat.le_refl _)
  refine ⟨h.len, fun j hj => h.done j ?_⟩
  rw [lit_start_of_not_lt (Nat.lt_irrefl _)]
  exact hj

end OrderLaws

/-- every position `i` of `v` occurs in the sorted pairs, at some position `j`: there `_arg_sort`
has `i` and the sorted vector has `v[i]` -/
theorem lit_argSort_pos (v : List α) (i : Nat) (hi : i < v.length) :
    ∃ j < v.length, (argSortCode v).getD j 0 = i ∧
      ((sortedPairs v).map (·.1)).getD j (ofNat 0) = v[i] := by
  have hm : (v[i], i) ∈ sortedPairs v := (sortedPairs_perm v).mem_iff.mpr
    (List.mem_zipIdx_iff_getElem?.mpr (List.getElem?_eq_getElem hi))
  obtain ⟨j, hj, hji⟩ := List.getElem_of_mem hm
  refine ⟨j, sortedPairs_length v ▸ hj, ?_, ?_⟩
  · rw [lit_argSortCode_eq, ← List.getElem_eq_getD (h := by rw [List.length_map]; exact hj),
      List.getElem_map, hji]
  · rw [← List.getElem_eq_getD (h := by rw [List.length_map]; exact hj), List.getElem_map, hji]

end rankdata

end OS
