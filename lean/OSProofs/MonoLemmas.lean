import OSModel
import OSProofs.MonoArith
import OSProofs.OrderLaws
import Batteries.Data.List.Basic

/-!
# Consequences of the order laws `MonoArith`

Over an abstract `α` with `[Scalar α]` and `(M : MonoArith α)`: no field axioms (`List.Forall₂` is from Batteries).
The order itself (`<` against `≤`) is in `OSProofs/OrderLaws.lean` (`M.orderLaws.le_of_lt`, …).  Here: the small
integers, the logistic `1 / (1 + exp x)`, and the left fold `sumL` (none of its lemmas needs associativity).
-/

namespace OS
open Scalar
variable {α : Type} [Scalar α]

theorem foldl_add_ind {P Q : α → Prop} (h : ∀ a x, P a → Q x → P (a + x)) :
    ∀ (l : List α) (acc : α), P acc → (∀ x ∈ l, Q x) → P (l.foldl (· + ·) acc)
  | [], _, hacc, _ => hacc
  | x :: xs, acc, hacc, hl =>
    foldl_add_ind h xs (acc + x) (h acc x hacc (hl x List.mem_cons_self))
      (fun y hy => hl y (List.mem_cons_of_mem _ hy))

namespace MonoArith
variable (M : MonoArith α)
include M

/-! ### small integers -/

theorem zero_le_ofNat (n : Nat) : (𝟘 : α) ≤ ofNat n := M.ofNat_le' (Nat.zero_le n)
theorem zero_lt_ofNat {n : Nat} (h : 0 < n) : (𝟘 : α) < ofNat n := M.ofNat_lt' h
theorem zero_le_one : (𝟘 : α) ≤ 𝟙 := M.zero_le_ofNat 1
theorem zero_lt_one : (𝟘 : α) < 𝟙 := M.zero_lt_ofNat Nat.one_pos

theorem half_nonneg : (𝟘 : α) ≤ 𝟙 / ofNat 2 :=
  M.div_nonneg' M.zero_le_one (M.zero_lt_ofNat (by decide))

theorem half_le_one : (𝟙 : α) / ofNat 2 ≤ 𝟙 :=
  M.div_le_one' (M.ofNat_le' (by decide)) (M.zero_lt_ofNat (by decide))

theorem add_pos_of_pos_of_nonneg {a b : α} (ha : 𝟘 < a) (hb : 𝟘 ≤ b) : 𝟘 < a + b :=
  M.orderLaws.lt_of_lt_of_le ha (M.le_add_right' hb)

/-- the Bradley–Terry probability as computed: `1 + exp x ≥ 1` -/
theorem logistic_mem (x : α) : (𝟘 : α) ≤ 𝟙 / (𝟙 + exp x) ∧ 𝟙 / (𝟙 + exp x) ≤ (𝟙 : α) :=
  have h1 : (𝟙 : α) ≤ 𝟙 + exp x := M.le_add_right' (M.exp_nonneg' x)
  have h0 : (𝟘 : α) < 𝟙 + exp x := M.orderLaws.lt_of_lt_of_le M.zero_lt_one h1
  ⟨M.div_nonneg' M.zero_le_one h0, M.div_le_one' h1 h0⟩

/-! ### `sumL`: signs and lower bounds -/

theorem sumL_nonneg {l : List α} (h : ∀ x ∈ l, 𝟘 ≤ x) : 𝟘 ≤ sumL l :=
  foldl_add_ind (P := (𝟘 ≤ ·)) (fun _ _ => M.add_nonneg') l _ (M.le_refl' _) h

theorem sumL_nonpos {l : List α} (h : ∀ x ∈ l, x ≤ 𝟘) : sumL l ≤ 𝟘 :=
  foldl_add_ind (P := (· ≤ 𝟘)) (fun _ _ => M.add_nonpos') l _ (M.le_refl' _) h

theorem le_foldl (l : List α) (acc : α) (h : ∀ x ∈ l, 𝟘 ≤ x) : acc ≤ l.foldl (· + ·) acc :=
  foldl_add_ind (P := (acc ≤ ·)) (fun _ _ ha hx => M.le_trans' ha (M.le_add_right' hx)) l _
    (M.le_refl' _) h

theorem le_sumL_of_mem {l : List α} (h : ∀ x ∈ l, 𝟘 ≤ x) {a : α} (ha : a ∈ l) : a ≤ sumL l := by
  obtain ⟨s, t, rfl⟩ := List.append_of_mem ha
  unfold sumL
  rw [List.foldl_append, List.foldl_cons]
  exact M.le_trans' (M.le_add_left' (M.sumL_nonneg fun x hx => h x (List.mem_append_left _ hx)))
    (M.le_foldl t _ fun x hx => h x (List.mem_append_right _ (List.mem_cons_of_mem _ hx)))

/-! the same for the sums `sumL (l.map f)` the model forms -/

theorem sumL_map_nonneg {β : Type} {f : β → α} {l : List β} (h : ∀ x ∈ l, 𝟘 ≤ f x) :
    𝟘 ≤ sumL (l.map f) :=
  M.sumL_nonneg (List.forall_mem_map.2 h)

theorem sumL_map_nonpos {β : Type} {f : β → α} {l : List β} (h : ∀ x ∈ l, f x ≤ 𝟘) :
    sumL (l.map f) ≤ 𝟘 :=
  M.sumL_nonpos (List.forall_mem_map.2 h)

theorem le_sumL_map_of_mem {β : Type} {f : β → α} {l : List β} (h : ∀ x ∈ l, 𝟘 ≤ f x) {a : β}
    (ha : a ∈ l) : f a ≤ sumL (l.map f) :=
  M.le_sumL_of_mem (List.forall_mem_map.2 h) (List.mem_map_of_mem ha)

/-- `sumL [x] = 0 + x` lies on both sides of `x`, and is monotone in `x` -/
theorem sumL_singleton_le (x : α) : sumL [x] ≤ x := M.add_le_left' (M.le_refl' _)
theorem le_sumL_singleton (x : α) : x ≤ sumL [x] := M.le_add_left' (M.le_refl' _)
theorem sumL_singleton_mono {x y : α} (h : x ≤ y) : sumL [x] ≤ sumL [y] :=
  M.add_le_add' (M.le_refl' _) h

/-- `1 ≤ e / (0 + e)` for `e > 0`, the `p_ii` of a sole last team: `0 + e` lies on both sides of `e`, so
`e / (0 + e) ≥ (0 + e) / (0 + e) = 1` by `div_self'`; the law "`0 + a = a`" is not needed -/
theorem one_le_div_sumL_singleton {e : α} (he : 𝟘 < e) : 𝟙 ≤ e / sumL [e] := by
  have hpos : 𝟘 < sumL [e] := M.orderLaws.lt_of_lt_of_le he (M.le_sumL_singleton _)
  have := M.div_le_div_right' (M.sumL_singleton_le e) hpos
  rwa [M.div_self' hpos] at this

theorem le_sumL_pair {e0 e1 : α} (h0 : 𝟘 ≤ e0) (h1 : 𝟘 ≤ e1) :
    e0 ≤ sumL [e0, e1] ∧ e1 ≤ sumL [e0, e1] :=
  ⟨M.le_trans' (M.le_add_left' (M.le_refl' _)) (M.le_add_right' h1),
   M.le_add_left' (M.add_nonneg' (M.le_refl' _) h0)⟩

/-! ### `sumL`: monotone entry by entry; at most the number of terms -/

theorem foldl_mono {l l' : List α} (h : List.Forall₂ (· ≤ ·) l l') :
    ∀ {acc acc' : α}, acc ≤ acc' → l.foldl (· + ·) acc ≤ l'.foldl (· + ·) acc' := by
  induction h with
  | nil => intro acc acc' h; exact h
  | cons hab _ ih =>
    intro acc acc' h
    simp only [List.foldl_cons]
    exact ih (M.add_le_add' h hab)

theorem sumL_mono {l l' : List α} (h : List.Forall₂ (· ≤ ·) l l') : sumL l ≤ sumL l' :=
  M.foldl_mono h (M.le_refl' _)

/-- `f` subadditive: the identity gives `sumL l ≤ n`, negation (`neg_add_le'`) gives `-(sumL l) ≤ n` -/
theorem foldl_le_ofNat {f : α → α} (hf : ∀ a x, f (a + x) ≤ f a + f x) (l : List α) (s : α) (m : Nat)
    (hs : f s ≤ ofNat m) (h : ∀ x ∈ l, f x ≤ 𝟙) : f (l.foldl (· + ·) s) ≤ ofNat (m + l.length) := by
  induction l generalizing s m with
  | nil => exact hs
  | cons x xs ih =>
    rw [List.foldl_cons, List.length_cons, show m + (xs.length + 1) = (m + 1) + xs.length by omega]
    refine ih _ (m + 1) ?_ (fun y hy => h y (List.mem_cons_of_mem _ hy))
    rw [← M.ofNat_add' m 1]
    exact M.le_trans' (hf s x) (M.add_le_add' hs (h x List.mem_cons_self))

theorem sumL_le_ofNat_length (l : List α) (h : ∀ x ∈ l, x ≤ 𝟙) : sumL l ≤ ofNat l.length := by
  have := M.foldl_le_ofNat (f := id) (fun _ _ => M.le_refl' _) l 𝟘 0 (M.le_refl' _) h
  rwa [Nat.zero_add] at this

theorem sabs_sumL_le (l : List α) (h1 : ∀ x ∈ l, x ≤ 𝟙) (h2 : ∀ x ∈ l, -x ≤ 𝟙) :
    sabs (sumL l) ≤ ofNat l.length := by
  have := M.foldl_le_ofNat M.neg_add_le' l 𝟘 0 (M.neg_nonpos' (M.le_refl' _)) h2
  rw [Nat.zero_add] at this
  exact sabs_le (M.sumL_le_ofNat_length l h1) this

/-! ### `sabs` -/

theorem sabs_nonneg (a : α) : 𝟘 ≤ sabs a := by
  unfold sabs
  split
  · next h => exact M.neg_nonneg' (M.orderLaws.le_of_lt h)
  · next h => exact M.orderLaws.le_of_not_lt h

end MonoArith

end OS
