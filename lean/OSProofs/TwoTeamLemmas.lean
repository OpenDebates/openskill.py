import OSModel
import OSProofs.OrderLaws

/-!
# The two-team game term by term (every scalar type)

Only list structure and unfolding: no arithmetic law is used, so every equality here holds at each scalar
type, ℝ and `Float` included.

* a toy arithmetic in which regrouping a left fold fails (the regrouping of the predictions by team that
  needs no arithmetic law, `chunk (n-1) ∘ orderedPairs` written with `othersOf`, is in `PredictLemmas.lean`);
* `fl3_wr t r`, the team aggregate `t` with its rank replaced by `r`, and what `btPair`, `tmPair` and
  `plOmegaDelta` are on the two-team games `[fl3_wr t0 r0, fl3_wr t1 r1]` for a win, a draw, a loss.
-/

namespace OS
open Scalar
variable {α : Type} [Scalar α]

/-! ### regrouping a left fold is not a list-structure fact -/

/-- a toy scalar type: integers in which every sum above 4 is truncated to an even number
(a caricature of a floating-point format whose spacing is 2 above 4): monotone, not associative -/
structure Fl3Toy where
  v : Int
  deriving DecidableEq

def Fl3Toy.rnd (s : Int) : Int := if s > 4 then s - s % 2 else s

instance : Scalar Fl3Toy where
  add a b := ⟨Fl3Toy.rnd (a.v + b.v)⟩
  sub a b := ⟨a.v - b.v⟩
  mul a b := ⟨a.v * b.v⟩
  div a b := ⟨a.v / b.v⟩
  neg a := ⟨-a.v⟩
  lt a b := a.v < b.v
  le a b := a.v ≤ b.v
  ofNat n := ⟨n⟩
  sqrt a := a
  exp a := a
  Phi a := a
  phi a := a
  PhiInv a := a
  decLt a b := inferInstanceAs (Decidable (a.v < b.v))
  decLe a b := inferInstanceAs (Decidable (a.v ≤ b.v))

/-- in the toy arithmetic the flat left fold over `[4, 1, 1]` and the "sum of the per-group sums" over
`[[4], [1, 1]]` differ (4 vs 6): regrouping a `sumL` needs associativity -/
theorem fl3_toy_regroup_fails :
    sumL ([[(⟨4⟩ : Fl3Toy)], [⟨1⟩, ⟨1⟩]].flatten) = ⟨4⟩
    ∧ sumL ([[(⟨4⟩ : Fl3Toy)], [⟨1⟩, ⟨1⟩]].map sumL) = ⟨6⟩ := by
  decide

/-! ### the same team with another rank -/

/-- the team aggregate `t` with its rank replaced by `r` (mu, sig2, players unchanged) -/
def fl3_wr (t : TeamAgg α) (r : Nat) : TeamAgg α := { t with rank := r }

omit [Scalar α] in
@[simp] theorem fl3_wr_mu (t : TeamAgg α) (r : Nat) : (fl3_wr t r).mu = t.mu := rfl
omit [Scalar α] in
@[simp] theorem fl3_wr_sig2 (t : TeamAgg α) (r : Nat) : (fl3_wr t r).sig2 = t.sig2 := rfl
omit [Scalar α] in
@[simp] theorem fl3_wr_rank (t : TeamAgg α) (r : Nat) : (fl3_wr t r).rank = r := rfl
omit [Scalar α] in
@[simp] theorem fl3_wr_players (t : TeamAgg α) (r : Nat) : (fl3_wr t r).players = t.players := rfl
theorem fl3_wr_teamAgg (T : List (Rating α)) (d r : Nat) : fl3_wr (teamAgg T d) r = teamAgg T r := rfl

theorem fl3_othersOf_two_zero {β : Type} (a b : β) : othersOf [a, b] 0 = [b] := rfl
theorem fl3_othersOf_two_one {β : Type} (a b : β) : othersOf [a, b] 1 = [a] := rfl
theorem fl3_neighboursOf_two_zero {β : Type} (a b : β) : neighboursOf [a, b] 0 = [b] := rfl
theorem fl3_neighboursOf_two_one {β : Type} (a b : β) : neighboursOf [a, b] 1 = [a] := rfl

/-! ### Bradley–Terry -/

/-- the Bradley–Terry divisor `c_iq` (`pairC` of `PairLemmas.lean` over ℝ) -/
def fl3_ciq (beta : α) (ti tq : TeamAgg α) : α :=
  sqrt (ti.sig2 + tq.sig2 + ofNat 2 * (beta * beta))

/-- the mean component of one Bradley–Terry pair with the score `s ∈ {1, 1/2, 0}` as a parameter:
`σ²_i / c_iq * (s − p_iq)` -/
def fl3_btOm (beta : α) (ti tq : TeamAgg α) (s : α) : α :=
  ti.sig2 / fl3_ciq beta ti tq
    * (s - 𝟙 / (𝟙 + exp ((tq.mu - ti.mu) / fl3_ciq beta ti tq)))

theorem fl3_btPair_fst (beta : α) (g : GammaFn α) (n : Nat) (ti tq : TeamAgg α) (ri rq : Nat) :
    (btPair beta g n (fl3_wr ti ri) (fl3_wr tq rq)).1
      = fl3_btOm beta ti tq (if ri < rq then 𝟙 else if rq = ri then 𝟙 / ofNat 2 else 𝟘) := rfl

/-! ### Plackett–Luce: the two-team `ω` as explicit terms

`fl3_pl0_…` is the `ω` of the team at position 0 of `[t0, t1]`, `fl3_pl1_…` of the team at position 1;
`_win`, `_draw`, `_loss` is the outcome from that team's side.  `e_i = exp(μ_i / c)`;
`sumL [e0, e1] = (0 + e0) + e1` is `sum_q` of a team that is not ranked behind the other, `sumL [e_i] = 0 + e_i`
is `sum_q` of a sole last team; `A_q` is `1` (no tie) or `2` (tie). -/

/-- **the two-team `ω` with the rank filters still to be decided.**  The loop of team `ti` (position `i`) runs
over the rows `((team, sum_q, A_q), position)` of the teams not ranked behind `ti`; `sum_q` of a team adds
the teams it is not ranked behind, `A_q` counts the teams tied with it.  The six cases below decide the five
filters from the order of the two ranks; what is left is computation. -/
theorem fl3_pl_two (g : GammaFn α) (a b ti : TeamAgg α) (c : α) (i : Nat) :
    (plOmegaDelta g [a, b] c (plSumQ [a, b] c) (plA [a, b]) i ti).1
      = sumL (([((a, sumL (([a, b].filter fun t => decide (a.rank ≤ t.rank)).map fun t => exp (t.mu / c)),
                    ([a, b].filter fun t => decide (a.rank = t.rank)).length), 0),
                ((b, sumL (([a, b].filter fun t => decide (b.rank ≤ t.rank)).map fun t => exp (t.mu / c)),
                    ([a, b].filter fun t => decide (b.rank = t.rank)).length), 1)].filter
              fun x => decide (x.1.1.rank ≤ ti.rank)).map fun x =>
          if x.2 = i then (𝟙 - exp (ti.mu / c) / x.1.2.1) / ofNat x.1.2.2
          else -(exp (ti.mu / c) / x.1.2.1 / ofNat x.1.2.2)) * (ti.sig2 / c) := rfl

theorem fl3_pl0_win (g : GammaFn α) (t0 t1 : TeamAgg α) (c : α) {r0 r1 : Nat} (h : r0 < r1) :
    (plOmegaDelta g [fl3_wr t0 r0, fl3_wr t1 r1] c (plSumQ [fl3_wr t0 r0, fl3_wr t1 r1] c)
      (plA [fl3_wr t0 r0, fl3_wr t1 r1]) 0 (fl3_wr t0 r0)).1
    = sumL [(𝟙 - exp (t0.mu / c) / sumL [exp (t0.mu / c), exp (t1.mu / c)]) / ofNat 1]
        * (t0.sig2 / c) := by
  rw [fl3_pl_two]
  simp only [List.filter, fl3_wr_rank, Nat.le_refl, Nat.not_le.2 h, Nat.le_of_lt h, Nat.ne_of_lt h,
    decide_true, decide_false]
  rfl

theorem fl3_pl0_draw (g : GammaFn α) (t0 t1 : TeamAgg α) (c : α) (r : Nat) :
    (plOmegaDelta g [fl3_wr t0 r, fl3_wr t1 r] c (plSumQ [fl3_wr t0 r, fl3_wr t1 r] c)
      (plA [fl3_wr t0 r, fl3_wr t1 r]) 0 (fl3_wr t0 r)).1
    = sumL [(𝟙 - exp (t0.mu / c) / sumL [exp (t0.mu / c), exp (t1.mu / c)]) / ofNat 2,
         -(exp (t0.mu / c) / sumL [exp (t0.mu / c), exp (t1.mu / c)] / ofNat 2)]
        * (t0.sig2 / c) := by
  rw [fl3_pl_two]
  simp only [List.filter, fl3_wr_rank, Nat.le_refl, decide_true]
  rfl

theorem fl3_pl0_loss (g : GammaFn α) (t0 t1 : TeamAgg α) (c : α) {r0 r1 : Nat} (h : r1 < r0) :
    (plOmegaDelta g [fl3_wr t0 r0, fl3_wr t1 r1] c (plSumQ [fl3_wr t0 r0, fl3_wr t1 r1] c)
      (plA [fl3_wr t0 r0, fl3_wr t1 r1]) 0 (fl3_wr t0 r0)).1
    = sumL [(𝟙 - exp (t0.mu / c) / sumL [exp (t0.mu / c)]) / ofNat 1,
         -(exp (t0.mu / c) / sumL [exp (t0.mu / c), exp (t1.mu / c)] / ofNat 1)]
        * (t0.sig2 / c) := by
  rw [fl3_pl_two]
  simp only [List.filter, fl3_wr_rank, Nat.le_refl, Nat.not_le.2 h, Nat.le_of_lt h, Nat.ne_of_lt h,
    (Nat.ne_of_lt h).symm, decide_true, decide_false]
  rfl

theorem fl3_pl1_win (g : GammaFn α) (t0 t1 : TeamAgg α) (c : α) {r0 r1 : Nat} (h : r1 < r0) :
    (plOmegaDelta g [fl3_wr t0 r0, fl3_wr t1 r1] c (plSumQ [fl3_wr t0 r0, fl3_wr t1 r1] c)
      (plA [fl3_wr t0 r0, fl3_wr t1 r1]) 1 (fl3_wr t1 r1)).1
    = sumL [(𝟙 - exp (t1.mu / c) / sumL [exp (t0.mu / c), exp (t1.mu / c)]) / ofNat 1]
        * (t1.sig2 / c) := by
  rw [fl3_pl_two]
  simp only [List.filter, fl3_wr_rank, Nat.le_refl, Nat.not_le.2 h, Nat.le_of_lt h, Nat.ne_of_lt h,
    decide_true, decide_false]
  rfl

theorem fl3_pl1_draw (g : GammaFn α) (t0 t1 : TeamAgg α) (c : α) (r : Nat) :
    (plOmegaDelta g [fl3_wr t0 r, fl3_wr t1 r] c (plSumQ [fl3_wr t0 r, fl3_wr t1 r] c)
      (plA [fl3_wr t0 r, fl3_wr t1 r]) 1 (fl3_wr t1 r)).1
    = sumL [-(exp (t1.mu / c) / sumL [exp (t0.mu / c), exp (t1.mu / c)] / ofNat 2),
        (𝟙 - exp (t1.mu / c) / sumL [exp (t0.mu / c), exp (t1.mu / c)]) / ofNat 2]
        * (t1.sig2 / c) := by
  rw [fl3_pl_two]
  simp only [List.filter, fl3_wr_rank, Nat.le_refl, decide_true]
  rfl

theorem fl3_pl1_loss (g : GammaFn α) (t0 t1 : TeamAgg α) (c : α) {r0 r1 : Nat} (h : r0 < r1) :
    (plOmegaDelta g [fl3_wr t0 r0, fl3_wr t1 r1] c (plSumQ [fl3_wr t0 r0, fl3_wr t1 r1] c)
      (plA [fl3_wr t0 r0, fl3_wr t1 r1]) 1 (fl3_wr t1 r1)).1
    = sumL [-(exp (t1.mu / c) / sumL [exp (t0.mu / c), exp (t1.mu / c)] / ofNat 1),
        (𝟙 - exp (t1.mu / c) / sumL [exp (t1.mu / c)]) / ofNat 1]
        * (t1.sig2 / c) := by
  rw [fl3_pl_two]
  simp only [List.filter, fl3_wr_rank, Nat.le_refl, Nat.not_le.2 h, Nat.le_of_lt h, Nat.ne_of_lt h,
    (Nat.ne_of_lt h).symm, decide_true, decide_false]
  rfl

/-! ### Thurstone–Mosteller -/

/-- the Thurstone–Mosteller divisor `cmul * c_iq` (the model's `tracePairC`; `cmul * pairC` and `lgp_tmC` over ℝ) -/
def fl3_tmC (cmul beta : α) (ti tq : TeamAgg α) : α :=
  cmul * sqrt (ti.sig2 + tq.sig2 + ofNat 2 * (beta * beta))

/-- the first leaf argument `(μ_i − μ_q) / c` -/
def fl3_tmD (cmul beta : α) (ti tq : TeamAgg α) : α := (ti.mu - tq.mu) / fl3_tmC cmul beta ti tq

/-- the second leaf argument `κ / c` (the code passes `kappa`, not a draw margin, as `t`) -/
def fl3_tmT (cmul beta kappa : α) (ti tq : TeamAgg α) : α := kappa / fl3_tmC cmul beta ti tq

theorem fl3_tmPair_fst (L : Leaves α) (cmul beta kappa : α) (g : GammaFn α) (n : Nat)
    (ti tq : TeamAgg α) (ri rq : Nat) :
    (tmPair L cmul beta kappa g n (fl3_wr ti ri) (fl3_wr tq rq)).1
      = if ri < rq then
          ti.sig2 / fl3_tmC cmul beta ti tq
            * L.v (fl3_tmD cmul beta ti tq) (fl3_tmT cmul beta kappa ti tq)
        else if rq < ri then
          (-(ti.sig2 / fl3_tmC cmul beta ti tq))
            * L.v (-(fl3_tmD cmul beta ti tq)) (fl3_tmT cmul beta kappa ti tq)
        else
          ti.sig2 / fl3_tmC cmul beta ti tq
            * L.vt (fl3_tmD cmul beta ti tq) (fl3_tmT cmul beta kappa ti tq) := by
  unfold tmPair
  simp only [apply_ite Prod.fst]
  rfl

end OS
