import OSModel.RatingOps
/-!
The two facts by which the rating operators as written in the five model files (`if c: return True` / `else: return False`)
are the model's (`decide c`); `OSProofs/GenTie.lean` needs nothing else besides unfolding.
-/
namespace OS

theorem CmpOut.ite_bool (c : Prop) [Decidable c] :
    (if c then CmpOut.bool true else .bool false) = .bool (decide c) := by
  by_cases h : c
  · rw [if_pos h, decide_eq_true h]
  · rw [if_neg h, decide_eq_false h]

theorem ite_and_bool (p q : Bool) : (if p = true ∧ q = true then true else false) = (p && q) := by
  cases p <;> cases q <;> rfl

end OS
