import OSProofs.C05SpecLemmas
import OSProofs.Props.C05b
/-!
# C05 — direction of learning (game level, continued): place exchange and identical teams

Every member of team `i` moves by `(σ̂²/σ_team²)·Ω_i` with a non-negative factor
(`C05_same_direction`, `C05_members_mono`), so "posterior mu does not go down" is a statement
about `Ω_i`.  All statements are about `omegaDelta` (the `(Ω_i, Δ_i)` of `_compute`) at `α := ℝ`,
for arbitrary lists of team aggregates; the only hypotheses on the numbers are `σ_team² ≥ 0`, and
`κ ≥ 0` + the leaf facts where Thurstone–Mosteller's `Ṽ`/`V` occur.  `β` is arbitrary.

Full pairing: `Ω_i` is monotone in the outcomes of team `i`, ties or not.  Plackett–Luce: the
better-placed of two identical teams gets the larger `Ω`, and exchanging places with a better-placed
team does not lower `Ω`, as long as the tie group at the better place is no larger than the one at
the worse place; with a tie at the better place both statements are FALSE, for the code and for the
published formula alike (a tied winner only gets `1/A` of the winner's credit).  Partial pairing is
treated for a ladder of identical teams only.
-/
noncomputable section
namespace OS

/-! ## 1. full pairing: better outcomes, larger `Ω` -/

/-- **Full pairing (Bradley–Terry and Thurstone–Mosteller): `Ω_i` is monotone in the outcomes
of team `i`.**  `ts` and `ts'` are two games with the same teams (same length, same mu and
variance position by position) and possibly different ranks.  If against every opponent `q` the
outcome of `i` in `ts'` is at least as good as in `ts` (a win stays a win, a tie stays a tie or
becomes a win) then `Ω_i(ts) ≤ Ω_i(ts')`.  Needs `σ_i² ≥ 0`; for Thurstone–Mosteller also
`κ ≥ 0` and the leaf facts `−V(−x,t) ≤ Ṽ(x,t) ≤ V(x,t)`. -/
theorem C05_rank_improve_full (K : Kind) (hK : K = .BTF ∨ K = .TMF) (L : Leaves ℝ) (P : Params ℝ)
    (hTM : K = .TMF → LeafFacts L ∧ 0 ≤ P.kappa)
    (ts ts' : List (TeamAgg ℝ)) (hlen : ts'.length = ts.length)
    (hmu : ∀ (q : Nat) (hq : q < ts.length), (ts'[q]'(by omega)).mu = ts[q].mu)
    (hsig : ∀ (q : Nat) (hq : q < ts.length), (ts'[q]'(by omega)).sig2 = ts[q].sig2)
    (i : Nat) (hi : i < ts.length) (hs : 0 ≤ ts[i].sig2)
    (himp : ∀ (q : Nat) (hq : q < ts.length), q ≠ i →
      (ts[i].rank < ts[q].rank → (ts'[i]'(by omega)).rank < (ts'[q]'(by omega)).rank) ∧
      (ts[i].rank = ts[q].rank → (ts'[i]'(by omega)).rank ≤ (ts'[q]'(by omega)).rank)) :
    ((omegaDelta K L P ts)[i]'(omegaDelta_lt L P ts hi)).1 ≤
      ((omegaDelta K L P ts')[i]'(omegaDelta_lt L P ts' (by omega))).1 := by
  rw [omegaDelta_fst_eq_omegaAt K L P ts ts.length rfl i hi,
    omegaDelta_fst_eq_omegaAt K L P ts' ts.length hlen i (by omega)]
  -- opponent by opponent
  rcases hK with rfl | rfl <;> simp only [omegaAt]
  · exact Finset.sum_le_sum fun q hq => btPair_fst_mono P.beta _ _ _ _ hs ⟨hmu i hi, hsig i hi⟩
      ⟨hmu q.1 q.2, hsig q.1 q.2⟩ (himp q.1 q.2 fun e => (Finset.mem_filter.1 hq).2 (Fin.ext e))
  · exact Finset.sum_le_sum fun q hq => tmPair_fst_mono (hTM rfl).1 _ _ _ _ zero_le_one (hTM rfl).2 hs
      ⟨hmu i hi, hsig i hi⟩ ⟨hmu q.1 q.2, hsig q.1 q.2⟩
      (himp q.1 q.2 fun e => (Finset.mem_filter.1 hq).2 (Fin.ext e))

/-- **Full pairing: exchanging places with a better-placed team.**  `ts'` is `ts` with the ranks
of the teams at positions `i` and `q` exchanged, where `q` is placed strictly better than `i`.
Then the team that moves up does not lose (`Ω_i(ts) ≤ Ω_i(ts')`) and the team that moves down
does not gain (`Ω_q(ts') ≤ Ω_q(ts)`).  Ties anywhere in the game are allowed. -/
theorem C05_exchange_full (K : Kind) (hK : K = .BTF ∨ K = .TMF) (L : Leaves ℝ) (P : Params ℝ)
    (hTM : K = .TMF → LeafFacts L ∧ 0 ≤ P.kappa)
    (ts ts' : List (TeamAgg ℝ)) (hlen : ts'.length = ts.length)
    (hmu : ∀ (p : Nat) (hp : p < ts.length), (ts'[p]'(by omega)).mu = ts[p].mu)
    (hsig : ∀ (p : Nat) (hp : p < ts.length), (ts'[p]'(by omega)).sig2 = ts[p].sig2)
    (i q : Nat) (hi : i < ts.length) (hq : q < ts.length)
    (hsi : 0 ≤ ts[i].sig2) (hsq : 0 ≤ ts[q].sig2)
    (hr : ts[q].rank < ts[i].rank)
    (hri : (ts'[i]'(by omega)).rank = ts[q].rank) (hrq : (ts'[q]'(by omega)).rank = ts[i].rank)
    (hro : ∀ (p : Nat) (hp : p < ts.length), p ≠ i → p ≠ q → (ts'[p]'(by omega)).rank = ts[p].rank) :
    ((omegaDelta K L P ts)[i]'(omegaDelta_lt L P ts hi)).1 ≤
      ((omegaDelta K L P ts')[i]'(omegaDelta_lt L P ts' (by omega))).1 ∧
    ((omegaDelta K L P ts')[q]'(omegaDelta_lt L P ts' (by omega))).1 ≤
      ((omegaDelta K L P ts)[q]'(omegaDelta_lt L P ts hq)).1 := by
  constructor
  · refine C05_rank_improve_full K hK L P hTM ts ts' hlen hmu hsig i hi hsi fun p hp hne => ?_
    rw [hri]
    by_cases hpq : p = q
    · subst hpq
      rw [hrq]
      exact ⟨fun _ => hr, fun _ => hr.le⟩
    · rw [hro p hp hne hpq]
      exact ⟨fun h => hr.trans h, fun h => h ▸ hr.le⟩
  · refine C05_rank_improve_full K hK L P hTM ts' ts hlen.symm
      (fun p hp => (hmu p (hlen ▸ hp)).symm) (fun p hp => (hsig p (hlen ▸ hp)).symm) q (hlen ▸ hq)
      (by rw [hsig q hq]; exact hsq) fun p hp hne => ?_
    rw [hrq]
    by_cases hpi : p = i
    · subst hpi
      rw [hri]
      exact ⟨fun _ => hr, fun _ => hr.le⟩
    · rw [hro p (hlen ▸ hp) hpi hne]
      exact ⟨fun h => hr.trans h, fun h => h ▸ hr.le⟩

/-! ## 2. Plackett–Luce: identical teams -/

/-- no two teams of the game share a rank -/
def C05_TieFree (ts : List (TeamAgg ℝ)) : Prop :=
  ∀ (p q : Nat) (hp : p < ts.length) (hq : q < ts.length), p ≠ q → ts[p].rank ≠ ts[q].rank

/-- **Identical teams, Plackett–Luce, by size of the tie groups.**  If the teams at positions `i`
and `k` have the same mu and the same variance, `i` placed strictly better than `k`, and the
tie group of `i` (the number of teams sharing `i`'s rank, `i` included) is no larger than the tie
group of `k`, then `Ω_k ≤ Ω_i`.  The exact identity behind it (`e` the common strength):
`Ω_i − Ω_k = (σ²/c)·(1/A_i − 1/A_k + Σ_{q : r_i < r_q ≤ r_k} (e/S_q)/A_q)`. -/
theorem C05_identical_teams_PL_groups (L : Leaves ℝ) (P : Params ℝ) (ts : List (TeamAgg ℝ))
    (i k : Nat) (hi : i < ts.length) (hk : k < ts.length) (hs : 0 ≤ ts[i].sig2)
    (hmu : ts[i].mu = ts[k].mu) (hsig : ts[i].sig2 = ts[k].sig2) (hr : ts[i].rank < ts[k].rank)
    (hA : C05_tieGroup ts ts[i].rank ≤ C05_tieGroup ts ts[k].rank) :
    ((omegaDelta .PL L P ts)[k]'(omegaDelta_lt L P ts hk)).1 ≤
      ((omegaDelta .PL L P ts)[i]'(omegaDelta_lt L P ts hi)).1 := by
  simp only [omegaDelta_fst_eq_omegaAt .PL L P ts ts.length rfl i hi,
    omegaDelta_fst_eq_omegaAt .PL L P ts ts.length rfl k hk, omegaAt]
  exact SpecPL.Ω_twins _ P.beta ⟨i, hi⟩ ⟨k, hk⟩ hmu hsig hs hr
    (by rw [SpecPL.A_gameAt, SpecPL.A_gameAt]; exact hA)

/-- **Identical teams, Plackett–Luce: the better-placed twin learns more**, provided the better
place is not shared: no other team has the rank of `i`.  (Ties anywhere else, including at `k`'s
place, are allowed.) -/
theorem C05_identical_teams_PL (L : Leaves ℝ) (P : Params ℝ) (ts : List (TeamAgg ℝ))
    (i k : Nat) (hi : i < ts.length) (hk : k < ts.length) (hs : 0 ≤ ts[i].sig2)
    (hmu : ts[i].mu = ts[k].mu) (hsig : ts[i].sig2 = ts[k].sig2) (hr : ts[i].rank < ts[k].rank)
    (huntied : ∀ (p : Nat) (hp : p < ts.length), p ≠ i → ts[p].rank ≠ ts[i].rank) :
    ((omegaDelta .PL L P ts)[k]'(omegaDelta_lt L P ts hk)).1 ≤
      ((omegaDelta .PL L P ts)[i]'(omegaDelta_lt L P ts hi)).1 := by
  refine C05_identical_teams_PL_groups L P ts i k hi hk hs hmu hsig hr ?_
  rw [tieGroup_eq_one ts i hi huntied]
  exact tieGroup_pos ts k hk

/-- … in particular in every tie-free game -/
theorem C05_identical_teams_PL_tiefree (L : Leaves ℝ) (P : Params ℝ) (ts : List (TeamAgg ℝ))
    (htf : C05_TieFree ts)
    (i k : Nat) (hi : i < ts.length) (hk : k < ts.length) (hs : 0 ≤ ts[i].sig2)
    (hmu : ts[i].mu = ts[k].mu) (hsig : ts[i].sig2 = ts[k].sig2) (hr : ts[i].rank < ts[k].rank) :
    ((omegaDelta .PL L P ts)[k]'(omegaDelta_lt L P ts hk)).1 ≤
      ((omegaDelta .PL L P ts)[i]'(omegaDelta_lt L P ts hi)).1 :=
  C05_identical_teams_PL L P ts i k hi hk hs hmu hsig hr (fun p hp hne => htf p i hp hi hne)

/-! ## 3. Plackett–Luce: place exchange -/

/-- **Plackett–Luce: exchanging places with a better-placed team, by size of the tie groups.**
`ts'` is `ts` with the ranks of the teams at positions `i` and `q` exchanged, `q` placed strictly
better than `i`, and the tie group of `q` no larger than the tie group of `i`.  Then the team that
moves up does not lose (`Ω_i(ts) ≤ Ω_i(ts')`) and the team that moves down does not gain
(`Ω_q(ts') ≤ Ω_q(ts)`). -/
theorem C05_exchange_PL_groups (L : Leaves ℝ) (P : Params ℝ)
    (ts ts' : List (TeamAgg ℝ)) (hlen : ts'.length = ts.length)
    (hmu : ∀ (p : Nat) (hp : p < ts.length), (ts'[p]'(by omega)).mu = ts[p].mu)
    (hsig : ∀ (p : Nat) (hp : p < ts.length), (ts'[p]'(by omega)).sig2 = ts[p].sig2)
    (i q : Nat) (hi : i < ts.length) (hq : q < ts.length)
    (hsi : 0 ≤ ts[i].sig2) (hsq : 0 ≤ ts[q].sig2)
    (hr : ts[q].rank < ts[i].rank)
    (hri : (ts'[i]'(by omega)).rank = ts[q].rank) (hrq : (ts'[q]'(by omega)).rank = ts[i].rank)
    (hro : ∀ (p : Nat) (hp : p < ts.length), p ≠ i → p ≠ q → (ts'[p]'(by omega)).rank = ts[p].rank)
    (hA : C05_tieGroup ts ts[q].rank ≤ C05_tieGroup ts ts[i].rank) :
    ((omegaDelta .PL L P ts)[i]'(omegaDelta_lt L P ts hi)).1 ≤
      ((omegaDelta .PL L P ts')[i]'(omegaDelta_lt L P ts' (by omega))).1 ∧
    ((omegaDelta .PL L P ts')[q]'(omegaDelta_lt L P ts' (by omega))).1 ≤
      ((omegaDelta .PL L P ts)[q]'(omegaDelta_lt L P ts hq)).1 := by
  have hA' : SpecPL.A (gameAt ts ts.length rfl) ⟨q, hq⟩
      ≤ SpecPL.A (gameAt ts ts.length rfl) ⟨i, hi⟩ := by
    rw [SpecPL.A_gameAt, SpecPL.A_gameAt]; exact hA
  have hθ : (gameAt ts' ts.length hlen).θ = (gameAt ts ts.length rfl).θ :=
    funext fun p => hmu p.1 p.2
  have hs2 : (gameAt ts' ts.length hlen).s2 = (gameAt ts ts.length rfl).s2 :=
    funext fun p => hsig p.1 p.2
  have hsw := swp_swap_ranks ts ts' hlen i q hi hq hri hrq hro
  simp only [omegaDelta_fst_eq_omegaAt .PL L P ts ts.length rfl i hi,
    omegaDelta_fst_eq_omegaAt .PL L P ts ts.length rfl q hq,
    omegaDelta_fst_eq_omegaAt .PL L P ts' ts.length hlen i (by omega),
    omegaDelta_fst_eq_omegaAt .PL L P ts' ts.length hlen q (by omega), omegaAt]
  exact ⟨SpecPL.swp_PL_exchange _ _ P.beta hθ hs2 ⟨i, hi⟩ ⟨q, hq⟩ hsw hr hsi hA',
    SpecPL.swp_PL_exchange_down _ _ P.beta hθ hs2 ⟨i, hi⟩ ⟨q, hq⟩ hsw hr hsq hA'⟩

/-- **Plackett–Luce: exchanging places with a better-placed team never lowers `Ω`** (and never
raises the `Ω` of the team that moves down), provided the better place is not shared: no other
team has the rank of `q` in `ts`.  With `A ≡ 1` on the places involved this is
`Ω_i = (σ_i²/c)·(1 − Σ_{p : r_p ≤ r_i} e_i/S_p)`: after the exchange the sum ranges over fewer
places, and for the places that remain the set `{j : r_j ≥ r_p}` — hence `S_p` — is unchanged. -/
theorem C05_exchange_PL (L : Leaves ℝ) (P : Params ℝ)
    (ts ts' : List (TeamAgg ℝ)) (hlen : ts'.length = ts.length)
    (hmu : ∀ (p : Nat) (hp : p < ts.length), (ts'[p]'(by omega)).mu = ts[p].mu)
    (hsig : ∀ (p : Nat) (hp : p < ts.length), (ts'[p]'(by omega)).sig2 = ts[p].sig2)
    (i q : Nat) (hi : i < ts.length) (hq : q < ts.length)
    (hsi : 0 ≤ ts[i].sig2) (hsq : 0 ≤ ts[q].sig2)
    (hr : ts[q].rank < ts[i].rank)
    (hri : (ts'[i]'(by omega)).rank = ts[q].rank) (hrq : (ts'[q]'(by omega)).rank = ts[i].rank)
    (hro : ∀ (p : Nat) (hp : p < ts.length), p ≠ i → p ≠ q → (ts'[p]'(by omega)).rank = ts[p].rank)
    (huntied : ∀ (p : Nat) (hp : p < ts.length), p ≠ q → ts[p].rank ≠ ts[q].rank) :
    ((omegaDelta .PL L P ts)[i]'(omegaDelta_lt L P ts hi)).1 ≤
      ((omegaDelta .PL L P ts')[i]'(omegaDelta_lt L P ts' (by omega))).1 ∧
    ((omegaDelta .PL L P ts')[q]'(omegaDelta_lt L P ts' (by omega))).1 ≤
      ((omegaDelta .PL L P ts)[q]'(omegaDelta_lt L P ts hq)).1 := by
  refine C05_exchange_PL_groups L P ts ts' hlen hmu hsig i q hi hq hsi hsq hr hri hrq hro ?_
  rw [tieGroup_eq_one ts q hq huntied]
  exact tieGroup_pos ts i hi

/-- … in particular in every tie-free game -/
theorem C05_exchange_PL_tiefree (L : Leaves ℝ) (P : Params ℝ)
    (ts ts' : List (TeamAgg ℝ)) (htf : C05_TieFree ts) (hlen : ts'.length = ts.length)
    (hmu : ∀ (p : Nat) (hp : p < ts.length), (ts'[p]'(by omega)).mu = ts[p].mu)
    (hsig : ∀ (p : Nat) (hp : p < ts.length), (ts'[p]'(by omega)).sig2 = ts[p].sig2)
    (i q : Nat) (hi : i < ts.length) (hq : q < ts.length)
    (hsi : 0 ≤ ts[i].sig2) (hsq : 0 ≤ ts[q].sig2)
    (hr : ts[q].rank < ts[i].rank)
    (hri : (ts'[i]'(by omega)).rank = ts[q].rank) (hrq : (ts'[q]'(by omega)).rank = ts[i].rank)
    (hro : ∀ (p : Nat) (hp : p < ts.length), p ≠ i → p ≠ q → (ts'[p]'(by omega)).rank = ts[p].rank) :
    ((omegaDelta .PL L P ts)[i]'(omegaDelta_lt L P ts hi)).1 ≤
      ((omegaDelta .PL L P ts')[i]'(omegaDelta_lt L P ts' (by omega))).1 ∧
    ((omegaDelta .PL L P ts')[q]'(omegaDelta_lt L P ts' (by omega))).1 ≤
      ((omegaDelta .PL L P ts)[q]'(omegaDelta_lt L P ts hq)).1 :=
  C05_exchange_PL L P ts ts' hlen hmu hsig i q hi hq hsi hsq hr hri hrq hro
    (fun p hp hne => htf p q hp hq hne)

/-! ## 4. the exchange as an operation on the game; from `Ω` to the members -/

/-- **Place exchange, full pairing, on the game itself**: for `K ∈ {BTF, TMF}`, after
`C05_exchangeRanks ts i q` with `q` placed strictly better than `i`, `Ω_i` has not gone down and `Ω_q`
has not gone up. -/
theorem C05_exchange_full_game (K : Kind) (hK : K = .BTF ∨ K = .TMF) (L : Leaves ℝ) (P : Params ℝ)
    (hTM : K = .TMF → LeafFacts L ∧ 0 ≤ P.kappa) (ts : List (TeamAgg ℝ))
    (i q : Nat) (hi : i < ts.length) (hq : q < ts.length)
    (hsi : 0 ≤ ts[i].sig2) (hsq : 0 ≤ ts[q].sig2) (hr : ts[q].rank < ts[i].rank) :
    ((omegaDelta K L P ts)[i]'(omegaDelta_lt L P ts hi)).1 ≤
      ((omegaDelta K L P (C05_exchangeRanks ts i q))[i]'(omegaDelta_lt L P _ (by simpa using hi))).1 ∧
    ((omegaDelta K L P (C05_exchangeRanks ts i q))[q]'(omegaDelta_lt L P _ (by simpa using hq))).1 ≤
      ((omegaDelta K L P ts)[q]'(omegaDelta_lt L P ts hq)).1 := by
  obtain ⟨h1, h2, h3, h4⟩ := swp_exchangeRanks_spec ts i q hi hq
  exact C05_exchange_full K hK L P hTM ts (C05_exchangeRanks ts i q) (by simp)
    (fun p hp => (h1 p hp).1) (fun p hp => (h1 p hp).2.1) i q hi hq hsi hsq hr h2 h3 h4

/-- **Place exchange, Plackett–Luce, on the game itself**: in a tie-free game, after
`C05_exchangeRanks ts i q` with `q` placed strictly better than `i`, `Ω_i` has not gone down and `Ω_q`
has not gone up. -/
theorem C05_exchange_PL_game (L : Leaves ℝ) (P : Params ℝ) (ts : List (TeamAgg ℝ))
    (htf : C05_TieFree ts) (i q : Nat) (hi : i < ts.length) (hq : q < ts.length)
    (hsi : 0 ≤ ts[i].sig2) (hsq : 0 ≤ ts[q].sig2) (hr : ts[q].rank < ts[i].rank) :
    ((omegaDelta .PL L P ts)[i]'(omegaDelta_lt L P ts hi)).1 ≤
      ((omegaDelta .PL L P (C05_exchangeRanks ts i q))[i]'(omegaDelta_lt L P _ (by simpa using hi))).1 ∧
    ((omegaDelta .PL L P (C05_exchangeRanks ts i q))[q]'(omegaDelta_lt L P _ (by simpa using hq))).1 ≤
      ((omegaDelta .PL L P ts)[q]'(omegaDelta_lt L P ts hq)).1 := by
  obtain ⟨h1, h2, h3, h4⟩ := swp_exchangeRanks_spec ts i q hi hq
  exact C05_exchange_PL_tiefree L P ts (C05_exchangeRanks ts i q) htf (by simp)
    (fun p hp => (h1 p hp).1) (fun p hp => (h1 p hp).2.1) i q hi hq hsi hsq hr h2 h3 h4

/-- **From `Ω` to the members' mu.**  The same team (same roster, same team variance `≥ 0`) updated
with a larger `Ω`: every member ends with a mu at least as large (whatever the two `Δ`). -/
theorem C05_members_mono (κ ω ω' δ δ' : ℝ) (t t' : TeamAgg ℝ) (hp : t'.players = t.players)
    (hsig : t'.sig2 = t.sig2) (hs : 0 ≤ t.sig2) (hω : ω ≤ ω') :
    List.Forall₂ (fun p p' => p.mu ≤ p'.mu) (applyTeam κ t ω δ) (applyTeam κ t' ω' δ') := by
  unfold applyTeam
  rw [hp, hsig, List.forall₂_map_left_iff, List.forall₂_map_right_iff, List.forall₂_same]
  exact fun p _ => add_le_add_right (mul_le_mul_of_nonneg_left hω (share_nonneg p hs)) _

/-! ## 5. partial pairing: a ladder of identical teams -/

/-- **Partial pairing (BTP, TMP), all teams identical, no ties, teams listed by place** (the order
in which `rate` hands them to `_compute`).  Every team strictly between the first and the last
gets `Ω = 0` exactly (its win term against the team below and its loss term against the team above
cancel), every team that has a team below it gets `Ω ≥ 0` and every team that has a team above it
gets `Ω ≤ 0`; hence the posteriors are weakly ordered by place: `p` before `q` ⇒ `Ω_q ≤ Ω_p`.
(For TMP, `V ≥ 0` is used.) -/
theorem C05_all_identical_partial (K : Kind) (hK : K = .BTP ∨ K = .TMP) (L : Leaves ℝ)
    (hL : K = .TMP → LeafFacts L) (P : Params ℝ) (ts : List (TeamAgg ℝ)) (m s : ℝ) (hs : 0 ≤ s)
    (hid : ∀ t ∈ ts, t.mu = m ∧ t.sig2 = s)
    (hsorted : ∀ (p q : Nat) (hp : p < ts.length) (hq : q < ts.length), p < q →
      ts[p].rank < ts[q].rank) :
    (∀ (i : Nat) (hi : i < ts.length), 0 < i → i + 1 < ts.length →
      ((omegaDelta K L P ts)[i]'(omegaDelta_lt L P ts hi)).1 = 0) ∧
    (∀ (p q : Nat) (hp : p < ts.length) (hq : q < ts.length), p < q →
      ((omegaDelta K L P ts)[q]'(omegaDelta_lt L P ts hq)).1 ≤ 0 ∧
      0 ≤ ((omegaDelta K L P ts)[p]'(omegaDelta_lt L P ts hp)).1 ∧
      ((omegaDelta K L P ts)[q]'(omegaDelta_lt L P ts hq)).1 ≤
        ((omegaDelta K L P ts)[p]'(omegaDelta_lt L P ts hp)).1) := by
  have hC : 0 ≤ Real.sqrt (s + s + 2 * (P.beta * P.beta)) := Real.sqrt_nonneg _
  -- in both models `Ω_i` is the ladder sum for the win term `w` of a pair of these teams
  obtain ⟨w, hw, hΩ⟩ : ∃ w : ℝ, 0 ≤ w ∧ ∀ (i : Nat) (hi : i < ts.length),
      ((omegaDelta K L P ts)[i]'(omegaDelta_lt L P ts hi)).1 = ladderΩ w ts.length i := by
    rcases hK with rfl | rfl
    · refine ⟨s / Real.sqrt (s + s + 2 * (P.beta * P.beta)) * (1 / 2),
        mul_nonneg (div_nonneg hs hC) one_half_pos.le, fun i hi => ?_⟩
      simp only [omegaDelta_fst_eq_omegaAt .BTP L P ts ts.length rfl i hi, omegaAt]
      exact ladderΩ_sum (fun ti tq => (btPair P.beta P.gamma ts.length ti tq).1) _ ts hsorted
        (fun ti hi tq hq => btPair_fst_identical _ _ _ m s ti tq (hid ti hi) (hid tq hq)) i hi
    · refine ⟨s / (2 * Real.sqrt (s + s + 2 * (P.beta * P.beta))) *
          L.v 0 (P.kappa / (2 * Real.sqrt (s + s + 2 * (P.beta * P.beta)))),
        mul_nonneg (div_nonneg hs (mul_nonneg zero_le_two hC)) ((hL rfl).v_nonneg _ _), fun i hi => ?_⟩
      simp only [omegaDelta_fst_eq_omegaAt .TMP L P ts ts.length rfl i hi, omegaAt]
      exact ladderΩ_sum
        (fun ti tq => (tmPair L 2 P.beta P.kappa P.gamma ts.length ti tq).1) _ ts
        hsorted
        (fun ti hi tq hq => tmPair_fst_identical L _ _ _ _ _ m s ti tq (hid ti hi) (hid tq hq))
        i hi
  refine ⟨fun i hi h0 h1 => by rw [hΩ i hi, ladderΩ_mid w h0 h1], fun p q hp hq hpq => ?_⟩
  rw [hΩ p hp, hΩ q hq]
  have h1 := ladderΩ_nonpos hw (n := ts.length) (Nat.zero_lt_of_lt hpq)
  have h2 := ladderΩ_nonneg hw (Nat.lt_of_le_of_lt (Nat.succ_le_of_lt hpq) hq)
  exact ⟨h1, h2, h1.trans h2⟩

/-- the Bradley–Terry case of `C05_all_identical_partial` (no hypothesis on the leaves) -/
theorem C05_all_identical_partial_BTP (L : Leaves ℝ) (P : Params ℝ) (ts : List (TeamAgg ℝ))
    (m s : ℝ) (hs : 0 ≤ s) (hid : ∀ t ∈ ts, t.mu = m ∧ t.sig2 = s)
    (hsorted : ∀ (p q : Nat) (hp : p < ts.length) (hq : q < ts.length), p < q →
      ts[p].rank < ts[q].rank)
    (p q : Nat) (hp : p < ts.length) (hq : q < ts.length) (hpq : p < q) :
    ((omegaDelta .BTP L P ts)[q]'(omegaDelta_lt L P ts hq)).1 ≤
      ((omegaDelta .BTP L P ts)[p]'(omegaDelta_lt L P ts hp)).1 :=
  ((C05_all_identical_partial .BTP (Or.inl rfl) L (fun h => by cases h) P ts m s hs hid hsorted).2
    p q hp hq hpq).2.2

/-! ## 6. with a tie at the better place the Plackett–Luce statements are false -/

/-- **With a tie at the better place the Plackett–Luce statements fail.**  Five identical teams
(mu 0, variance 1), ranks `[0, 0, 1, 2, 3]`: positions 0 and 2 are identical teams and position 0
placed strictly better, yet `Ω_0 = (3/10)/c < (7/15)/c = Ω_2` — the team that finished alone in
second place learns more than the two teams that tied for first (each of which gets only half of
the winner's credit).  Any `β`, any leaves. -/
theorem C05_identical_teams_PL_ties_false (L : Leaves ℝ) (P : Params ℝ) :
    ((omegaDelta .PL L P swp_exTiesPL)[0]'(omegaDelta_lt L P _ (by decide))).1 <
      ((omegaDelta .PL L P swp_exTiesPL)[2]'(omegaDelta_lt L P _ (by decide))).1 := by
  simp only [omegaDelta_fst_eq_omegaAt .PL L P swp_exTiesPL 5 rfl 0 (by decide),
    omegaDelta_fst_eq_omegaAt .PL L P swp_exTiesPL 5 rfl 2 (by decide), omegaAt]
  have h := swp_exTies_vals P.beta
  have hc : 0 < SpecPL.c (gameAt swp_exTiesPL 5 rfl) P.beta := Real.sqrt_pos.2
    (Finset.sum_pos (fun j _ => by rw [swp_exTies_s2]; positivity) Finset.univ_nonempty)
  show SpecPL.Ω (gameAt swp_exTiesPL 5 rfl) P.beta 0 < SpecPL.Ω (gameAt swp_exTiesPL 5 rfl) P.beta 2
  rw [h.1, h.2]
  exact mul_lt_mul_of_pos_left (by norm_num) (by positivity)

/-- … and moving up into a shared place can cost mu: the team at position 2 of `swp_exTiesPL` (alone
in second place) exchanges ranks with the tied winner at position 0; its `Ω` drops from `(7/15)/c`
to `(3/10)/c`. -/
theorem C05_exchange_PL_ties_false (L : Leaves ℝ) (P : Params ℝ) :
    ((omegaDelta .PL L P (C05_exchangeRanks swp_exTiesPL 2 0))[2]'(omegaDelta_lt L P _ (by
        rw [swp_exchangeRanks_length]; decide))).1 <
      ((omegaDelta .PL L P swp_exTiesPL)[2]'(omegaDelta_lt L P _ (by decide))).1 := by
  rw [swp_exchangeRanks_twins L P swp_exTiesPL 2 0 (by decide) (by decide) (by decide) rfl rfl]
  exact C05_identical_teams_PL_ties_false L P

/-! ## non-vacuity -/

theorem swp_exGame_tieFree : C05_TieFree exGame := fun p q hp hq =>
  (by decide : ∀ (p : Nat) (hp : p < 3) (q : Nat) (hq : q < 3), p ≠ q →
    exGame[p].rank ≠ exGame[q].rank) p hp q hq

theorem swp_exTwins_tieFree : C05_TieFree exTwins := fun p q hp hq =>
  (by decide : ∀ (p : Nat) (hp : p < 3) (q : Nat) (hq : q < 3), p ≠ q →
    exTwins[p].rank ≠ exTwins[q].rank) p hp q hq

/-- the hypotheses of the exchange theorems are satisfiable: in `exGame` (ranks 0, 1, 2, no ties)
the last team exchanges places with the winner; full pairing, code leaves, any `β`, any `κ ≥ 0` -/
example (K : Kind) (hK : K = .BTF ∨ K = .TMF) (P : Params ℝ) (hκ : 0 ≤ P.kappa) :
    ((omegaDelta K codeLeaves P exGame)[2]'(omegaDelta_lt _ P _ (by simp [exGame]))).1 ≤
      ((omegaDelta K codeLeaves P (C05_exchangeRanks exGame 2 0))[2]'(omegaDelta_lt _ P _
        (by simp [exGame]))).1 ∧
    ((omegaDelta K codeLeaves P (C05_exchangeRanks exGame 2 0))[0]'(omegaDelta_lt _ P _
        (by simp [exGame]))).1 ≤
      ((omegaDelta K codeLeaves P exGame)[0]'(omegaDelta_lt _ P _ (by simp [exGame]))).1 :=
  C05_exchange_full_game K hK codeLeaves P (fun _ => ⟨leafFacts_code, hκ⟩) exGame 2 0
    (by decide) (by decide) (exGame_sig2 _ (List.getElem_mem _)) (exGame_sig2 _ (List.getElem_mem _))
    (by decide)

/-- … and under Plackett–Luce -/
example (P : Params ℝ) :
    ((omegaDelta .PL codeLeaves P exGame)[2]'(omegaDelta_lt _ P _ (by simp [exGame]))).1 ≤
      ((omegaDelta .PL codeLeaves P (C05_exchangeRanks exGame 2 0))[2]'(omegaDelta_lt _ P _
        (by simp [exGame]))).1 ∧
    ((omegaDelta .PL codeLeaves P (C05_exchangeRanks exGame 2 0))[0]'(omegaDelta_lt _ P _
        (by simp [exGame]))).1 ≤
      ((omegaDelta .PL codeLeaves P exGame)[0]'(omegaDelta_lt _ P _ (by simp [exGame]))).1 :=
  C05_exchange_PL_game codeLeaves P exGame swp_exGame_tieFree 2 0
    (by decide) (by decide) (exGame_sig2 _ (List.getElem_mem _)) (exGame_sig2 _ (List.getElem_mem _))
    (by decide)

/-- twins under Plackett–Luce: positions 0 and 2 of `exTwins` -/
example (P : Params ℝ) :
    ((omegaDelta .PL codeLeaves P exTwins)[2]'(omegaDelta_lt _ P _ (by simp [exTwins]))).1 ≤
      ((omegaDelta .PL codeLeaves P exTwins)[0]'(omegaDelta_lt _ P _ (by simp [exTwins]))).1 :=
  C05_identical_teams_PL_tiefree codeLeaves P exTwins swp_exTwins_tieFree 0 2 (by decide)
    (by decide) (show (0 : ℝ) ≤ 64 by norm_num) rfl rfl (by decide)

/-- twins in a game WITH ties elsewhere: positions 2 (alone in second place) and 3 of
`swp_exTiesPL`, whose first place is shared by positions 0 and 1 -/
example (P : Params ℝ) :
    ((omegaDelta .PL codeLeaves P swp_exTiesPL)[3]'(omegaDelta_lt _ P _ (by decide))).1 ≤
      ((omegaDelta .PL codeLeaves P swp_exTiesPL)[2]'(omegaDelta_lt _ P _ (by decide))).1 :=
  C05_identical_teams_PL codeLeaves P swp_exTiesPL 2 3 (by decide) (by decide)
    (show (0 : ℝ) ≤ 1 from zero_le_one) rfl rfl (by decide) (by decide)

/-- a ladder of three identical teams -/
def swp_exLadder : List (TeamAgg ℝ) := [⟨25, 64, 0, []⟩, ⟨25, 64, 1, []⟩, ⟨25, 64, 2, []⟩]

example (K : Kind) (hK : K = .BTP ∨ K = .TMP) (P : Params ℝ) :
    ((omegaDelta K codeLeaves P swp_exLadder)[1]'(omegaDelta_lt _ P _ (by decide))).1 = 0 ∧
    ((omegaDelta K codeLeaves P swp_exLadder)[2]'(omegaDelta_lt _ P _ (by decide))).1 ≤
      ((omegaDelta K codeLeaves P swp_exLadder)[0]'(omegaDelta_lt _ P _ (by decide))).1 := by
  have h := C05_all_identical_partial K hK codeLeaves (fun _ => leafFacts_code) P swp_exLadder 25 64
    (by norm_num) (by simp [swp_exLadder]) (fun p q hp hq =>
      (by decide : ∀ (p : Nat) (hp : p < 3) (q : Nat) (hq : q < 3), p < q →
        swp_exLadder[p].rank < swp_exLadder[q].rank) p hp q hq)
  exact ⟨h.1 1 (by decide) (by decide) (by decide), (h.2 0 2 (by decide) (by decide) (by decide)).2.2⟩

end OS
end
