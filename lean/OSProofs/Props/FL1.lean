import OSProofs.FL1Lemmas
import OSProofs.C02Lemmas

/-!
# FL1 — C05 / C06 hold *exactly* in every arithmetic with monotone rounding

Every theorem here is about the model of `OSModel` over an arbitrary scalar type `α` that satisfies the
order laws `MonoArith α` (`OSProofs/MonoArith.lean`): the reals, and "compute exactly, then round" for every
monotone, odd, idempotent rounding that fixes the natural numbers (`OSProofs/MonoArithInst.lean`).  No field
axiom is used, so the inequalities are statements about the numbers the library *returns*, not about
the exact values they approximate.

C06: no posterior sigma above the (inflated) prior, slot by slot, through the sort / compute / unsort round
trip and the limit_sigma clamp.  C05: a sole winner's `ω` is `≥ 0` and none of its members loses mu; a sole
loser's `ω` is `≤ 0` and none of its members gains mu.

Hypotheses, and why they are there:

* `GammaNonneg g` — the gamma callback is `≥ 0` for `c > 0`, `σ² ≥ 0`, at least one team;
* `DivisorsPos K P ts` — the divisors the code computes are `> 0`.  Positivity of a *product* (`c * c`)
  or of an `exp` cannot follow from order laws (both underflow to `0` in doubles), so it is assumed;
  everything that can be derived is derived (`DivisorsPosRest`: with positive team variances nothing is
  left to assume for Bradley–Terry, and only `0 < c * c` and `0 < exp(μ_t / c)` for Plackett–Luce);
* team variances `> 0` where a theorem divides by them (`share = σ² / Σσ²`): a `sumL` of squares is
  `≥ 0` by the laws (`FL_teamAggs_sig2_nonneg`), but `> 0` fails when every square underflows;
* `LeavesNonneg L` for the two Thurstone–Mosteller models only.
-/

namespace OS
open Scalar
variable {α : Type} [Scalar α]

section
variable (M : MonoArith α)
include M

/-! ### the per-player tail -/

/-- **The share is non-negative.**  In `applyTeam`, a player's share `σ·σ / Σσ²` of the team variance is
`≥ 0` as computed, whenever the computed team variance is `> 0`. -/
theorem FL_share_nonneg (t : TeamAgg α) (hs : 𝟘 < t.sig2) (p : Rating α) :
    𝟘 ≤ p.sigma * p.sigma / t.sig2 :=
  M.fl1_share_nonneg _ _ hs

/-- **applyTeam never raises a sigma.**  If the players' sigmas are `≥ 0`, the team variance is `> 0`,
`δ ≥ 0` and `κ ≤ 1`, then slot by slot the new rating keeps its id, its sigma is `≤` the old sigma of the
same slot — *exactly*: `σ·sqrt(max(1 − share·δ, κ)) ≤ σ` survives every monotone rounding — and `≥ 0`. -/
theorem FL_applyTeam_sigma_le {kappa omega delta : α} (t : TeamAgg α)
    (hp : ∀ p ∈ t.players, 𝟘 ≤ p.sigma) (hs : 𝟘 < t.sig2) (hd : 𝟘 ≤ delta) (hk : kappa ≤ 𝟙) :
    List.Forall₂ (fun p p' => p'.id = p.id ∧ p'.sigma ≤ p.sigma ∧ 𝟘 ≤ p'.sigma)
      t.players (applyTeam kappa t omega delta) :=
  applyTeam_forall₂ t fun p hpm =>
    -- the shrink factor `sqrt(max(1 − share·δ, κ))` is `≤ 1`
    ⟨rfl, M.mul_le_of_le_one_right' (hp p hpm) (M.sqrt_le_one' (smax_le
        (M.sub_le_self' (M.mul_nonneg' (M.fl1_share_nonneg _ _ hs) hd)) hk)),
      M.mul_nonneg' (hp p hpm) (M.sqrt_nonneg' _)⟩

/-- **ω ≥ 0 ⟹ no member's mu decreases** (team variance `> 0`). -/
theorem FL_applyTeam_mu_ge {kappa omega delta : α} (t : TeamAgg α) (hs : 𝟘 < t.sig2)
    (ho : 𝟘 ≤ omega) :
    List.Forall₂ (fun p p' => p'.id = p.id ∧ p.mu ≤ p'.mu)
      t.players (applyTeam kappa t omega delta) :=
  applyTeam_forall₂ t fun p _ => ⟨rfl, M.fl1_upd_mu_ge p hs ho⟩

/-- **ω ≤ 0 ⟹ no member's mu increases** (team variance `> 0`). -/
theorem FL_applyTeam_mu_le {kappa omega delta : α} (t : TeamAgg α) (hs : 𝟘 < t.sig2)
    (ho : omega ≤ 𝟘) :
    List.Forall₂ (fun p p' => p'.id = p.id ∧ p'.mu ≤ p.mu)
      t.players (applyTeam kappa t omega delta) :=
  applyTeam_forall₂ t fun p _ => ⟨rfl, M.fl1_upd_mu_le p hs ho⟩

/-! ### team variances -/

/-- **Team variances are `≥ 0`**: derived (a `sumL` of squares), not assumed. -/
theorem FL_teamAggs_sig2_nonneg (teams : List (List (Rating α))) (dense : List Nat) :
    ∀ t ∈ teamAggs teams dense, 𝟘 ≤ t.sig2 := by
  intro t ht
  obtain ⟨S, _, r, rfl⟩ := mem_teamAggs ht
  exact M.fl1_teamAgg_sig2_nonneg S r

/-! ### δ ≥ 0 -/

/-- **δ ≥ 0, all five models.**  Every `δ` that `omegaDelta K L P ts` produces is `≥ 0`, given a
non-negative gamma, non-negative team variances and positive computed divisors (and non-negative leaves
for the two Thurstone–Mosteller models). -/
theorem FL_delta_nonneg (K : Kind) (L : Leaves α) (P : Params α) (ts : List (TeamAgg α))
    (hL : K = .TMF ∨ K = .TMP → LeavesNonneg L) (hg : GammaNonneg P.gamma)
    (hts : ∀ t ∈ ts, 𝟘 ≤ t.sig2) (hd : DivisorsPos K P ts) :
    ∀ od ∈ omegaDelta K L P ts, 𝟘 ≤ od.2 := by
  intro od hod
  obtain ⟨i, hi'⟩ := List.mem_iff_getElem?.1 hod
  obtain ⟨ti, hi, rfl⟩ := omegaDelta_getElem?_inv hi'
  have hti : ti ∈ ts := List.mem_of_getElem? hi
  have hn : 0 < ts.length := List.length_pos_of_mem hti
  by_cases hK : K = .PL
  · subst hK
    obtain ⟨h1, h2, h3⟩ := hd
    exact M.fl1_plOmegaDelta_snd_nonneg _ hg ts _ h1 h2 i ti hti (h3 ti hti) (hts _ hti)
  · exact fl1_od_pairwise (S := fun x => 𝟘 ≤ x.2) (fun _ h => M.sumL_map_nonneg h) K L P ts i ti
      (fun h _ tq _ hj => (M.fl1_btPair_signs _ _ _ ti tq (hts _ hti)
        (hd.bt h ti hti tq (List.mem_of_getElem? hj))).1 hg hn)
      (fun h _ tq _ hj => (M.fl1_tmPair_signs L (hL h) _ _ _ _ _ ti tq (hts _ hti)
        (hd.tm h ti hti tq (List.mem_of_getElem? hj))).1 hg hn) hK

/-- **δ ≥ 0, Bradley–Terry (full and partial pairing)**: `FL_delta_nonneg` for the two models that read no
leaf, so without a hypothesis on the leaves. -/
theorem FL_delta_nonneg_BT (K : Kind) (hK : K = .BTF ∨ K = .BTP) (L : Leaves α) (P : Params α)
    (ts : List (TeamAgg α)) (hg : GammaNonneg P.gamma) (hts : ∀ t ∈ ts, 𝟘 ≤ t.sig2)
    (hd : DivisorsPos K P ts) : ∀ od ∈ omegaDelta K L P ts, 𝟘 ≤ od.2 :=
  FL_delta_nonneg M K L P ts (leavesNonneg_of_bt hK L) hg hts hd

/-- **δ ≥ 0, Plackett–Luce**: `FL_delta_nonneg` at `.PL`, without a hypothesis on the leaves. -/
theorem FL_delta_nonneg_PL (L : Leaves α) (P : Params α)
    (ts : List (TeamAgg α)) (hg : GammaNonneg P.gamma) (hts : ∀ t ∈ ts, 𝟘 ≤ t.sig2)
    (hd : DivisorsPos .PL P ts) : ∀ od ∈ omegaDelta .PL L P ts, 𝟘 ≤ od.2 :=
  FL_delta_nonneg M .PL L P ts nofun hg hts hd

/-- **δ ≥ 0, Thurstone–Mosteller** (conditional on the sign of the leaves). -/
theorem FL_delta_nonneg_TM (K : Kind) (L : Leaves α) (hL : LeavesNonneg L) (P : Params α)
    (ts : List (TeamAgg α)) (hg : GammaNonneg P.gamma) (hts : ∀ t ∈ ts, 𝟘 ≤ t.sig2)
    (hd : DivisorsPos K P ts) : ∀ od ∈ omegaDelta K L P ts, 𝟘 ≤ od.2 :=
  FL_delta_nonneg M K L P ts (fun _ => hL) hg hts hd

/-- with positive team variances: Bradley–Terry needs no divisor hypothesis at all, Plackett–Luce only
`0 < c * c` and `0 < exp(μ_t / c)` -/
theorem FL_divisorsPos_of_var_pos (K : Kind) (P : Params α) (ts : List (TeamAgg α))
    (hv : ∀ t ∈ ts, 𝟘 < t.sig2) (hr : DivisorsPosRest K P ts) : DivisorsPos K P ts := by
  cases K with
  | PL =>
    -- `c = sqrt …  ≥ 0`; were `c ≤ 0`, the law `mul_nonpos_left'` would give `c * c ≤ 0`
    refine ⟨M.orderLaws.lt_of_not_le fun hle => ?_, hr.1, hr.2⟩
    exact M.lt_iff_not_le'.1 hr.1 (M.mul_nonpos_left' hle (M.sqrt_nonneg' _))
  | BTF =>
    intro ti hti tq htq
    exact M.fl1_ciq_pos _ ti tq (hv ti hti) (M.orderLaws.le_of_lt (hv tq htq))
  | BTP =>
    intro ti hti tq htq
    exact M.fl1_ciq_pos _ ti tq (hv ti hti) (M.orderLaws.le_of_lt (hv tq htq))
  | TMF => exact hr
  | TMP => exact hr

/-! ### C06: `compute` -/

/-- what C06 says about one slot of `compute`: `p` the rating passed in, `p'` the rating returned -/
def FLSlot (p p' : Rating α) : Prop :=
  p'.id = p.id ∧ p'.sigma ≤ p.sigma ∧ 𝟘 ≤ p'.sigma

theorem fl1_divisorsPos_teamAggs {K : Kind} {P : Params α} {teams : List (List (Rating α))}
    {dense : List Nat} (hv : ∀ T ∈ teams, 𝟘 < sumL (T.map (fun p => p.sigma * p.sigma)))
    (hd : DivisorsPosRest K P (teamAggs teams dense)) : DivisorsPos K P (teamAggs teams dense) := by
  refine FL_divisorsPos_of_var_pos M K P _ (fun t ht => ?_) hd
  obtain ⟨S, hS, r, rfl⟩ := mem_teamAggs ht
  exact hv S hS

/-- **C06 for `compute`, slot by slot, all five models.**  For a game in which every sigma is `≥ 0`, every
computed team variance is `> 0`, `κ ≤ 1`, gamma is non-negative and the remaining computed divisors are
positive (nothing for Bradley–Terry; `0 < c*c`, `0 < exp(μ_t/c)` for Plackett–Luce): the result has the shape
of the input and every posterior sigma is `≤` the prior sigma of the same slot, and `≥ 0` — exactly, in
every monotone arithmetic. -/
theorem FL_C06_compute (K : Kind) (L : Leaves α) (P : Params α)
    (teams : List (List (Rating α))) (dense : List Nat) (hlen : teams.length ≤ dense.length)
    (hL : K = .TMF ∨ K = .TMP → LeavesNonneg L)
    (hsig : ∀ T ∈ teams, ∀ p ∈ T, 𝟘 ≤ p.sigma)
    (hv : ∀ T ∈ teams, 𝟘 < sumL (T.map (fun p => p.sigma * p.sigma)))
    (hk : P.kappa ≤ 𝟙) (hg : GammaNonneg P.gamma)
    (hd : DivisorsPosRest K P (teamAggs teams dense)) :
    List.Forall₂ (List.Forall₂ FLSlot) teams (compute K L P teams dense) := by
  rw [compute_eq_zipWith]
  refine forall₂_zipWith_left (by simp [hlen]) fun T hT w hw => ?_
  exact FL_applyTeam_sigma_le M (teamAgg T w.1) (hsig T hT) (hv T hT)
    (FL_delta_nonneg M K L P _ hL hg (FL_teamAggs_sig2_nonneg M teams dense)
      (fl1_divisorsPos_teamAggs M hv hd) _ (List.of_mem_zip hw).2) hk

/-! ### C06: the clamp -/

/-- **The limit_sigma clamp.**  Whenever slot `[i][j]` of `clampTeams orig res` exists, so do slots `[i][j]`
of `orig` (rating `p`) and of `res` (rating `q`); the clamped rating has the id and the mu of `q`, its sigma
is `≤` the sigma of `p` and `≤` the sigma of `q`, and is one of the two.  Needs only totality and
reflexivity of `≤`. -/
theorem FL_C06_clamp (orig res : List (List (Rating α))) :
    ∀ (i j : Nat) (r : Rating α), ((clampTeams orig res)[i]?).bind (·[j]?) = some r →
      ∃ p q, (orig[i]?).bind (·[j]?) = some p ∧ (res[i]?).bind (·[j]?) = some q ∧
        r.id = q.id ∧ r.mu = q.mu ∧ r.sigma ≤ p.sigma ∧ r.sigma ≤ q.sigma
        ∧ (r.sigma = q.sigma ∨ r.sigma = p.sigma) := by
  intro i j r h
  rw [clampTeams_eq_zipWith_clampPlayer] at h
  obtain ⟨T, hT, hr⟩ := Option.bind_eq_some_iff.1 h
  obtain ⟨R, O, hR, hO, rfl⟩ := List.getElem?_zipWith_eq_some.1 hT
  obtain ⟨q, p, hq, hp, rfl⟩ := List.getElem?_zipWith_eq_some.1 hr
  obtain ⟨h1, h2, h3⟩ := M.fl1_clampPlayer_sigma q p
  exact ⟨p, q, by rw [hO]; exact hp, by rw [hR]; exact hq, clampPlayer_id q p, clampPlayer_mu q p,
    h2, h3, h1⟩

/-- the clamp on lists of the same shape, as a slot-wise relation -/
theorem FL_C06_clamp_forall₂ {A : Rating α → Rating α → Prop} {orig res : List (List (Rating α))}
    (h : List.Forall₂ (List.Forall₂ A) orig res) :
    List.Forall₂ (List.Forall₂ (fun p r => ∃ q, A p q ∧ r.id = q.id ∧ r.mu = q.mu
        ∧ r.sigma ≤ p.sigma ∧ r.sigma ≤ q.sigma)) orig (clampTeams orig res) := by
  refine (clampTeams_forall₂ h).imp fun _ _ hT => hT.imp ?_
  rintro p r ⟨q, hpq, rfl⟩
  exact ⟨q, hpq, clampPlayer_id q p, clampPlayer_mu q p, (M.fl1_clampPlayer_sigma q p).2⟩

end

/-! ### C06: `rateCore` -/

/-- the result of `rateCore` before the limit_sigma clamp -/
def FL_rawResult {ρ : Type} (K : Kind) (L : Leaves α) (P : Params α) (le : ρ → ρ → Bool)
    (teams : List (List (Rating α))) (ranks : Option (List ρ)) (o : CallOpts α) :
    List (List (Rating α)) :=
  rateRaw K L P le (resolveTau P o) teams ranks

theorem FL_rateCore_eq_clamp {ρ : Type} (K : Kind) (L : Leaves α) (P : Params α)
    (le : ρ → ρ → Bool) (teams : List (List (Rating α))) (ranks : Option (List ρ))
    (o : CallOpts α) :
    rateCore K L P le teams ranks o =
      if resolveLimit P o then clampTeams teams (FL_rawResult K L P le teams ranks o)
      else FL_rawResult K L P le teams ranks o :=
  rateCore_eq_clamp_rateRaw K L P le teams ranks o

/-- the team aggregates `rateCore` hands to `omegaDelta`: those of the tau-inflated teams, in the caller's
order with ranks `0, 1, 2, …` when no ranks are given, in rank-sorted order with the dense ranks otherwise.
(The divisor hypotheses have to be about this list: without associativity the computed `c` of
Plackett–Luce depends on the order of summation.) -/
def FL_rateAggs {ρ : Type} (P : Params α) (le : ρ → ρ → Bool)
    (teams : List (List (Rating α))) (ranks : Option (List ρ)) (o : CallOpts α) :
    List (TeamAgg α) :=
  match ranks with
  | none => teamAggs (inflate (resolveTau P o) teams)
      (List.range (inflate (resolveTau P o) teams).length)
  | some r => teamAggs (unwind le r (inflate (resolveTau P o) teams)).1
      (denseRanks (fun a b => !le b a) (sortedKeys le r))

theorem FL_rateAggs_eq_prepared {ρ : Type} (P : Params α) (le : ρ → ρ → Bool)
    (teams : List (List (Rating α))) (ranks : Option (List ρ)) (o : CallOpts α) :
    FL_rateAggs P le teams ranks o = prepared P le teams ranks o := rfl

/-- what C06 says about one slot of `rateCore`: `p` the rating passed in, `p'` the rating returned,
`τ` and `limit_sigma` as resolved for the call -/
def FLSlotRate (tau : α) (limit : Bool) (p p' : Rating α) : Prop :=
  p'.id = p.id
  ∧ p'.sigma ≤ sqrt (p.sigma * p.sigma + tau * tau)
  ∧ (limit = true → p'.sigma ≤ p.sigma)
  ∧ (limit = false → 𝟘 ≤ p'.sigma)
  ∧ (𝟘 ≤ p.sigma → 𝟘 ≤ p'.sigma)

section
variable (M : MonoArith α)
include M

/-- before the clamp: slot by slot, the sigma returned is `≤` the tau-inflated sigma, and `≥ 0` -/
theorem FL_C06_rawResult {ρ : Type} (K : Kind) (L : Leaves α) (P : Params α) (le : ρ → ρ → Bool)
    (teams : List (List (Rating α))) (ranks : Option (List ρ)) (o : CallOpts α)
    (hL : K = .TMF ∨ K = .TMP → LeavesNonneg L)
    (hv : ∀ T ∈ inflate (resolveTau P o) teams, 𝟘 < sumL (T.map (fun p => p.sigma * p.sigma)))
    (hk : P.kappa ≤ 𝟙) (hg : GammaNonneg P.gamma)
    (hd : DivisorsPosRest K P (FL_rateAggs P le teams ranks o))
    (hr : ∀ r, ranks = some r → r.length = teams.length) :
    List.Forall₂ (List.Forall₂ FLSlot) (inflate (resolveTau P o) teams)
      (FL_rawResult K L P le teams ranks o) := by
  have hsig : ∀ T ∈ inflate (resolveTau P o) teams, ∀ p ∈ T, 𝟘 ≤ p.sigma := by
    simp only [inflate_eq_map_inflPlayer, List.forall_mem_map]
    exact fun _ _ _ _ => M.sqrt_nonneg' _
  have hpos : ∀ t ∈ prepared P le teams ranks o, 𝟘 < t.sig2 := fun t ht => by
    obtain ⟨S, hS, r, rfl⟩ := mem_prepared ht
    exact hv S hS
  have hr' := fun r h => (hr r h).ge
  -- team `i` is updated with a `δ` that `omegaDelta` computes on `prepared`, and `δ ≥ 0` there
  rw [FL_rawResult, rateRaw_eq_zipWith K L P le _ teams ranks hr']
  refine forall₂_zipWith_left (by rw [rateData_length _ _ _ _ _ _ _ hr', inflate_length])
    fun T hT w hw => ?_
  exact FL_applyTeam_sigma_le M (teamAgg T w.1) (hsig T hT) (hv T hT)
    (FL_delta_nonneg M K L P _ hL hg (fun t ht => M.orderLaws.le_of_lt (hpos t ht))
      (FL_divisorsPos_of_var_pos M K P _ hpos (FL_rateAggs_eq_prepared P le teams ranks o ▸ hd)) _
      (rateData_snd_mem K L P le teams ranks o w hw)) hk

/-- **C06 for `rateCore`, slot by slot, all five models.**  Ranks omitted or as many ranks as teams; every
computed variance of a tau-inflated team `> 0`; `κ ≤ 1`; gamma non-negative; the remaining computed
divisors positive (nothing for Bradley–Terry).  Then the result has the shape of the input and the rating
`p'` returned in slot `[i][j]` for the rating `p` passed in that slot has the same id and

* `σ' ≤ sqrt(σ·σ + τ·τ)` — the tau-inflated prior, exactly as the library computes it;
* `σ' ≤ σ` if limit_sigma is on;
* `0 ≤ σ'` if limit_sigma is off, or if `0 ≤ σ`.

No hypothesis on the caller's sigmas is needed: the inflated sigma is a `sqrt`. -/
theorem FL_C06_rateCore {ρ : Type} (K : Kind) (L : Leaves α) (P : Params α) (le : ρ → ρ → Bool)
    (teams : List (List (Rating α))) (ranks : Option (List ρ)) (o : CallOpts α)
    (hL : K = .TMF ∨ K = .TMP → LeavesNonneg L)
    (hv : ∀ T ∈ inflate (resolveTau P o) teams, 𝟘 < sumL (T.map (fun p => p.sigma * p.sigma)))
    (hk : P.kappa ≤ 𝟙) (hg : GammaNonneg P.gamma)
    (hd : DivisorsPosRest K P (FL_rateAggs P le teams ranks o))
    (hr : ∀ r, ranks = some r → r.length = teams.length) :
    List.Forall₂ (List.Forall₂ (FLSlotRate (resolveTau P o) (resolveLimit P o)))
      teams (rateCore K L P le teams ranks o) := by
  have hraw := FL_C06_rawResult M K L P le teams ranks o hL hv hk hg hd hr
  rw [inflate_eq_map_inflPlayer, List.forall₂_map_left_iff] at hraw
  have hraw' : List.Forall₂ (List.Forall₂ (fun p p' => FLSlot (inflPlayer (resolveTau P o) p) p'))
      teams (FL_rawResult K L P le teams ranks o) :=
    hraw.imp (fun S T h => by rwa [List.forall₂_map_left_iff] at h)
  rw [FL_rateCore_eq_clamp]
  cases hlim : resolveLimit P o with
  | false =>
    simp only [Bool.false_eq_true, if_false]
    refine hraw'.imp (fun S T h => h.imp ?_)
    rintro p p' ⟨h1, h2, h3⟩
    exact ⟨h1, h2, fun h => Bool.noConfusion h, fun _ => h3, fun _ => h3⟩
  | true =>
    simp only [if_true]
    refine (clampTeams_forall₂ hraw').imp fun _ _ hT => hT.imp ?_
    rintro p p'' ⟨p', ⟨h1, h2, h3⟩, rfl⟩
    obtain ⟨he, hp, hp'⟩ := M.fl1_clampPlayer_sigma p' p
    refine ⟨(clampPlayer_id p' p).trans h1, M.le_trans' hp' h2, fun _ => hp,
      fun h => Bool.noConfusion h, fun h0 => ?_⟩
    rcases he with e | e
    · rw [e]; exact h3
    · rw [e]; exact h0

/-- **C06 for `rate`** (ranks, scores or neither): the same slot-wise statement as `FL_C06_rateCore` -/
theorem FL_C06_rate {ρ : Type} (K : Kind) (L : Leaves α) (P : Params α) (le : ρ → ρ → Bool)
    (neg : ρ → ρ) (teams : List (List (Rating α))) (oc : Outcome ρ) (o : CallOpts α)
    (hL : K = .TMF ∨ K = .TMP → LeavesNonneg L)
    (hv : ∀ T ∈ inflate (resolveTau P o) teams, 𝟘 < sumL (T.map (fun p => p.sigma * p.sigma)))
    (hk : P.kappa ≤ 𝟙) (hg : GammaNonneg P.gamma)
    (hd : DivisorsPosRest K P (FL_rateAggs P le teams
      (match oc with | .omitted => none | .ranks r => some r | .scores s => some (s.map neg)) o))
    (hr : ∀ r, (oc = .ranks r ∨ oc = .scores r) → r.length = teams.length) :
    List.Forall₂ (List.Forall₂ (FLSlotRate (resolveTau P o) (resolveLimit P o)))
      teams (rate K L P le neg teams oc o) := by
  rw [rate_eq_rateCore]
  exact FL_C06_rateCore M K L P le teams (lft_ranksOf neg oc) o hL hv hk hg hd
    (lft_ranksOf_length neg hr)

/-! ### C05: same direction -/

/-- **A sole first team has `ω ≥ 0`, all five models.**  In `omegaDelta`, a team whose rank is strictly
smaller than every other team's has `0 ≤ ω`, as computed. -/
theorem FL_C05_sole_first (K : Kind) (L : Leaves α) (P : Params α) (ts : List (TeamAgg α))
    (hL : K = .TMF ∨ K = .TMP → LeavesNonneg L)
    (hts : ∀ t ∈ ts, 𝟘 ≤ t.sig2) (hd : DivisorsPos K P ts)
    (i : Nat) (ti : TeamAgg α) (hi : ts[i]? = some ti)
    (hfirst : ∀ j tj, ts[j]? = some tj → j ≠ i → ti.rank < tj.rank) :
    ∀ od, (omegaDelta K L P ts)[i]? = some od → 𝟘 ≤ od.1 := by
  intro od hod
  rw [omegaDelta_getElem?_some hi] at hod
  cases hod
  have hti : ti ∈ ts := List.mem_of_getElem? hi
  by_cases hK : K = .PL
  · subst hK
    obtain ⟨h1, _, h3⟩ := hd
    exact M.fl1_plOmegaDelta_fst_nonneg _ ts _ h1 i ti hti (h3 ti hti) (hts _ hti) hfirst
  · exact fl1_od_pairwise (S := fun x => 𝟘 ≤ x.1) (fun _ h => M.sumL_map_nonneg h) K L P ts i ti
      (fun h j tq hne hj => (M.fl1_btPair_signs _ _ _ ti tq (hts _ hti)
        (hd.bt h ti hti tq (List.mem_of_getElem? hj))).2.1 (hfirst j tq hj hne))
      (fun h j tq hne hj => (M.fl1_tmPair_signs L (hL h) _ _ _ _ _ ti tq (hts _ hti)
        (hd.tm h ti hti tq (List.mem_of_getElem? hj))).2.1 (hfirst j tq hj hne)) hK

/-- **A sole last team has `ω ≤ 0`, all five models.** -/
theorem FL_C05_sole_last (K : Kind) (L : Leaves α) (P : Params α) (ts : List (TeamAgg α))
    (hL : K = .TMF ∨ K = .TMP → LeavesNonneg L)
    (hts : ∀ t ∈ ts, 𝟘 ≤ t.sig2) (hd : DivisorsPos K P ts)
    (i : Nat) (ti : TeamAgg α) (hi : ts[i]? = some ti)
    (hlast : ∀ j tj, ts[j]? = some tj → j ≠ i → tj.rank < ti.rank) :
    ∀ od, (omegaDelta K L P ts)[i]? = some od → od.1 ≤ 𝟘 := by
  intro od hod
  rw [omegaDelta_getElem?_some hi] at hod
  cases hod
  have hti : ti ∈ ts := List.mem_of_getElem? hi
  by_cases hK : K = .PL
  · subst hK
    obtain ⟨h1, _, h3⟩ := hd
    exact M.fl1_plOmegaDelta_fst_nonpos _ ts _ h1 i ti hi (h3 ti hti) (hts _ hti) hlast
  · exact fl1_od_pairwise (S := fun x => x.1 ≤ 𝟘) (fun _ h => M.sumL_map_nonpos h) K L P ts i ti
      (fun h j tq hne hj => (M.fl1_btPair_signs _ _ _ ti tq (hts _ hti)
        (hd.bt h ti hti tq (List.mem_of_getElem? hj))).2.2 (hlast j tq hj hne))
      (fun h j tq hne hj => (M.fl1_tmPair_signs L (hL h) _ _ _ _ _ ti tq (hts _ hti)
        (hd.tm h ti hti tq (List.mem_of_getElem? hj))).2.2 (hlast j tq hj hne)) hK

/-- **Bradley–Terry, sole first**: `ω ≥ 0`, without a hypothesis on the leaves. -/
theorem FL_C05_sole_first_BT (K : Kind) (hK : K = .BTF ∨ K = .BTP) (L : Leaves α) (P : Params α)
    (ts : List (TeamAgg α)) (hts : ∀ t ∈ ts, 𝟘 ≤ t.sig2) (hd : DivisorsPos K P ts)
    (i : Nat) (ti : TeamAgg α) (hi : ts[i]? = some ti)
    (hfirst : ∀ j tj, ts[j]? = some tj → j ≠ i → ti.rank < tj.rank) :
    ∀ od, (omegaDelta K L P ts)[i]? = some od → 𝟘 ≤ od.1 :=
  FL_C05_sole_first M K L P ts (leavesNonneg_of_bt hK L) hts hd i ti hi hfirst

/-- **Bradley–Terry, sole last**: `ω ≤ 0`, without a hypothesis on the leaves. -/
theorem FL_C05_sole_last_BT (K : Kind) (hK : K = .BTF ∨ K = .BTP) (L : Leaves α) (P : Params α)
    (ts : List (TeamAgg α)) (hts : ∀ t ∈ ts, 𝟘 ≤ t.sig2) (hd : DivisorsPos K P ts)
    (i : Nat) (ti : TeamAgg α) (hi : ts[i]? = some ti)
    (hlast : ∀ j tj, ts[j]? = some tj → j ≠ i → tj.rank < ti.rank) :
    ∀ od, (omegaDelta K L P ts)[i]? = some od → od.1 ≤ 𝟘 :=
  FL_C05_sole_last M K L P ts (leavesNonneg_of_bt hK L) hts hd i ti hi hlast

/-- **Plackett–Luce, sole first**: `ω ≥ 0`, without a hypothesis on the leaves. -/
theorem FL_C05_sole_first_PL (L : Leaves α) (P : Params α)
    (ts : List (TeamAgg α)) (hts : ∀ t ∈ ts, 𝟘 ≤ t.sig2) (hd : DivisorsPos .PL P ts)
    (i : Nat) (ti : TeamAgg α) (hi : ts[i]? = some ti)
    (hfirst : ∀ j tj, ts[j]? = some tj → j ≠ i → ti.rank < tj.rank) :
    ∀ od, (omegaDelta .PL L P ts)[i]? = some od → 𝟘 ≤ od.1 :=
  FL_C05_sole_first M .PL L P ts nofun hts hd i ti hi hfirst

/-- **Plackett–Luce, sole last**: `ω ≤ 0`, without a hypothesis on the leaves.  (`sum_q[i]` is computed as
`0 + e_i`; the law "`0 + a = a`" is not among those of `MonoArith` and is not needed:
`one_le_div_sumL_singleton`.) -/
theorem FL_C05_sole_last_PL (L : Leaves α) (P : Params α)
    (ts : List (TeamAgg α)) (hts : ∀ t ∈ ts, 𝟘 ≤ t.sig2) (hd : DivisorsPos .PL P ts)
    (i : Nat) (ti : TeamAgg α) (hi : ts[i]? = some ti)
    (hlast : ∀ j tj, ts[j]? = some tj → j ≠ i → tj.rank < ti.rank) :
    ∀ od, (omegaDelta .PL L P ts)[i]? = some od → od.1 ≤ 𝟘 :=
  FL_C05_sole_last M .PL L P ts nofun hts hd i ti hi hlast

omit M in
theorem fl1_sole_of_dense {teams : List (List (Rating α))} {dense : List Nat} {i : Nat}
    {T : List (Rating α)} {d : Nat} (R : Nat → Nat → Prop)
    (h : ∀ j dj, j < teams.length → j ≠ i → dense[j]? = some dj → R d dj) :
    ∀ j tj, (teamAggs teams dense)[j]? = some tj → j ≠ i → R (teamAgg T d).rank tj.rank := by
  intro j tj hj hne
  obtain ⟨Tj, dj, h1, h2, rfl⟩ := teamAggs_getElem?_inv teams dense j hj
  exact h j dj (List.getElem?_eq_some_iff.1 h1).1 hne h2

/-- **C05 for `compute`: no member of a sole winner loses mu**, all five models.  Team `i` has a dense rank
strictly smaller than every other team's; team variances `> 0`; remaining divisors positive.  Then, slot by
slot, every member of team `i` keeps its id and its posterior mu is `≥` its prior mu — exactly, in every
monotone arithmetic. -/
theorem FL_C05_compute_sole_first (K : Kind) (L : Leaves α) (P : Params α)
    (teams : List (List (Rating α))) (dense : List Nat)
    (hL : K = .TMF ∨ K = .TMP → LeavesNonneg L)
    (hv : ∀ T ∈ teams, 𝟘 < sumL (T.map (fun p => p.sigma * p.sigma)))
    (hd : DivisorsPosRest K P (teamAggs teams dense))
    (i : Nat) (T : List (Rating α)) (d : Nat) (hT : teams[i]? = some T) (hdi : dense[i]? = some d)
    (hfirst : ∀ j dj, j < teams.length → j ≠ i → dense[j]? = some dj → d < dj) :
    ∃ T', (compute K L P teams dense)[i]? = some T' ∧
      List.Forall₂ (fun p p' => p'.id = p.id ∧ p.mu ≤ p'.mu) T T' := by
  have hdp := fl1_divisorsPos_teamAggs M hv hd
  refine ⟨_, compute_getElem? K L P teams dense i hT hdi, ?_⟩
  have hi := teamAggs_getElem? teams dense i hT hdi
  exact FL_applyTeam_mu_ge M (teamAgg T d) (hv T (List.mem_of_getElem? hT))
    (FL_C05_sole_first M K L P _ hL (FL_teamAggs_sig2_nonneg M teams dense) hdp i _ hi
      (fl1_sole_of_dense (fun a b => a < b) hfirst) _ (omegaDelta_getElem?_some hi))

/-- **C05 for `compute`: no member of a sole loser gains mu**, all five models. -/
theorem FL_C05_compute_sole_last (K : Kind) (L : Leaves α) (P : Params α)
    (teams : List (List (Rating α))) (dense : List Nat)
    (hL : K = .TMF ∨ K = .TMP → LeavesNonneg L)
    (hv : ∀ T ∈ teams, 𝟘 < sumL (T.map (fun p => p.sigma * p.sigma)))
    (hd : DivisorsPosRest K P (teamAggs teams dense))
    (i : Nat) (T : List (Rating α)) (d : Nat) (hT : teams[i]? = some T) (hdi : dense[i]? = some d)
    (hlast : ∀ j dj, j < teams.length → j ≠ i → dense[j]? = some dj → dj < d) :
    ∃ T', (compute K L P teams dense)[i]? = some T' ∧
      List.Forall₂ (fun p p' => p'.id = p.id ∧ p'.mu ≤ p.mu) T T' := by
  have hdp := fl1_divisorsPos_teamAggs M hv hd
  refine ⟨_, compute_getElem? K L P teams dense i hT hdi, ?_⟩
  have hi := teamAggs_getElem? teams dense i hT hdi
  exact FL_applyTeam_mu_le M (teamAgg T d) (hv T (List.mem_of_getElem? hT))
    (FL_C05_sole_last M K L P _ hL (FL_teamAggs_sig2_nonneg M teams dense) hdp i _ hi
      (fl1_sole_of_dense (fun a b => b < a) hlast) _ (omegaDelta_getElem?_some hi))

/-! ### the hypotheses are satisfiable in every monotone arithmetic -/

/-- the library's default gamma, `1/k`, `1/(rank+1)`, `0` and the constant `1` are admissible -/
example : GammaNonneg (GammaFn.dflt : GammaFn α) ∧ GammaNonneg (GammaFn.invK : GammaFn α)
    ∧ GammaNonneg (GammaFn.rankDep : GammaFn α) ∧ GammaNonneg (GammaFn.zero : GammaFn α)
    ∧ GammaNonneg (GammaFn.const 𝟙 : GammaFn α) :=
  ⟨M.fl1_gammaNonneg_of_tag _ nofun nofun nofun, M.fl1_gammaNonneg_of_tag _ nofun nofun nofun,
   M.fl1_gammaNonneg_of_tag _ nofun nofun nofun, M.fl1_gammaNonneg_of_tag _ nofun nofun nofun,
   M.fl1_gammaNonneg_of_tag _ (fun _ h => GammaFn.const.inj h ▸ M.zero_le_one) nofun nofun⟩

/-- `LeavesNonneg` has a model -/
example : LeavesNonneg (⟨fun _ _ => 𝟘, fun _ _ => 𝟘, fun _ _ => 𝟘, fun _ _ => 𝟘⟩ : Leaves α) :=
  ⟨fun _ _ => M.le_refl' _, fun _ _ => M.le_refl' _, fun _ _ => M.le_refl' _⟩

/-- for Bradley–Terry nothing is left to assume about divisors once the variances are positive -/
example (P : Params α) (ts : List (TeamAgg α)) : DivisorsPosRest .BTF P ts ∧ DivisorsPosRest .BTP P ts :=
  ⟨trivial, trivial⟩

/-- `κ = 1/10000 ≤ 1` as the library computes it (`div_le_one'`) -/
example : (𝟙 : α) / ofNat 10000 ≤ 𝟙 :=
  M.div_le_one' (M.ofNat_le' (by decide)) (M.zero_lt_ofNat (by decide))

end

end OS
