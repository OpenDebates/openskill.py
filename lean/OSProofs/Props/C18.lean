import OSProofs.RealInst
/-!
# C18 — rating comparison operators order players exactly as ordinal() does
-/
namespace OS
open Scalar

section generic
variable {α : Type} [Scalar α]

theorem C18_ordinal (z : α) (r : Rating α) : ordinal z r = r.mu - z * r.sigma := rfl

/-- the four order operators on two ratings of one class are the comparisons of the ordinals (z = 3) -/
theorem C18_lt (a b : Rating α) :
    cmpOp .lt a (.same b) = .bool (decide (ordinal three a < ordinal three b)) := rfl
theorem C18_le (a b : Rating α) :
    cmpOp .le a (.same b) = .bool (decide (ordinal three a ≤ ordinal three b)) := rfl
theorem C18_gt (a b : Rating α) :
    cmpOp .gt a (.same b) = .bool (decide (ordinal three b < ordinal three a)) := rfl
theorem C18_ge (a b : Rating α) :
    cmpOp .ge a (.same b) = .bool (decide (ordinal three b ≤ ordinal three a)) := rfl

/-- anything that is not a rating of the same class: ValueError for the four order operators … -/
theorem C18_foreign_order (op : CmpOp) (a : Rating α) : cmpOp op a .foreign = .valueError := rfl

/-- … and simply unequal for `==` -/
theorem C18_foreign_eq (a : Rating α) : eqOp a .foreign = false := rfl

end generic

/-- over ℝ: `a == b` holds exactly when mu and sigma are both equal -/
theorem C18_eq_iff (a b : Rating ℝ) : eqOp a (.same b) = true ↔ (a.mu = b.mu ∧ a.sigma = b.sigma) := by
  simp only [eqOp, feq, Bool.and_eq_true, decide_eq_true_eq, ← le_antisymm_iff]

/-- over ℝ: `a < b` holds exactly when ordinal(a) < ordinal(b) with ordinal = mu − 3 sigma -/
theorem C18_lt_iff (a b : Rating ℝ) :
    cmpOp .lt a (.same b) = .bool true ↔ a.mu - 3 * a.sigma < b.mu - 3 * b.sigma := by
  rw [C18_lt, CmpOut.bool.injEq, decide_eq_true_iff]
  exact Iff.rfl  -- over ℝ `three` is the cast of the natural number 3, which unfolds to the numeral

theorem C18_le_iff (a b : Rating ℝ) :
    cmpOp .le a (.same b) = .bool true ↔ a.mu - 3 * a.sigma ≤ b.mu - 3 * b.sigma := by
  rw [C18_le, CmpOut.bool.injEq, decide_eq_true_iff]
  exact Iff.rfl

/-- sorting rating objects with `<=` (what `sorted` does through `__lt__`) yields a list that is
non-decreasing in ordinal: the leaderboard order -/
theorem C18_sorted_leaderboard (l : List (Rating ℝ)) :
    (l.mergeSort (fun a b => decide (ordinal three a ≤ ordinal three b))).Pairwise
      (fun a b => ordinal three a ≤ ordinal three b) :=
  (List.pairwise_mergeSort (le := fun a b : Rating ℝ => decide (ordinal three a ≤ ordinal three b))
    (fun _ _ _ hab hbc => decide_eq_true (le_trans (of_decide_eq_true hab) (of_decide_eq_true hbc)))
    (fun a b => by simp only [Bool.or_eq_true, decide_eq_true_eq]; exact le_total _ _) l).imp of_decide_eq_true

/-- non-vacuity: two different ratings with equal ordinals are `<=` both ways, not `<`, and not `==` -/
example : cmpOp .le ({ id := 0, mu := 25, sigma := 8 } : Rating ℝ) (.same { id := 1, mu := 28, sigma := 9 }) = .bool true := by
  rw [C18_le_iff]; norm_num

end OS
