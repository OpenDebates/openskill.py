import OSProofs.Props.C12
import OSProofs.Props.FL5
import OSProofs.MonoArithInst
import Mathlib.Tactic.FieldSimp
import Mathlib.Tactic.NormNum
/-!
# C09 — `predict_win` is a probability vector, symmetric and monotone

From the closed forms of C12, over ℝ and for every β (also β ≤ 0):

* the result has one entry per team, the entries lie strictly between 0 and 1 and sum to 1;
* two identical teams get `[1/2, 1/2]`;
* the entry of a team is a function `winVal` of that team's aggregate and of the *multiset* of the
  other teams' aggregates, so permuting the teams permutes the result with them, and teams with
  the same θ and s² get the same entry;
* raising the mu of a member of one team does not lower that team's entry and does not raise
  any other entry.

Uniform closed form used here (all n ≥ 2): entry `i` is
`(Σ_{b ∈ opponents of i} Φ((θi − θb)/√(c β² + s²i + s²b))) / (n(n−1)/2)` where `c = N` (number of
players) when `n = 2` and `c = n` (number of teams) when `n ≥ 3` — the two code paths of
`predict_win` differ in this coefficient.  (`Props/FL5.lean` has the monotonicity clause for every
monotone arithmetic, with a hypothesis on the computed divisors and the two-team case apart; here neither is
needed.)
-/

noncomputable section
namespace OS
open Scalar

/-- the pairwise term `Φ((θa − θb)/√(c β² + s²a + s²b))` -/
def winTerm (β : ℝ) (c : ℕ) (a b : TeamAgg ℝ) : ℝ :=
  Gauss.Phi ((a.mu - b.mu) / Real.sqrt (c * β ^ 2 + a.sig2 + b.sig2))

/-- the coefficient of β² in `predict_win`: the number of players `N` for two teams, the number
of teams `n` otherwise -/
def winCoef (n N : ℕ) : ℕ := if n = 2 then N else n

/-- the entry of a team in `predict_win`, from its own aggregate and the other teams' aggregates
(`n` teams, `N` players in total) -/
def winVal (β : ℝ) (n N : ℕ) (own : TeamAgg ℝ) (others : List (TeamAgg ℝ)) : ℝ :=
  (others.map (winTerm β (winCoef n N) own)).sum / (((n * (n - 1) : ℕ) : ℝ) / 2)

/-! ### facts about the pair term -/

theorem winTerm_symm (β : ℝ) (c : ℕ) (a b : TeamAgg ℝ) :
    winTerm β c a b + winTerm β c b a = 1 := by
  unfold winTerm
  rw [add_right_comm (c * β ^ 2) b.sig2 a.sig2, ← neg_sub a.mu b.mu, neg_div, Gauss.Phi_neg,
    add_sub_cancel]

theorem winTerm_self (β : ℝ) (c : ℕ) (a : TeamAgg ℝ) : winTerm β c a a = 1 / 2 := by
  unfold winTerm
  rw [sub_self, zero_div, Gauss.Phi_zero]

theorem winTerm_le (β : ℝ) (c : ℕ) {a a' b b' : TeamAgg ℝ} (ha : a'.mu ≤ a.mu)
    (has : a.sig2 = a'.sig2) (hb : fl5_Raised b b') : winTerm β c a' b' ≤ winTerm β c a b := by
  unfold winTerm
  rw [has, hb.1]
  exact Gauss.Phi_strictMono.monotone
    (div_le_div_of_nonneg_right (sub_le_sub ha hb.2) (Real.sqrt_nonneg _))

/-- a team has `n − 1` opponents and the divisor `n(n−1)/2` is at least that -/
theorem winDenom_ge (n : ℕ) (hn : 2 ≤ n) : ((n - 1 : ℕ) : ℝ) ≤ ((n * (n - 1) : ℕ) : ℝ) / 2 := by
  rw [le_div_iff₀ two_pos, mul_comm]
  exact_mod_cast Nat.mul_le_mul_right (n - 1) hn

theorem winDenom_pos (n : ℕ) (hn : 2 ≤ n) : (0 : ℝ) < ((n * (n - 1) : ℕ) : ℝ) / 2 :=
  lt_of_lt_of_le (Nat.cast_pos.mpr (by omega)) (winDenom_ge n hn)

/-- the value of a team does not depend on the order of the other teams -/
theorem winVal_perm (β : ℝ) (n N : ℕ) (own : TeamAgg ℝ) (r r' : List (TeamAgg ℝ))
    (h : r.Perm r') : winVal β n N own r = winVal β n N own r' := by
  unfold winVal
  rw [(h.map _).sum_eq]

/-- two teams: one opponent, divisor `2·1/2 = 1`, coefficient `N` -/
theorem winVal_two (β : ℝ) (N : ℕ) (a b : TeamAgg ℝ) : winVal β 2 N a [b] = winTerm β N a b := by
  rw [winVal, winCoef, if_pos rfl, List.map_singleton, List.sum_singleton,
    show (((2 * (2 - 1) : ℕ) : ℝ) / 2) = 1 by norm_num, div_one]

/-! ### the uniform closed form -/

/-- all n ≥ 2: entry `i` of `predict_win` is `winVal` of team `i` and its opponents -/
theorem predictWin_eq_winVal (β : ℝ) (teams : List (List (Rating ℝ))) (hn : 2 ≤ teams.length) :
    predictWin β teams = (aggs teams).zipIdx.map (fun a =>
      winVal β teams.length (playerCount teams) a.1 ((aggs teams).eraseIdx a.2)) := by
  by_cases h2 : teams.length = 2
  · obtain ⟨a, b, rfl⟩ := List.length_eq_two.mp h2
    rw [C12_win_two]
    show _ = [winVal β 2 _ (teamAgg a 0) [teamAgg b 0], winVal β 2 _ (teamAgg b 0) [teamAgg a 0]]
    rw [winVal_two, winVal_two, eq_sub_of_add_eq' (winTerm_symm β _ (teamAgg a 0) (teamAgg b 0))]
    rfl
  · rw [C12_win_many β teams (by omega)]
    apply List.map_congr_left
    intro a _
    simp only [winVal, winCoef, if_neg h2]
    rfl

theorem predictWin_eq_picks (β : ℝ) (teams : List (List (Rating ℝ))) (hn : 2 ≤ teams.length) :
    predictWin β teams = (picks (aggs teams)).map (fun p =>
      winVal β teams.length (playerCount teams) p.1 p.2) := by
  rw [predictWin_eq_winVal β teams hn,
    zipIdx_map_eraseIdx_eq_map_picks (aggs teams) (winVal β teams.length (playerCount teams))]

/-- **Length.** One probability per team. -/
theorem C09_length (β : ℝ) (teams : List (List (Rating ℝ))) (hn : 2 ≤ teams.length) :
    (predictWin β teams).length = teams.length :=
  (GEN_C12_length β teams (by omega)).1

/-- **Entry `i`** of `predict_win` is `winVal` of team `i`'s aggregate and the aggregates of the
other teams. -/
theorem C09_entry (β : ℝ) (teams : List (List (Rating ℝ))) (hn : 2 ≤ teams.length) (i : ℕ)
    (hi : i < teams.length) (h : i < (predictWin β teams).length) :
    (predictWin β teams)[i] = winVal β teams.length (playerCount teams) (teamAgg teams[i] 0)
      ((aggs teams).eraseIdx i) := by
  rw [List.getElem_of_eq (predictWin_eq_winVal β teams hn) h, getElem_map_zipIdx_aggs _ teams i hi]

/-- the index hypotheses of the entry-wise theorems below are satisfiable: every team index is a
valid index of the result, also after replacing a team -/
example (β : ℝ) (teams : List (List (Rating ℝ))) (hn : 2 ≤ teams.length) (i : ℕ)
    (hi : i < teams.length) (t' : List (Rating ℝ)) :
    i < (predictWin β teams).length ∧ i < (predictWin β (teams.set i t')).length := by
  rw [C09_length β teams hn, C09_length β _ (by simpa using hn)]
  exact ⟨hi, by simpa using hi⟩

theorem winVal_eraseIdx (β : ℝ) (n N : ℕ) (l : List (TeamAgg ℝ)) (i : ℕ) (hi : i < l.length) :
    winVal β n N l[i] (l.eraseIdx i)
      = ((l.map (winTerm β (winCoef n N) l[i])).sum - 1 / 2) / (((n * (n - 1) : ℕ) : ℝ) / 2) := by
  unfold winVal
  rw [sum_map_eraseIdx l _ i hi, winTerm_self]

/-! ### probability vector -/

/-- **Sum.** The win probabilities add up to 1. -/
theorem C09_sum_one (β : ℝ) (teams : List (List (Rating ℝ))) (hn : 2 ≤ teams.length) :
    (predictWin β teams).sum = 1 := by
  rw [predictWin_eq_picks β teams hn]
  unfold winVal
  rw [sum_map_div_const (picks (aggs teams))
    (fun p => (p.2.map (winTerm β (winCoef teams.length (playerCount teams)) p.1)).sum)]
  have h := pairSum_of_symm_eq (winTerm β (winCoef teams.length (playerCount teams))) 1
    (winTerm_symm β _) (aggs teams)
  unfold pairSum at h
  rw [h, length_aggs, one_mul]
  exact div_self (winDenom_pos _ hn).ne'

/-- **Range (strict).** Every win probability lies strictly between 0 and 1. -/
theorem C09_range_strict (β : ℝ) (teams : List (List (Rating ℝ))) (hn : 2 ≤ teams.length) :
    ∀ p ∈ predictWin β teams, 0 < p ∧ p < 1 := by
  intro p hp
  rw [predictWin_eq_winVal β teams hn] at hp
  obtain ⟨a, ha, rfl⟩ := List.mem_map.mp hp
  have hlt : a.2 < (aggs teams).length := by simpa using List.snd_lt_of_mem_zipIdx ha
  have hlen : ((aggs teams).eraseIdx a.2).length = teams.length - 1 := by
    rw [List.length_eraseIdx_of_lt hlt, length_aggs]
  refine sum_div_mem_Ioo ?_ (fun b _ => ⟨Gauss.Phi_pos _, Gauss.Phi_lt_one _⟩) ?_
  · rw [hlen]; omega
  · rw [hlen]; exact winDenom_ge _ hn

/-- **Range.** Every win probability lies in [0, 1]. -/
theorem C09_range (β : ℝ) (teams : List (List (Rating ℝ))) (hn : 2 ≤ teams.length) :
    ∀ p ∈ predictWin β teams, 0 ≤ p ∧ p ≤ 1 := fun p hp =>
  ⟨(C09_range_strict β teams hn p hp).1.le, (C09_range_strict β teams hn p hp).2.le⟩

/-- two teams with the same θ (whatever their sizes and sigmas) get `[1/2, 1/2]` -/
theorem C09_two_equal_mu (β : ℝ) (a b : List (Rating ℝ))
    (h : (teamAgg a 0).mu = (teamAgg b 0).mu) : predictWin β [a, b] = [1 / 2, 1 / 2] := by
  rw [C12_win_two, h, sub_self, zero_div, Gauss.Phi_zero]
  norm_num

/-- **Two identical teams** get exactly `[1/2, 1/2]`. -/
theorem C09_two_identical (β : ℝ) (a : List (Rating ℝ)) : predictWin β [a, a] = [1 / 2, 1 / 2] :=
  C09_two_equal_mu β a a rfl

/-! ### symmetry -/

/-- **Equivariance.** Permuting the teams permutes the win probabilities. -/
theorem C09_equivariant (β : ℝ) (teams teams' : List (List (Rating ℝ))) (hn : 2 ≤ teams.length)
    (h : teams.Perm teams') : (predictWin β teams).Perm (predictWin β teams') := by
  have hn' : 2 ≤ teams'.length := by rw [← h.length_eq]; exact hn
  rw [predictWin_eq_picks β teams hn, predictWin_eq_picks β teams' hn', ← h.length_eq,
    ← playerCount_perm h]
  exact picks_map_perm (h.map _) (winVal β teams.length (playerCount teams))
    (fun y r r' hr => winVal_perm β _ _ y r r' hr)

theorem zip_predictWin (β : ℝ) (teams : List (List (Rating ℝ))) (hn : 2 ≤ teams.length) :
    teams.zip (predictWin β teams) = (picks (aggs teams)).map (fun p =>
      (p.1.players, winVal β teams.length (playerCount teams) p.1 p.2)) := by
  have h1 : (picks (aggs teams)).map (fun p => p.1.players) = teams :=
    calc _ = ((picks (aggs teams)).map (·.1)).map (·.players) := List.map_map.symm
      _ = teams := by
        rw [picks_map_fst, aggs, List.map_map]
        exact List.map_id' _
  rw [predictWin_eq_picks β teams hn, ← List.zip_map', h1]

/-- **Equivariance, team by team.** Each team carries its win probability with it when the teams
are permuted: the list of (team, probability) pairs is permuted. -/
theorem C09_equivariant_zip (β : ℝ) (teams teams' : List (List (Rating ℝ)))
    (hn : 2 ≤ teams.length) (h : teams.Perm teams') :
    (teams.zip (predictWin β teams)).Perm (teams'.zip (predictWin β teams')) := by
  have hn' : 2 ≤ teams'.length := by rw [← h.length_eq]; exact hn
  rw [zip_predictWin β teams hn, zip_predictWin β teams' hn', ← h.length_eq,
    ← playerCount_perm h]
  exact picks_map_perm (h.map _)
    (fun y r => (y.players, winVal β teams.length (playerCount teams) y r))
    (fun y r r' hr => by rw [winVal_perm β _ _ y r r' hr])

/-- swapping two teams swaps their probabilities -/
theorem C09_swap_two (β : ℝ) (a b : List (Rating ℝ)) :
    predictWin β [b, a] = (predictWin β [a, b]).reverse := by
  rw [predictWin_eq_winVal β [a, b] (by simp), predictWin_eq_winVal β [b, a] (by simp)]
  rw [playerCount_pair b a, Nat.add_comm, ← playerCount_pair a b]
  -- both sides are the two `winVal`s, each of one team against the other, in opposite orders
  rfl

/-- **Identical teams get identical values**: two teams with the same θ and the same s² (in
particular two equal teams) have the same win probability. -/
theorem C09_identical (β : ℝ) (teams : List (List (Rating ℝ))) (hn : 2 ≤ teams.length)
    (i j : ℕ) (hi : i < teams.length) (hj : j < teams.length)
    (hmu : (teamAgg teams[i] 0).mu = (teamAgg teams[j] 0).mu)
    (hs : (teamAgg teams[i] 0).sig2 = (teamAgg teams[j] 0).sig2)
    (h1 : i < (predictWin β teams).length) (h2 : j < (predictWin β teams).length) :
    (predictWin β teams)[i] = (predictWin β teams)[j] := by
  -- both entries through the sum over ALL teams, minus the own term ½
  rw [C09_entry β teams hn i hi, C09_entry β teams hn j hj, ← getElem_aggs teams i hi,
    ← getElem_aggs teams j hj, winVal_eraseIdx, winVal_eraseIdx]
  congr 2
  apply congrArg
  apply List.map_congr_left
  intro b _
  -- the pair term reads its first team only through θ and s²
  unfold winTerm
  rw [getElem_aggs teams i hi, getElem_aggs teams j hj, hmu, hs]

theorem C09_identical_teams (β : ℝ) (teams : List (List (Rating ℝ))) (hn : 2 ≤ teams.length)
    (i j : ℕ) (hi : i < teams.length) (hj : j < teams.length) (h : teams[i] = teams[j])
    (h1 : i < (predictWin β teams).length) (h2 : j < (predictWin β teams).length) :
    (predictWin β teams)[i] = (predictWin β teams)[j] :=
  C09_identical β teams hn i j hi hj (by rw [h]) (by rw [h]) h1 h2

/-! ### monotonicity -/

/-- a team's entry goes up with its own θ and down with the θ of every other team (s² unchanged) -/
theorem winVal_le (β : ℝ) {n : ℕ} (N : ℕ) (hn : 2 ≤ n) {a a' : TeamAgg ℝ} (ha : a'.mu ≤ a.mu)
    (has : a.sig2 = a'.sig2) {r r' : List (TeamAgg ℝ)} (h : List.Forall₂ fl5_Raised r r') :
    winVal β n N a' r' ≤ winVal β n N a r :=
  div_le_div_of_nonneg_right (List.Forall₂.sum_le_sum (forall₂_map_flip h
    (fun _ _ _ hb => winTerm_le β _ ha has hb))) (winDenom_pos n hn).le

/-- **Monotone, own entry.** Replace team `i` by a team of the same size and the same s² whose θ
is not smaller: the win probability of team `i` does not go down. -/
theorem C09_monotone_team_own (β : ℝ) (teams : List (List (Rating ℝ))) (hn : 2 ≤ teams.length)
    (i : ℕ) (hi : i < teams.length) (t' : List (Rating ℝ)) (hlen : t'.length = teams[i].length)
    (hsig : (teamAgg t' 0).sig2 = (teamAgg teams[i] 0).sig2)
    (hmu : (teamAgg teams[i] 0).mu ≤ (teamAgg t' 0).mu)
    (h1 : i < (predictWin β teams).length) (h2 : i < (predictWin β (teams.set i t')).length) :
    (predictWin β teams)[i] ≤ (predictWin β (teams.set i t'))[i] := by
  rw [C09_entry β teams hn i hi, C09_entry β _ (by simpa using hn) i (by simpa using hi),
    playerCount_set teams i hi t' hlen]
  simp only [List.length_set, List.getElem_set_self, aggs_set, List.eraseIdx_set_eq]
  exact winVal_le β _ hn hmu hsig (List.forall₂_same.2 fun _ _ => ⟨rfl, le_rfl⟩)

/-- **Monotone, other entries.** Under the same replacement the win probability of every other
team does not go up. -/
theorem C09_monotone_team_other (β : ℝ) (teams : List (List (Rating ℝ))) (hn : 2 ≤ teams.length)
    (i : ℕ) (hi : i < teams.length) (t' : List (Rating ℝ)) (hlen : t'.length = teams[i].length)
    (hsig : (teamAgg t' 0).sig2 = (teamAgg teams[i] 0).sig2)
    (hmu : (teamAgg teams[i] 0).mu ≤ (teamAgg t' 0).mu)
    (k : ℕ) (hk : k < teams.length) (hki : k ≠ i)
    (h1 : k < (predictWin β teams).length) (h2 : k < (predictWin β (teams.set i t')).length) :
    (predictWin β (teams.set i t'))[k] ≤ (predictWin β teams)[k] := by
  rw [C09_entry β teams hn k hk, C09_entry β _ (by simpa using hn) k (by simpa using hk),
    playerCount_set teams i hi t' hlen]
  simp only [List.length_set, List.getElem_set_ne (Ne.symm hki), aggs_set]
  exact winVal_le β _ hn le_rfl rfl (forall₂_eraseIdx
    (forall₂_set (fun _ => ⟨rfl, le_rfl⟩) _ (by rw [length_aggs]; exact hi)
      (by rw [getElem_aggs teams i hi]; exact ⟨hsig, hmu⟩)) k)

/-- team `t` with the mu of its `j`-th member raised by `d` -/
def raiseMu (t : List (Rating ℝ)) (j : ℕ) (d : ℝ) : List (Rating ℝ) :=
  t.modify j (fun p => { p with mu := p.mu + d })

theorem length_raiseMu (t : List (Rating ℝ)) (j : ℕ) (d : ℝ) : (raiseMu t j d).length = t.length := by
  simp [raiseMu]

theorem raiseMu_eq_setMu (t : List (Rating ℝ)) (j : ℕ) (hj : j < t.length) (d : ℝ) :
    raiseMu t j d = fl5_setMu t j (t[j].mu + d) := by
  rw [fl5_setMu_eq_set t j hj, raiseMu, List.modify_eq_set_getElem?, List.getElem?_eq_getElem hj]
  rfl

theorem teamAgg_raiseMu (t : List (Rating ℝ)) (j : ℕ) (hj : j < t.length) {d : ℝ} (hd : 0 ≤ d) :
    (teamAgg t 0).mu ≤ (teamAgg (raiseMu t j d) 0).mu
      ∧ (teamAgg (raiseMu t j d) 0).sig2 = (teamAgg t 0).sig2 := by
  rw [raiseMu_eq_setMu t j hj d]
  exact FL_teamAgg_mu_mono MonoArith.real t j hj _ (le_add_of_nonneg_right hd) 0

/-- **Monotone in a member's mu, own team.** Raising the mu of member `j` of team `i` by `d ≥ 0`
does not lower the win probability of team `i`. -/
theorem C09_monotone_own (β : ℝ) (teams : List (List (Rating ℝ))) (hn : 2 ≤ teams.length)
    (i : ℕ) (hi : i < teams.length) (j : ℕ) (hj : j < teams[i].length) (d : ℝ) (hd : 0 ≤ d)
    (h1 : i < (predictWin β teams).length)
    (h2 : i < (predictWin β (teams.set i (raiseMu teams[i] j d))).length) :
    (predictWin β teams)[i] ≤ (predictWin β (teams.set i (raiseMu teams[i] j d)))[i] :=
  C09_monotone_team_own β teams hn i hi _ (length_raiseMu _ _ _) (teamAgg_raiseMu _ j hj hd).2
    (teamAgg_raiseMu _ j hj hd).1 h1 h2

/-- **Monotone in a member's mu, other teams.** Raising the mu of member `j` of team `i` by `d ≥ 0`
does not raise the win probability of any other team `k`. -/
theorem C09_monotone_other (β : ℝ) (teams : List (List (Rating ℝ))) (hn : 2 ≤ teams.length)
    (i : ℕ) (hi : i < teams.length) (j : ℕ) (hj : j < teams[i].length) (d : ℝ) (hd : 0 ≤ d)
    (k : ℕ) (hk : k < teams.length) (hki : k ≠ i)
    (h1 : k < (predictWin β teams).length)
    (h2 : k < (predictWin β (teams.set i (raiseMu teams[i] j d))).length) :
    (predictWin β (teams.set i (raiseMu teams[i] j d)))[k] ≤ (predictWin β teams)[k] :=
  C09_monotone_team_other β teams hn i hi _ (length_raiseMu _ _ _) (teamAgg_raiseMu _ j hj hd).2
    (teamAgg_raiseMu _ j hj hd).1 k hk hki h1 h2

end OS
end
