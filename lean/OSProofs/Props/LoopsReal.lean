import OSProofs.RealInst
import OSProofs.CodeShaped
import OSProofs.Props.Loops
import OSProofs.Props.PredictLoops

/-!
# The literal loops over ℝ: no hypothesis is left

The theorems of `OSProofs/CodeShaped.lean`, `Props/Loops.lean` and `Props/PredictLoops.lean` hold for every
scalar type and name the laws of arithmetic they use (`a - b = a + -b`, `1 * a = a`, `0 + a = a`, a total
preorder).  Over ℝ all of them hold, so every literal loop equals its closed form outright.
-/

namespace OS
open Scalar

/-! ## the three laws (`a - b = a + -b` is `sub_eq_add_neg`) -/

example : (∀ a b : ℝ, a - b = a + -b) ∧ (∀ a : ℝ, (Scalar.ofNat 1 : ℝ) * a = a) ∧
    (∀ a : ℝ, (Scalar.ofNat 0 : ℝ) + a = a) := ⟨sub_eq_add_neg, sc_one_mul, sc_zero_add⟩

/-! ## `_sum_q` and `_rank_data` -/

/-- **`_sum_q`: the dict-building double loop equals the closed form `plSumQ`** (over ℝ) when
the team ranks are non-decreasing along the list — which `_calculate_rankings` guarantees
(`denseRanks_nondecreasing`). -/
theorem plSumQCode_eq (ts : List (TeamAgg ℝ)) (c : ℝ)
    (hs : ts.Pairwise (fun a b => a.rank ≤ b.rank)) :
    plSumQCode ts c = plSumQ ts c :=
  plSumQCode_eq_of_zero ts c hs fun _ _ => sc_zero_add _

/-- **`_sum_q` = `plSumQ` at the call site of `rate` with ranks/scores**: the team ratings built
from the output of `_calculate_rankings` (any comparison, any rank values). -/
theorem plSumQCode_eq_denseRanks {ρ : Type} (lt : ρ → ρ → Bool) (s : List ρ)
    (teams : List (List (Rating ℝ))) (c : ℝ) :
    plSumQCode (teamAggs teams (denseRanks lt s)) c = plSumQ (teamAggs teams (denseRanks lt s)) c :=
  plSumQCode_eq _ c (teamAggs_rank_nondecreasing teams _ (denseRanks_nondecreasing lt s))

/-- **`_sum_q` = `plSumQ` at the call site of `rate` without ranks** (`ranks = range(n)`). -/
theorem plSumQCode_eq_range (teams : List (List (Rating ℝ))) (n : Nat) (c : ℝ) :
    plSumQCode (teamAggs teams (List.range n)) c = plSumQ (teamAggs teams (List.range n)) c := by
  apply plSumQCode_eq _ c (teamAggs_rank_nondecreasing teams _ ?_)
  exact List.pairwise_lt_range.imp Nat.le_of_lt

/-- **`_rank_data`: the sort-and-scan loop equals the closed form `rankData`** (over ℝ), for
every input list: each entry gets `1 +` the number of strictly smaller entries. -/
theorem rankDataCode_eq (v : List ℝ) : rankDataCode v = rankData v :=
  rankDataCode_eq_of_preorder OrderLaws.real v

/-! ## `_compute` and `rate` -/

/-- **Over ℝ the loop-shaped `_compute` of every model equals `compute`**, no hypothesis. -/
theorem computeLoop_eq_real (K : Kind) (L : Leaves ℝ) (P : Params ℝ) (teams : List (List (Rating ℝ)))
    (dense : List Nat) : computeLoop K L P teams dense = compute K L P teams dense :=
  computeLoop_eq K sub_eq_add_neg sc_one_mul L P teams dense

/-- **Over ℝ, `rateCore` computed through the loops is `rateCore`**, no hypothesis. -/
theorem rateCore_via_loops_real {ρ : Type} (K : Kind) (L : Leaves ℝ) (P : Params ℝ) (le : ρ → ρ → Bool)
    (teams : List (List (Rating ℝ))) (ranks : Option (List ρ)) (o : CallOpts ℝ) :
    rateCoreLoop K L P le teams ranks o = rateCore K L P le teams ranks o :=
  rateCore_via_loops K sub_eq_add_neg sc_one_mul L P le teams ranks o

/-- **Over ℝ: `rate` with every loop literal is `rate`**, the only hypothesis being one rank (score)
per team. -/
theorem rateLoop_eq_real {ρ : Type} (K : Kind) (L : Leaves ℝ) (P : Params ℝ) (le : ρ → ρ → Bool)
    (neg : ρ → ρ) (teams : List (List (Rating ℝ))) (oc : Outcome ρ) (o : CallOpts ℝ)
    (hlen : match oc with
      | .omitted => True
      | .ranks r => r.length = teams.length
      | .scores s => s.length = teams.length) :
    rateLoop K L P le neg teams oc o = rate K L P le neg teams oc o :=
  rateLoop_eq K sub_eq_add_neg sc_one_mul sc_zero_add L P le neg teams oc o hlen

/-! ## the predictions -/

theorem pl2_firstPlayer_real (team : List (Rating ℝ)) : FirstPlayerZeroAdd team :=
  fun _ _ => ⟨sc_zero_add _, sc_zero_add _⟩

/-- over ℝ the literal `predict_win` IS `predictWin`, for every input -/
theorem predictWinLoop_eq_real (beta : ℝ) (teams : List (List (Rating ℝ))) :
    predictWinLoop beta teams = predictWin beta teams :=
  predictWinLoop_eq beta teams (fun t _ => pl2_firstPlayer_real t)

/-- over ℝ the literal `predict_draw` IS `predictDraw`, for every input -/
theorem predictDrawLoop_eq_real (beta : ℝ) (teams : List (List (Rating ℝ))) :
    predictDrawLoop beta teams = predictDraw beta teams :=
  predictDrawLoop_eq beta teams (fun t _ => pl2_firstPlayer_real t)

/-- over ℝ the literal `predict_rank` (literal `_rank_data` included) IS `predictRank`, for every input -/
theorem predictRankLoop_eq_real (beta : ℝ) (teams : List (List (Rating ℝ))) :
    predictRankLoop beta teams = predictRank beta teams :=
  predictRankLoop_eq beta teams (fun t _ => pl2_firstPlayer_real t) (rankDataCode_eq _)

/-- the hypotheses of the three equality theorems hold for every game over ℝ -/
example (beta : ℝ) (teams : List (List (Rating ℝ))) :
    (∀ team ∈ teams, FirstPlayerZeroAdd team) ∧
      rankDataCode (predictRankProbs beta teams) = rankData (predictRankProbs beta teams) :=
  ⟨fun t _ => pl2_firstPlayer_real t, rankDataCode_eq _⟩

end OS
