import OSProofs.C05SpecLemmas
import OSProofs.Props.C05
import OSProofs.Props.C17
import OSProofs.FL3Lemmas
/-!
# C05 — direction of learning (game level)

"Winning never costs mu, losing never earns it", for whole games and all five models, over ℝ.

1. A team alone in first place has `Ω ≥ 0`, a team alone in last place has `Ω ≤ 0`; hence every
   member's mu moves up (resp. down) or stays.
   Stated for `omegaDelta` + `applyTeam` on arbitrary team aggregates with `σ_team² ≥ 0`, and for
   `compute` on arbitrary teams (no hypothesis on the ratings at all).
2. Two-team games: `Ω_loss ≤ Ω_draw ≤ Ω_win`, `Ω_loss ≤ 0 ≤ Ω_win`, and the direction of a draw.
   (`omegaTwo` is the `FL3_omega0` of `FL3Lemmas.lean` at ℝ; `Props/FL3.lean` proves the chain in every
   monotone arithmetic, from strictly positive divisors.)
3. Twins (same mu, same variance) under full pairing (BTF, TMF): the better-placed twin has the
   larger `Ω`.

None of the weak inequalities needs `β > 0`: over ℝ, `x / 0 = 0`, so a degenerate `c = 0` makes the
terms vanish rather than blow up.  The strict version of the draw direction needs `σ_a² > 0`, which makes
`c_ab > 0` (its hypothesis `β > 0` is not used).  `κ ≥ 0` is used only where the draw branch `Ṽ` of
Thurstone–Mosteller occurs.
-/
noncomputable section
namespace OS

/-! ## 1. alone in first place / alone in last place -/

/-- alone in first place `Ω ≥ 0`, alone in last place `Ω ≤ 0`; the leaf facts are asked for only
where the leaves are read -/
theorem omegaDelta_sole (K : Kind) (L : Leaves ℝ) (hL : K = .TMF ∨ K = .TMP → LeafFacts L)
    (P : Params ℝ) (ts : List (TeamAgg ℝ)) (i : Nat) (hi : i < ts.length) (hs : 0 ≤ ts[i].sig2) :
    ((∀ (q : Nat) (hq : q < ts.length), q ≠ i → ts[i].rank < ts[q].rank) →
      0 ≤ ((omegaDelta K L P ts)[i]'(omegaDelta_lt L P ts hi)).1) ∧
    ((∀ (q : Nat) (hq : q < ts.length), q ≠ i → ts[q].rank < ts[i].rank) →
      ((omegaDelta K L P ts)[i]'(omegaDelta_lt L P ts hi)).1 ≤ 0) := by
  rw [omegaDelta_fst_eq_omegaAt K L P ts ts.length rfl i hi]
  -- the pairwise models: a sum over opponent positions `q ≠ i` of pair terms with the sign of the outcome
  have pairwise : ∀ (s : Finset (Fin ts.length)) (pr : TeamAgg ℝ → TeamAgg ℝ → ℝ × ℝ),
      (∀ q ∈ s, q ≠ ⟨i, hi⟩) →
      (∀ tq, (ts[i].rank < tq.rank → 0 ≤ (pr ts[i] tq).1) ∧
        (tq.rank < ts[i].rank → (pr ts[i] tq).1 ≤ 0)) →
      ((∀ (q : Nat) (hq : q < ts.length), q ≠ i → ts[i].rank < ts[q].rank) →
        0 ≤ ∑ q ∈ s, (pr ts[i] (ts[q.1]'q.2)).1) ∧
      ((∀ (q : Nat) (hq : q < ts.length), q ≠ i → ts[q].rank < ts[i].rank) →
        ∑ q ∈ s, (pr ts[i] (ts[q.1]'q.2)).1 ≤ 0) := fun s pr hne hpr =>
    ⟨fun h => Finset.sum_nonneg fun q hq => (hpr _).1 (h q.1 q.2 fun e => hne q hq (Fin.ext e)),
      fun h => Finset.sum_nonpos fun q hq => (hpr _).2 (h q.1 q.2 fun e => hne q hq (Fin.ext e))⟩
  cases K <;> simp only [omegaAt]
  · have h := SpecPL.Ω_sole (gameAt ts ts.length rfl) P.beta ⟨i, hi⟩ hs
    exact ⟨fun h1 => h.1 fun q hq => h1 q.1 q.2 fun e => hq (Fin.ext e),
      fun h2 => h.2 fun q hq => h2 q.1 q.2 fun e => hq (Fin.ext e)⟩
  · exact pairwise _ (btPair P.beta P.gamma ts.length) (fun q hq => (Finset.mem_filter.1 hq).2) fun tq =>
      ⟨C05_btPair_win_nonneg _ _ _ _ _ hs, C05_btPair_loss_nonpos _ _ _ _ _ hs⟩
  · exact pairwise _ (btPair P.beta P.gamma ts.length) (fun q => ne_of_mem_nbrs) fun tq =>
      ⟨C05_btPair_win_nonneg _ _ _ _ _ hs, C05_btPair_loss_nonpos _ _ _ _ _ hs⟩
  · exact pairwise _ (tmPair L 1 P.beta P.kappa P.gamma ts.length)
      (fun q hq => (Finset.mem_filter.1 hq).2) fun tq =>
      C05_tmPair_sign L (hL (Or.inl rfl)) _ _ _ _ _ _ _ hs zero_le_one
  · exact pairwise _ (tmPair L 2 P.beta P.kappa P.gamma ts.length) (fun q => ne_of_mem_nbrs) fun tq =>
      C05_tmPair_sign L (hL (Or.inr rfl)) _ _ _ _ _ _ _ hs zero_le_two

/-- **Sole winner, all five models.**  A team that is alone in first place (its rank is strictly
better than every other team's) gets a non-negative `Ω`.  (Needs only `σ_team² ≥ 0`; for the
Thurstone–Mosteller models, `V ≥ 0` from `LeafFacts`.) -/
theorem C05_sole_first (K : Kind) (L : Leaves ℝ) (hL : LeafFacts L) (P : Params ℝ)
    (ts : List (TeamAgg ℝ)) (hs : ∀ t ∈ ts, 0 ≤ t.sig2) (i : Nat) (hi : i < ts.length)
    (hfirst : ∀ (q : Nat) (hq : q < ts.length), q ≠ i → ts[i].rank < ts[q].rank) :
    0 ≤ ((omegaDelta K L P ts)[i]'(omegaDelta_lt L P ts hi)).1 :=
  (omegaDelta_sole K L (fun _ => hL) P ts i hi (hs _ (List.getElem_mem hi))).1 hfirst

/-- **Sole loser, all five models.**  A team that is alone in last place gets a non-positive `Ω`. -/
theorem C05_sole_last (K : Kind) (L : Leaves ℝ) (hL : LeafFacts L) (P : Params ℝ)
    (ts : List (TeamAgg ℝ)) (hs : ∀ t ∈ ts, 0 ≤ t.sig2) (i : Nat) (hi : i < ts.length)
    (hlast : ∀ (q : Nat) (hq : q < ts.length), q ≠ i → ts[q].rank < ts[i].rank) :
    ((omegaDelta K L P ts)[i]'(omegaDelta_lt L P ts hi)).1 ≤ 0 :=
  (omegaDelta_sole K L (fun _ => hL) P ts i hi (hs _ (List.getElem_mem hi))).2 hlast

theorem applyTeam_mu_ge (κ ω δ : ℝ) (t : TeamAgg ℝ) (hs : 0 ≤ t.sig2) (hω : 0 ≤ ω) :
    List.Forall₂ (fun p p' => p.mu ≤ p'.mu) t.players (applyTeam κ t ω δ) :=
  applyTeam_forall₂ t fun p _ => le_add_of_nonneg_right (mul_nonneg (share_nonneg p hs) hω)

theorem applyTeam_mu_le (κ ω δ : ℝ) (t : TeamAgg ℝ) (hs : 0 ≤ t.sig2) (hω : ω ≤ 0) :
    List.Forall₂ (fun p p' => p'.mu ≤ p.mu) t.players (applyTeam κ t ω δ) :=
  applyTeam_forall₂ t fun p _ =>
    add_le_of_nonpos_right (mul_nonpos_of_nonneg_of_nonpos (share_nonneg p hs) hω)

/-- **Sole winner: no member loses mu.**  The updated team of a sole winner, member by member
(`List.Forall₂` pairs the `j`-th old member with the `j`-th new one): `mu_old ≤ mu_new`. -/
theorem C05_sole_first_members (K : Kind) (L : Leaves ℝ) (hL : LeafFacts L) (P : Params ℝ)
    (ts : List (TeamAgg ℝ)) (hs : ∀ t ∈ ts, 0 ≤ t.sig2) (i : Nat) (hi : i < ts.length)
    (hfirst : ∀ (q : Nat) (hq : q < ts.length), q ≠ i → ts[i].rank < ts[q].rank) :
    List.Forall₂ (fun p p' => p.mu ≤ p'.mu) ts[i].players
      (applyTeam P.kappa ts[i] ((omegaDelta K L P ts)[i]'(omegaDelta_lt L P ts hi)).1
        ((omegaDelta K L P ts)[i]'(omegaDelta_lt L P ts hi)).2) :=
  applyTeam_mu_ge _ _ _ _ (hs _ (List.getElem_mem hi)) (C05_sole_first K L hL P ts hs i hi hfirst)

/-- **Sole loser: no member gains mu.** -/
theorem C05_sole_last_members (K : Kind) (L : Leaves ℝ) (hL : LeafFacts L) (P : Params ℝ)
    (ts : List (TeamAgg ℝ)) (hs : ∀ t ∈ ts, 0 ≤ t.sig2) (i : Nat) (hi : i < ts.length)
    (hlast : ∀ (q : Nat) (hq : q < ts.length), q ≠ i → ts[q].rank < ts[i].rank) :
    List.Forall₂ (fun p p' => p'.mu ≤ p.mu) ts[i].players
      (applyTeam P.kappa ts[i] ((omegaDelta K L P ts)[i]'(omegaDelta_lt L P ts hi)).1
        ((omegaDelta K L P ts)[i]'(omegaDelta_lt L P ts hi)).2) :=
  applyTeam_mu_le _ _ _ _ (hs _ (List.getElem_mem hi)) (C05_sole_last K L hL P ts hs i hi hlast)

/-- slot `i` of `_compute` when team `i` is alone in first (last) place: `applyTeam` with an `Ω` of
that sign -/
theorem compute_sole (K : Kind) (L : Leaves ℝ) (hL : K = .TMF ∨ K = .TMP → LeafFacts L)
    (P : Params ℝ) (teams : List (List (Rating ℝ))) (dense : List Nat)
    (hlen : dense.length = teams.length) (i : Nat) (hi : i < teams.length) :
    ((∀ (q : Nat) (hq : q < dense.length), q ≠ i → dense[i]'(hlen ▸ hi) < dense[q]) →
      List.Forall₂ (fun p p' => p.mu ≤ p'.mu) teams[i]
        ((compute K L P teams dense)[i]'(compute_lt hi (hlen ▸ hi)))) ∧
    ((∀ (q : Nat) (hq : q < dense.length), q ≠ i → dense[q] < dense[i]'(hlen ▸ hi)) →
      List.Forall₂ (fun p p' => p'.mu ≤ p.mu) teams[i]
        ((compute K L P teams dense)[i]'(compute_lt hi (hlen ▸ hi)))) := by
  have hd : i < dense.length := hlen ▸ hi
  have hn : (teamAggs teams dense).length = dense.length := (teamAggs_length_of_eq hlen).trans hlen.symm
  have hrank : ∀ (q : Nat) (hq : q < (teamAggs teams dense).length),
      (teamAggs teams dense)[q].rank = dense[q]'(hn ▸ hq) := fun q hq => by
    rw [teamAggs_getElem teams dense q (hlen ▸ hn ▸ hq) (hn ▸ hq)]; rfl
  have hsole := omegaDelta_sole K L hL P (teamAggs teams dense) i (hn ▸ hd)
    (teamAggs_sig2_nonneg (List.getElem_mem _))
  simp only [hrank] at hsole
  rw [compute_getElem K L P teams dense i hi hd, teamAggs_getElem teams dense i hi hd]
  exact ⟨fun h => applyTeam_mu_ge _ _ _ _ (teamAgg_sig2_nonneg _ _)
      (hsole.1 fun q hq => h q (hn ▸ hq)),
    fun h => applyTeam_mu_le _ _ _ _ (teamAgg_sig2_nonneg _ _) (hsole.2 fun q hq => h q (hn ▸ hq))⟩

/-- **Sole winner, at the level of `_compute`.**  For any teams (no hypothesis on the ratings:
over ℝ a team's variance is a sum of squares) and dense ranks of the same length, if team `i` is
alone in first place then every one of its members comes out with `mu_new ≥ mu_old`. -/
theorem C05_compute_sole_first (K : Kind) (L : Leaves ℝ) (hL : LeafFacts L) (P : Params ℝ)
    (teams : List (List (Rating ℝ))) (dense : List Nat) (hlen : dense.length = teams.length)
    (i : Nat) (hi : i < teams.length)
    (hfirst : ∀ (q : Nat) (hq : q < dense.length), q ≠ i → dense[i] < dense[q]) :
    List.Forall₂ (fun p p' => p.mu ≤ p'.mu) teams[i]
      ((compute K L P teams dense)[i]'(compute_lt hi (by omega))) :=
  (compute_sole K L (fun _ => hL) P teams dense hlen i hi).1 hfirst

/-- **Sole loser, at the level of `_compute`**: every member comes out with `mu_new ≤ mu_old`. -/
theorem C05_compute_sole_last (K : Kind) (L : Leaves ℝ) (hL : LeafFacts L) (P : Params ℝ)
    (teams : List (List (Rating ℝ))) (dense : List Nat) (hlen : dense.length = teams.length)
    (i : Nat) (hi : i < teams.length)
    (hlast : ∀ (q : Nat) (hq : q < dense.length), q ≠ i → dense[q] < dense[i]) :
    List.Forall₂ (fun p p' => p'.mu ≤ p.mu) teams[i]
      ((compute K L P teams dense)[i]'(compute_lt hi (by omega))) :=
  (compute_sole K L (fun _ => hL) P teams dense hlen i hi).2 hlast

/-! ## 2. two-team games -/

/-- `Ω` of the first team in the two-team game `[a, b]` in which `a` is given rank `ra` and `b`
rank `rb` (mu, sigma², players unchanged) -/
def omegaTwo (K : Kind) (L : Leaves ℝ) (P : Params ℝ) (a b : TeamAgg ℝ) (ra rb : Nat) : ℝ :=
  ((omegaDelta K L P [{ a with rank := ra }, { b with rank := rb }])[0]'(two_lt _ _ _ _ _)).1

theorem omegaTwo_eq_FL3_omega0 (K : Kind) (L : Leaves ℝ) (P : Params ℝ) (a b : TeamAgg ℝ) (ra rb : Nat) :
    omegaTwo K L P a b ra rb = FL3_omega0 K L P a b ra rb :=
  congrArg Prod.fst (omegaDelta_getElem L P [fl3_wr a ra, fl3_wr b rb] K 0 Nat.zero_lt_two)

theorem fl3_cmul_nonneg (K : Kind) : (0 : ℝ) ≤ fl3_cmul K := by
  cases K <;> exact Nat.cast_nonneg _

/-- two teams, Thurstone–Mosteller: `Ω₀ = (σ_a²/c)·V`, `·Ṽ`, `·(−V(−x))` for a win, a draw, a loss, at
`x = (μ_a − μ_b)/c`, `t = κ/c`, `c = cmul·c_ab` (`cmul = 1` full, `2` partial pairing) -/
theorem omegaTwo_TM (K : Kind) (hK : K = .TMF ∨ K = .TMP) (L : Leaves ℝ) (P : Params ℝ)
    (a b : TeamAgg ℝ) (ra rb : Nat) :
    omegaTwo K L P a b ra rb = a.sig2 / (fl3_cmul K * pairC P.beta a b) *
      byOutcome ra rb
        (L.v ((a.mu - b.mu) / (fl3_cmul K * pairC P.beta a b)) (P.kappa / (fl3_cmul K * pairC P.beta a b)))
        (L.vt ((a.mu - b.mu) / (fl3_cmul K * pairC P.beta a b)) (P.kappa / (fl3_cmul K * pairC P.beta a b)))
        (-L.v (-((a.mu - b.mu) / (fl3_cmul K * pairC P.beta a b)))
          (P.kappa / (fl3_cmul K * pairC P.beta a b))) := by
  rw [omegaTwo_eq_FL3_omega0, fl3_omega0_TM K hK, sumL_singleton]
  exact tmPair_fst _ _ _ _ _ _ _ _

/-- two teams, Plackett–Luce: `Ω₀ = (σ_a²/c)·(score − p)` with `c = plC β [a, b]`, `p = plP c a b` -/
theorem omegaTwo_PL (L : Leaves ℝ) (P : Params ℝ) (a b : TeamAgg ℝ) (ra rb : Nat) :
    omegaTwo .PL L P a b ra rb = a.sig2 / plC P.beta [a, b] *
      (byOutcome ra rb 1 (1 / 2) 0 - plP (plC P.beta [a, b]) a b) := by
  have he := (Real.exp_pos (a.mu / plC P.beta [a, b])).ne'
  rw [omegaTwo_eq_FL3_omega0, fl3_omega0_PL]
  rcases Nat.lt_trichotomy ra rb with h | h | h
  · rw [fl3_pl0_win _ _ _ _ h, byOutcome_win h]
    simp only [sumL_singleton, sumL_pair, sc_ofNat, sc_exp, Nat.cast_one, div_one, plP]
    ring
  · subst h
    rw [fl3_pl0_draw, byOutcome_draw rfl]
    simp only [sumL_pair, sc_ofNat, sc_exp, Nat.cast_one, Nat.cast_ofNat, plP]
    ring
  · rw [fl3_pl0_loss _ _ _ _ h, byOutcome_loss h]
    simp only [sumL_singleton, sumL_pair, sc_ofNat, sc_exp, Nat.cast_one, div_one, plP, div_self he]
    ring

/-- **two teams, Plackett–Luce and Bradley–Terry coincide**: `Ω₀ = (σ_a²/c)·(score − p)` with the
same `c` and the same `p`; the ranks enter through the score only -/
theorem omegaTwo_BT_PL (K : Kind) (hK : K = .PL ∨ K = .BTF ∨ K = .BTP) (L : Leaves ℝ)
    (P : Params ℝ) (a b : TeamAgg ℝ) (ra rb : Nat) :
    omegaTwo K L P a b ra rb
      = a.sig2 / pairC P.beta a b * (byOutcome ra rb 1 (1 / 2) 0 - btP P.beta a b) := by
  rcases hK with rfl | hK
  · rw [omegaTwo_PL, plC_two, plP_pairC]
  · rw [omegaTwo_eq_FL3_omega0, fl3_omega0_BT K hK, sumL_singleton]
    exact btPair_fst _ _ _ _ _

/-- **Two teams, all five models: loss ≤ draw ≤ win, loss ≤ 0 ≤ win.**  Play the same two teams
three times: `a` loses (`rl' < rl`), draws (`rd = rd'`), wins (`rw < rw'`).  Then
`Ω_loss ≤ Ω_draw ≤ Ω_win` and `Ω_loss ≤ 0 ≤ Ω_win`. -/
theorem C05_two_team_chain (K : Kind) (L : Leaves ℝ) (hL : LeafFacts L) (P : Params ℝ)
    (a b : TeamAgg ℝ) (ha : 0 ≤ a.sig2) (hκ : 0 ≤ P.kappa)
    (rw rw' rd rd' rl rl' : Nat) (hw : rw < rw') (hd : rd = rd') (hl : rl' < rl) :
    omegaTwo K L P a b rl rl' ≤ omegaTwo K L P a b rd rd' ∧
    omegaTwo K L P a b rd rd' ≤ omegaTwo K L P a b rw rw' ∧
    omegaTwo K L P a b rl rl' ≤ 0 ∧ 0 ≤ omegaTwo K L P a b rw rw' := by
  rcases or_assoc.2 K.pl_or_bt_or_tm with hK | hK
  · have hp := btP_mem P.beta a b
    rw [omegaTwo_BT_PL K hK, omegaTwo_BT_PL K hK, omegaTwo_BT_PL K hK, byOutcome_loss hl,
      byOutcome_draw hd, byOutcome_win hw]
    exact scale_chain (div_nonneg ha (pairC_nonneg _ _ _)) (sub_le_sub_right one_half_pos.le _)
      (sub_le_sub_right (half_le_self zero_le_one) _) (sub_nonpos.2 hp.1.le) (sub_nonneg.2 hp.2.le)
  · have hC : 0 ≤ fl3_cmul K * pairC P.beta a b :=
      mul_nonneg (fl3_cmul_nonneg K) (pairC_nonneg _ _ _)
    have hch := hL.chain ((a.mu - b.mu) / (fl3_cmul K * pairC P.beta a b)) (div_nonneg hκ hC)
    rw [omegaTwo_TM K hK, omegaTwo_TM K hK, omegaTwo_TM K hK, byOutcome_loss hl,
      byOutcome_draw hd, byOutcome_win hw]
    exact scale_chain (div_nonneg ha hC) hch.1 hch.2 (neg_nonpos.2 (hL.v_nonneg _ _))
      (hL.v_nonneg _ _)

/-- **Draw of two teams, Plackett–Luce and Bradley–Terry: the favourite pays.**  In a drawn
two-team game the team with the larger mu gets `Ω ≤ 0`, the one with the smaller mu `Ω ≥ 0`
(equal mu: `Ω = 0`). -/
theorem C05_two_team_draw_BT_PL (K : Kind) (hK : K = .PL ∨ K = .BTF ∨ K = .BTP) (L : Leaves ℝ)
    (P : Params ℝ) (a b : TeamAgg ℝ) (ha : 0 ≤ a.sig2) (r r' : Nat) (hd : r = r') :
    (b.mu ≤ a.mu → omegaTwo K L P a b r r' ≤ 0) ∧ (a.mu ≤ b.mu → 0 ≤ omegaTwo K L P a b r r') := by
  have hk : 0 ≤ a.sig2 / pairC P.beta a b := div_nonneg ha (pairC_nonneg _ _ _)
  rw [omegaTwo_BT_PL K hK, byOutcome_draw hd]
  exact ⟨fun h => mul_nonpos_of_nonneg_of_nonpos hk (sub_nonpos.2 (btP_ge_half P.beta a b h)),
    fun h => mul_nonneg hk (sub_nonneg.2 (btP_le_half P.beta a b h))⟩

/-- … strictly, when `β > 0` and the team has positive variance: the strict favourite strictly
loses, the strict underdog strictly gains. -/
theorem C05_two_team_draw_BT_PL_strict (K : Kind) (hK : K = .PL ∨ K = .BTF ∨ K = .BTP)
    (L : Leaves ℝ) (P : Params ℝ) (hβ : 0 < P.beta) (a b : TeamAgg ℝ) (ha : 0 < a.sig2)
    (hb : 0 ≤ b.sig2) (r r' : Nat) (hd : r = r') :
    (b.mu < a.mu → omegaTwo K L P a b r r' < 0) ∧ (a.mu < b.mu → 0 < omegaTwo K L P a b r r') := by
  have hc := pairC_pos_of_sig2 P.beta ha hb
  have hk : 0 < a.sig2 / pairC P.beta a b := div_pos ha hc
  rw [omegaTwo_BT_PL K hK, byOutcome_draw hd]
  exact ⟨fun h => mul_neg_of_pos_of_neg hk (sub_neg.2 (btP_gt_half P.beta a b hc h)),
    fun h => mul_pos hk (sub_pos.2 (btP_lt_half P.beta a b hc h))⟩

/-- **Draw of two teams, Thurstone–Mosteller.**  With `c = cmul·√(σ_a² + σ_b² + 2β²)`
(`cmul = 1` full pairing, `2` partial pairing) and draw margin `κ/c`: the favourite gains at most
`(σ_a²/c)·(κ/c)`, the underdog loses at most that much. -/
theorem C05_two_team_draw_TM (K : Kind) (cmul : ℝ) (hK : K = .TMF ∧ cmul = 1 ∨ K = .TMP ∧ cmul = 2)
    (L : Leaves ℝ) (hL : LeafFacts L) (P : Params ℝ) (a b : TeamAgg ℝ) (ha : 0 ≤ a.sig2)
    (hκ : 0 ≤ P.kappa) (r r' : Nat) (hd : r = r') :
    let c := cmul * Real.sqrt (a.sig2 + b.sig2 + 2 * (P.beta * P.beta))
    (b.mu ≤ a.mu → omegaTwo K L P a b r r' ≤ a.sig2 / c * (P.kappa / c)) ∧
    (a.mu ≤ b.mu → -(a.sig2 / c * (P.kappa / c)) ≤ omegaTwo K L P a b r r') := by
  obtain ⟨hK', rfl⟩ : (K = .TMF ∨ K = .TMP) ∧ cmul = fl3_cmul K := by
    rcases hK with ⟨rfl, rfl⟩ | ⟨rfl, rfl⟩
    · exact ⟨.inl rfl, sc_one.symm⟩
    · exact ⟨.inr rfl, Nat.cast_ofNat.symm⟩
  intro c
  have hc : 0 ≤ c := mul_nonneg (fl3_cmul_nonneg K) (Real.sqrt_nonneg _)
  have hk : 0 ≤ a.sig2 / c := div_nonneg ha hc
  have hm := hL.vt_mem ((a.mu - b.mu) / c) (P.kappa / c) (div_nonneg hκ hc)
  rw [omegaTwo_TM K hK', byOutcome_draw hd, ← mul_neg]
  refine ⟨fun h => mul_le_mul_of_nonneg_left ?_ hk, fun h => mul_le_mul_of_nonneg_left ?_ hk⟩
  · have hx : 0 ≤ (a.mu - b.mu) / c := div_nonneg (sub_nonneg.2 h) hc
    exact hm.2.trans (sub_le_self _ hx)
  · have hx : (a.mu - b.mu) / c ≤ 0 := div_nonpos_of_nonpos_of_nonneg (sub_nonpos.2 h) hc
    exact ((le_sub_self_iff _).2 hx).trans hm.1

/-! ## 3. identical teams (full pairing) -/

/-- **Identical teams, Bradley–Terry full pairing: the better-placed twin learns more.**  If the
teams at positions `i` and `k` have the same mu and the same variance and `i` placed strictly
better than `k`, then `Ω_k ≤ Ω_i`.  (Ties elsewhere in the game are allowed.) -/
theorem C05_identical_teams_BTF (L : Leaves ℝ) (P : Params ℝ) (ts : List (TeamAgg ℝ))
    (i k : Nat) (hi : i < ts.length) (hk : k < ts.length) (hs : 0 ≤ ts[i].sig2)
    (hmu : ts[i].mu = ts[k].mu) (hsig : ts[i].sig2 = ts[k].sig2) (hr : ts[i].rank < ts[k].rank) :
    ((omegaDelta .BTF L P ts)[k]'(omegaDelta_lt L P ts hk)).1 ≤
      ((omegaDelta .BTF L P ts)[i]'(omegaDelta_lt L P ts hi)).1 := by
  simp only [omegaDelta_fst_eq_omegaAt .BTF L P ts ts.length rfl i hi,
    omegaDelta_fst_eq_omegaAt .BTF L P ts ts.length rfl k hk, omegaAt]
  exact sum_ne_twin_le _ _ ⟨i, hi⟩ ⟨k, hk⟩
    (fun q => btPair_fst_twin_le P.beta P.gamma ts.length ts[i] ts[k] _ hs hmu hsig hr)
    ((btPair_fst_self _ _ _ _).trans (btPair_fst_self _ _ _ _).symm)

/-- **Identical teams, Thurstone–Mosteller full pairing: the better-placed twin learns more.**
Same statement for TMF; needs the draw margin `κ ≥ 0` and the `LeafFacts` chain
`−V(−x,t) ≤ Ṽ(x,t) ≤ V(x,t)`. -/
theorem C05_identical_teams_TMF (L : Leaves ℝ) (hL : LeafFacts L) (P : Params ℝ) (hκ : 0 ≤ P.kappa)
    (ts : List (TeamAgg ℝ))
    (i k : Nat) (hi : i < ts.length) (hk : k < ts.length) (hs : 0 ≤ ts[i].sig2)
    (hmu : ts[i].mu = ts[k].mu) (hsig : ts[i].sig2 = ts[k].sig2) (hr : ts[i].rank < ts[k].rank) :
    ((omegaDelta .TMF L P ts)[k]'(omegaDelta_lt L P ts hk)).1 ≤
      ((omegaDelta .TMF L P ts)[i]'(omegaDelta_lt L P ts hi)).1 := by
  simp only [omegaDelta_fst_eq_omegaAt .TMF L P ts ts.length rfl i hi,
    omegaDelta_fst_eq_omegaAt .TMF L P ts ts.length rfl k hk, omegaAt]
  exact sum_ne_twin_le _ _ ⟨i, hi⟩ ⟨k, hk⟩
    (fun q => tmPair_fst_twin_le hL 1 P.beta P.kappa P.gamma ts.length ts[i] ts[k] _ zero_le_one hκ hs
      hmu hsig hr)
    (tmPair_fst_self_twin L _ _ _ _ _ ts[i] ts[k] hsig)

/-! ## non-vacuity -/

/-- a three-team game: team 0 alone in first place, team 2 alone in last place, a tie-free middle -/
def exGame : List (TeamAgg ℝ) :=
  [⟨25, 64, 0, [⟨0, 25, 8⟩]⟩, ⟨55, 73, 1, [⟨1, 30, 8⟩, ⟨2, 25, 3⟩]⟩, ⟨20, 49, 2, [⟨3, 20, 7⟩]⟩]

theorem exGame_sig2 : ∀ t ∈ exGame, 0 ≤ t.sig2 := by
  simp [exGame]

theorem exGame_first : ∀ (q : Nat) (hq : q < exGame.length), q ≠ 0 → exGame[0].rank < exGame[q].rank := by
  decide

theorem exGame_last : ∀ (q : Nat) (hq : q < exGame.length), q ≠ 2 → exGame[q].rank < exGame[2].rank := by
  decide

/-- the hypotheses of `C05_sole_first(_members)` are satisfiable (with the code's leaves, any model,
any parameters) -/
example (K : Kind) (P : Params ℝ) :
    List.Forall₂ (fun p p' => p.mu ≤ p'.mu) exGame[0].players
      (applyTeam P.kappa exGame[0] ((omegaDelta K codeLeaves P exGame)[0]'(omegaDelta_lt _ P _ (by simp [exGame]))).1
        ((omegaDelta K codeLeaves P exGame)[0]'(omegaDelta_lt _ P _ (by simp [exGame]))).2) :=
  C05_sole_first_members K codeLeaves leafFacts_code P exGame exGame_sig2 0 (by decide) exGame_first

example (K : Kind) (P : Params ℝ) :
    List.Forall₂ (fun p p' => p'.mu ≤ p.mu) exGame[2].players
      (applyTeam P.kappa exGame[2] ((omegaDelta K codeLeaves P exGame)[2]'(omegaDelta_lt _ P _ (by simp [exGame]))).1
        ((omegaDelta K codeLeaves P exGame)[2]'(omegaDelta_lt _ P _ (by simp [exGame]))).2) :=
  C05_sole_last_members K codeLeaves leafFacts_code P exGame exGame_sig2 2 (by decide) exGame_last

/-- the hypotheses of the two-team theorems are satisfiable -/
example (K : Kind) (P : Params ℝ) (hκ : 0 ≤ P.kappa) (a b : TeamAgg ℝ) (ha : 0 ≤ a.sig2) :
    omegaTwo K codeLeaves P a b 1 0 ≤ omegaTwo K codeLeaves P a b 0 0 ∧
    omegaTwo K codeLeaves P a b 0 0 ≤ omegaTwo K codeLeaves P a b 0 1 ∧
    omegaTwo K codeLeaves P a b 1 0 ≤ 0 ∧ 0 ≤ omegaTwo K codeLeaves P a b 0 1 :=
  C05_two_team_chain K codeLeaves leafFacts_code P a b ha hκ 0 1 0 0 1 0 (by omega) rfl (by omega)

/-- twins: positions 0 and 2 carry the same mu and variance, 0 placed better -/
def exTwins : List (TeamAgg ℝ) := [⟨25, 64, 0, []⟩, ⟨30, 70, 1, []⟩, ⟨25, 64, 2, []⟩]

example (P : Params ℝ) (hκ : 0 ≤ P.kappa) :
    ((omegaDelta .TMF codeLeaves P exTwins)[2]'(omegaDelta_lt _ P _ (by simp [exTwins]))).1 ≤
      ((omegaDelta .TMF codeLeaves P exTwins)[0]'(omegaDelta_lt _ P _ (by simp [exTwins]))).1 :=
  C05_identical_teams_TMF codeLeaves leafFacts_code P hκ exTwins 0 2 (by decide) (by decide)
    (show (0 : ℝ) ≤ 64 by norm_num) rfl rfl (by decide)

end OS
end
