import OSProofs.Loops
import OSProofs.CodeShaped
import OSProofs.Props.C02

/-!
# The closed forms of `Compute.lean` are justified by proof: loop-shaped `_compute` = `compute`

`OSModel/Loops.lean` transliterates the five `_compute` bodies statement by statement (nested `for`
loops with the accumulators `omega`, `delta`, `continue`, the `if / elif / else` on the ranks, the
final `*=` scalings, the player loop with its list reads).  This file proves each of them equal to the
closed form `compute` that every other theorem of the project is about.

* `computeLoopBTF_eq`, `computeLoopBTP_eq`, `computeLoopTMP_eq` hold for EVERY scalar type with no
  hypothesis: both sides perform the same operations in the same order, hence the equality holds for
  the `Float` instantiation bit for bit.
* `computeLoopPL_eq` needs `hsub : a - b = a + -b`: the code says `omega -= p / a[q]`, the closed form
  adds `-(p / a)`.  (True in ℝ and in IEEE-754 arithmetic.)
* `computeLoopTMF_eq` needs `hone : 1 * a = a`: the code says `c_iq = math.sqrt(…)`, the closed form
  `tmPair` is shared with partial pairing (`c_iq = 2 * math.sqrt(…)`) and multiplies by `ofNat 1`.
  (True in ℝ and in IEEE-754 arithmetic.)

This file does not import the reals; the statements over ℝ are in `OSProofs/Props/LoopsReal.lean`.
-/

namespace OS
open Scalar

section
variable {α : Type} [Scalar α]

/-- **Bradley–Terry full pairing: the nested loops of `_compute` equal the closed form**, for every
scalar type, no arithmetic law used (same operations, same order — bit for bit at `Float`). -/
theorem computeLoopBTF_eq (L : Leaves α) (P : Params α) (teams : List (List (Rating α)))
    (dense : List Nat) : computeLoopBTF L P teams dense = compute .BTF L P teams dense :=
  lp_full_eq .BTF L P teams dense _ _ fun x => (lp_loopBTFInner_eq P _ x.2 x.1).symm

/-- **Thurstone–Mosteller full pairing: the nested loops of `_compute` equal the closed form**, for
every scalar type in which `1 * a = a` (the closed form multiplies the square root by `ofNat 1`, the
code does not multiply). -/
theorem computeLoopTMF_eq (hone : ∀ a : α, ofNat 1 * a = a) (L : Leaves α) (P : Params α)
    (teams : List (List (Rating α))) (dense : List Nat) :
    computeLoopTMF L P teams dense = compute .TMF L P teams dense :=
  lp_full_eq .TMF L P teams dense _ _ fun x => (lp_loopTMFInner_eq hone L P _ x.2 x.1).symm

/-- **Plackett–Luce: the nested loops of `_compute` equal the closed form**, for every scalar type in
which `a - b = a + -b` (the code subtracts, the closed form adds the negation). -/
theorem computeLoopPL_eq (hsub : ∀ a b : α, a - b = a + -b) (L : Leaves α) (P : Params α)
    (teams : List (List (Rating α))) (dense : List Nat) :
    computeLoopPL L P teams dense = compute .PL L P teams dense :=
  lp_full_eq .PL L P teams dense _ _ fun x => by
    -- what the body does after the inner loop (`omega *= …`, `delta *= …`, `delta *= gamma_value`)
    -- is the rest of `plOmegaDelta`
    rw [lp_loopPLInner_eq hsub _ _ (plSumQ _ _) (plA _) (List.length_map ..) (List.length_map ..)]
    rfl

/-- **Bradley–Terry partial pairing: `zip(team_ratings, _ladder_pairs(team_ratings))`, `i_map`,
`od_reduce` equal the closed form**, for every scalar type, no arithmetic law used. -/
theorem computeLoopBTP_eq (L : Leaves α) (P : Params α) (teams : List (List (Rating α)))
    (dense : List Nat) : computeLoopBTP L P teams dense = compute .BTP L P teams dense :=
  lp_part_eq .BTP L P teams dense
    (fun ti adj => loopBTPReduce P (teamAggs teams dense).length ti (ofNat 0, ofNat 0) adj)
    fun _ => (lp_loopBTPReduce_eq ..).symm

/-- **Thurstone–Mosteller partial pairing: `zip(team_ratings, _ladder_pairs(team_ratings))`, `i_map`,
`od_reduce` equal the closed form**, for every scalar type, no arithmetic law used. -/
theorem computeLoopTMP_eq (L : Leaves α) (P : Params α) (teams : List (List (Rating α)))
    (dense : List Nat) : computeLoopTMP L P teams dense = compute .TMP L P teams dense :=
  lp_part_eq .TMP L P teams dense
    (fun ti adj => loopTMPReduce L P (teamAggs teams dense).length ti (ofNat 0, ofNat 0) adj)
    fun _ => (lp_loopTMPReduce_eq ..).symm

/-- **All five models: the loop-shaped `_compute` equals the closed form `compute`.**  The two
hypotheses are laws of IEEE-754 arithmetic as well as of ℝ; each is needed by one model only
(`hsub` by Plackett–Luce, `hone` by Thurstone–Mosteller full pairing — see the per-kind theorems,
which state exactly what each model needs). -/
theorem computeLoop_eq (K : Kind) (hsub : ∀ a b : α, a - b = a + -b) (hone : ∀ a : α, ofNat 1 * a = a)
    (L : Leaves α) (P : Params α) (teams : List (List (Rating α))) (dense : List Nat) :
    computeLoop K L P teams dense = compute K L P teams dense := by
  cases K with
  | PL => exact computeLoopPL_eq hsub L P teams dense
  | BTF => exact computeLoopBTF_eq L P teams dense
  | BTP => exact computeLoopBTP_eq L P teams dense
  | TMF => exact computeLoopTMF_eq hone L P teams dense
  | TMP => exact computeLoopTMP_eq L P teams dense

/-- the three kinds whose loop and closed form are operation-for-operation identical -/
theorem computeLoop_eq_exact (K : Kind) (hK : K = .BTF ∨ K = .BTP ∨ K = .TMP)
    (L : Leaves α) (P : Params α) (teams : List (List (Rating α))) (dense : List Nat) :
    computeLoop K L P teams dense = compute K L P teams dense := by
  rcases hK with h | h | h <;> subst h
  · exact computeLoopBTF_eq L P teams dense
  · exact computeLoopBTP_eq L P teams dense
  · exact computeLoopTMP_eq L P teams dense

/-- **`rateCore` computed through the loops is `rateCore`** (any scalar type with the two laws). -/
theorem rateCore_via_loops {ρ : Type} (K : Kind) (hsub : ∀ a b : α, a - b = a + -b)
    (hone : ∀ a : α, ofNat 1 * a = a) (L : Leaves α) (P : Params α) (le : ρ → ρ → Bool)
    (teams : List (List (Rating α))) (ranks : Option (List ρ)) (o : CallOpts α) :
    rateCoreLoop K L P le teams ranks o = rateCore K L P le teams ranks o := by
  unfold rateCoreLoop rateCore
  simp only [computeLoop_eq K hsub hone]
  cases ranks <;> rfl

end

/-! # `rate` itself: every loop literal (`rateLoop`) = the model (`rate`)

Besides `hsub` and `hone`, one more law is needed: `hzero : 0 + a = a`.  The code sums a team's `mu`s and
`sigma²`s with `functools.reduce` WITHOUT an initial value (the fold starts from the first player), and
`_sum_q` starts each dict entry from its first term, whereas `teamAgg` / `plSumQ` use `sumL`, which
starts from `0.0`.  In IEEE-754 arithmetic `0.0 + a = a` for every `a` except `a = -0.0`
(`0.0 + -0.0 = +0.0`); the component lemmas (`lp_teamRatingsLoop_eq`, `plSumQCode_eq_of_zero`) state the
exact condition: it is only the FIRST player's `mu` (resp. `sigma²`, `exp(…)`) that is added to zero.
The laws are always taken in the order `hsub`, `hone`, `hzero`; the hypothesis `hlen` of `rateLoop_eq`
is `oc.fits teams.length` (`Props/C02.lean`) written out. -/

section
variable {α : Type} [Scalar α]

/-- Plackett–Luce with the literal `_c` and `_sum_q` = with their closed forms -/
theorem computeLoopPLCodeOn_eq (L : Leaves α) (P : Params α) (teams : List (List (Rating α)))
    (ts : List (TeamAgg α)) (hs : ts.Pairwise (fun a b => a.rank ≤ b.rank))
    (hz : ∀ a : α, ofNat 0 + a = a) :
    computeLoopPLCodeOn L P teams ts = computeLoopPLOn L P teams ts := by
  unfold computeLoopPLCodeOn computeLoopPLOn computeLoopPLWith
  simp only [lp_plCLoop_eq]
  rw [plSumQCode_eq_of_zero ts _ hs (fun ti _ => hz _)]

/-- the fully literal `_compute` is `compute` on the ranks `D` that the literal `_calculate_rankings`
    yields, given one rank per team and `D` non-decreasing (which the literal `_sum_q` of
    Plackett–Luce needs) -/
theorem computeCode_eq_of {ρ : Type} (K : Kind) (hsub : ∀ a b : α, a - b = a + -b)
    (hone : ∀ a : α, ofNat 1 * a = a) (hzero : ∀ a : α, ofNat 0 + a = a)
    (L : Leaves α) (P : Params α) (lt : ρ → ρ → Bool) (teams : List (List (Rating α)))
    (ranks : Option (List ρ)) (D : List Nat)
    (hR : teamRatingsCode lt teams ranks = teamRatingsLoop teams D)
    (hlen : teams.length ≤ D.length) (hD : D.Pairwise (· ≤ ·)) :
    computeCode K L P lt teams ranks = compute K L P teams D := by
  unfold computeCode
  simp only [hR, lp_teamRatingsLoop_eq teams D hlen fun _ _ _ _ => ⟨hzero _, hzero _⟩]
  rw [← computeLoop_eq K hsub hone]
  cases K
  case PL => exact computeLoopPLCodeOn_eq L P teams _ (teamAggs_rank_nondecreasing teams _ hD) hzero
  all_goals rfl

/-- `_compute(teams, ranks)` with EVERYTHING literal (`_calculate_team_ratings`, `_calculate_rankings`,
    for Plackett–Luce `_c` and `_sum_q`, the body) = `compute` on the dense ranks -/
theorem computeCode_some_eq {ρ : Type} (K : Kind) (hsub : ∀ a b : α, a - b = a + -b)
    (hone : ∀ a : α, ofNat 1 * a = a) (hzero : ∀ a : α, ofNat 0 + a = a)
    (L : Leaves α) (P : Params α) (lt : ρ → ρ → Bool) (teams : List (List (Rating α))) (r : List ρ)
    (hr : r.length = teams.length) :
    computeCode K L P lt teams (some r) = compute K L P teams (denseRanks lt r) :=
  computeCode_eq_of K hsub hone hzero L P lt teams (some r) (denseRanks lt r)
    (congrArg (teamRatingsLoop teams) (lp_rankingsLoopRanks_eq lt teams r hr))
    (by rw [length_denseRanks, hr])
    (denseRanks_nondecreasing lt r)

/-- the same without ranks: `_calculate_rankings(game)` yields `range(len(game))` -/
theorem computeCode_none_eq {ρ : Type} (K : Kind) (hsub : ∀ a b : α, a - b = a + -b)
    (hone : ∀ a : α, ofNat 1 * a = a) (hzero : ∀ a : α, ofNat 0 + a = a)
    (L : Leaves α) (P : Params α) (lt : ρ → ρ → Bool) (teams : List (List (Rating α))) :
    computeCode K L P lt teams none = compute K L P teams (List.range teams.length) :=
  computeCode_eq_of K hsub hone hzero L P lt teams none (List.range teams.length)
    (congrArg (teamRatingsLoop teams) (lp_rankingsLoopNone_eq teams)) (by rw [List.length_range])
    (List.pairwise_lt_range.imp Nat.le_of_lt)

/-! ## `rate` -/

/-- **`rate` with every loop literal is `rate`** — `_calculate_team_ratings`, `_calculate_rankings`, `_c`,
`_sum_q`, the `_compute` body, the tau loop, the score negation, the copy into `processed_result`,
the `limit_sigma` loop — for every scalar type with the three laws, when there is one rank (score) per
team, which validation guarantees. -/
theorem rateLoop_eq {ρ : Type} (K : Kind) (hsub : ∀ a b : α, a - b = a + -b)
    (hone : ∀ a : α, ofNat 1 * a = a) (hzero : ∀ a : α, ofNat 0 + a = a)
    (L : Leaves α) (P : Params α) (le : ρ → ρ → Bool) (neg : ρ → ρ)
    (teams : List (List (Rating α))) (oc : Outcome ρ) (o : CallOpts α)
    (hlen : match oc with
      | .omitted => True
      | .ranks r => r.length = teams.length
      | .scores s => s.length = teams.length) :
    rateLoop K L P le neg teams oc o = rate K L P le neg teams oc o := by
  -- the clamp loop reads `original_teams` inside its bounds: `rate` keeps the nesting of `teams`
  have hsh := length_le_of_map_map_eq Rating.id _ teams
    (rateRaw_ids K L P le (resolveTau P o) teams _ (lft_fits neg oc teams.length hlen))
  rw [rate_eq_rateCore, rateCore_eq_clamp_rateRaw, ← lp_clampLoop_eq teams _ hsh.1 hsh.2]
  -- what is left: before the clamp the literal loops compute `rateRaw`
  have hsome : ∀ r : List ρ, r.length = teams.length →
      copyLoop (unwind leNat (unwind le r (inflateLoop (resolveTau P o) teams)).2
        (computeCode K L P (fun a b => !le b a) (unwind le r (inflateLoop (resolveTau P o) teams)).1
          (some (sortedKeys le r)))).1 = rateRaw K L P le (resolveTau P o) teams (some r) := by
    intro r hr
    rw [lp_copyLoop_eq, lp_inflateLoop_eq,
      computeCode_some_eq K hsub hone hzero L P _ _ _ (by simp [hr])]
    rfl
  cases oc with
  | omitted =>
    unfold rateLoop
    simp only [lp_copyLoop_eq, lp_inflateLoop_eq, computeCode_none_eq K hsub hone hzero]
    rfl
  | ranks r =>
    unfold rateLoop
    simp only [hsome r hlen]
    rfl
  | scores s =>
    unfold rateLoop
    simp only [lp_negateLoop_eq, hsome (s.map neg) ((List.length_map neg).trans hlen)]
    rfl

end

end OS

/-! ## The literal definitions compute what Python computes

`#guard` evaluates the definitions at `Float` (compile-time check, no axiom).  The expected values are
the outputs of the pinned Python library:
```
m = Model(); mk = lambda mu, s: m.rating(mu=mu, sigma=s)
teams = [[mk(25.0, 8.0), mk(30.0, 4.0)], [mk(27.0, 6.0)], [mk(20.0, 7.5), mk(22.0, 3.0), mk(31.0, 9.0)], [mk(24.0, 5.0)]]
m._compute(teams, ranks=[1, 1, 2, 5])
```
(`Float`'s Φ is not CPython's, so the Thurstone–Mosteller values agree to rounding only.) -/

namespace OS

private def lp_P : Params Float :=
  { beta := 25.0 / 6.0, kappa := 0.0001, tau := 25.0 / 300.0, limitSigma := false, gamma := .dflt }

private def lp_teams : List (List (Rating Float)) :=
  [[⟨0, 25.0, 8.0⟩, ⟨1, 30.0, 4.0⟩], [⟨2, 27.0, 6.0⟩], [⟨3, 20.0, 7.5⟩, ⟨4, 22.0, 3.0⟩, ⟨5, 31.0, 9.0⟩],
   [⟨6, 24.0, 5.0⟩]]

/-- bit patterns: equality of these is bit-for-bit equality of the floats -/
private def lp_bits (r : List (List (Rating Float))) : List (List (Nat × UInt64 × UInt64)) :=
  r.map (·.map (fun p => (p.id, p.mu.toBits, p.sigma.toBits)))

private def lp_close (r : List (List (Rating Float))) (e : List (List (Float × Float))) : Bool :=
  r.length == e.length && (r.zip e).all (fun te =>
    te.1.length == te.2.length && (te.1.zip te.2).all (fun pq =>
      (pq.1.mu - pq.2.1).abs < 1e-9 && (pq.1.sigma - pq.2.2).abs < 1e-9))

private def lp_lt : Nat → Nat → Bool := fun a b => decide (a < b)

-- the loop-shaped `_compute` and the closed form agree bit for bit, for all five kinds
#guard [Kind.PL, .BTF, .BTP, .TMF, .TMP].all (fun K =>
  lp_bits (computeLoop K codeLeaves lp_P lp_teams [0, 0, 2, 3]) ==
    lp_bits (compute K codeLeaves lp_P lp_teams [0, 0, 2, 3]))
-- … and so does the fully literal `_compute` (`_calculate_rankings`, `reduce`, `_c`, `_sum_q` literal)
#guard [Kind.PL, .BTF, .BTP, .TMF, .TMP].all (fun K =>
  lp_bits (computeCode K codeLeaves lp_P lp_lt lp_teams (some [1, 1, 2, 5])) ==
    lp_bits (compute K codeLeaves lp_P lp_teams [0, 0, 2, 3]))
-- … and `rate` with every loop literal, with ranks, with scores, without either, with the clamp
#guard [Kind.PL, .BTF, .BTP, .TMF, .TMP].all (fun K =>
  [Outcome.omitted, .ranks [2, 1, 2, 0], .scores [2, 1, 2, 0]].all (fun oc =>
    [some true, none].all (fun ls =>
      lp_bits (rateLoop K codeLeaves lp_P (fun a b => decide (a ≤ b)) (fun (a : Int) => -a) lp_teams oc
          ⟨none, ls⟩) ==
        lp_bits (rate K codeLeaves lp_P (fun a b => decide (a ≤ b)) (fun (a : Int) => -a) lp_teams oc
          ⟨none, ls⟩))))
-- the values are Python's
#guard lp_close (computeLoop .PL codeLeaves lp_P lp_teams [0, 0, 2, 3])
  [[(25.85021639406587, 7.936168602811145), (30.212554098516467, 3.992044996711001)],
   [(27.84525699458559, 5.994864967979828)],
   [(18.282721427739347, 7.388092622482741), (21.725235428438296, 2.992882918277731),
    (28.527118855944657, 8.805975310208908)], [(23.844135118054982, 4.994867281951186)]]
#guard lp_close (computeLoop .BTF codeLeaves lp_P lp_teams [0, 0, 2, 3])
  [[(26.226290325680388, 7.701791064225682), (30.3065725814201, 3.9632498154685707)],
   [(32.09507148708129, 5.789683644320047)],
   [(13.84551610949909, 7.326576104966513), (21.015282577519855, 2.9890090608761586),
    (22.137543197678692, 8.698746372091895)], [(22.718062426836163, 4.90235434240659)]]
#guard lp_close (computeLoop .BTP codeLeaves lp_P lp_teams [0, 0, 2, 3])
  [[(22.87690211978782, 7.895204066057156), (29.469225529946957, 3.986965067917305)],
   [(30.535167242007052, 5.962227708518039)],
   [(16.46715310348267, 7.440912566426588), (21.434744496557226, 2.9962309329260406),
    (25.912700469015043, 8.897717914007554)], [(23.94451203429402, 4.996738760439069)]]
#guard lp_close (computeLoop .TMF codeLeaves lp_P lp_teams [0, 0, 2, 3])
  [[(19.587819633217666, 6.031406934211739), (28.646954908304416, 3.778044050878522)],
   [(44.2487049303442, 4.98402301027683)],
   [(1.3985872890957332, 6.135136098046155), (19.023773966255316, 2.9195173077931313),
    (4.213965696297858, 6.512302676534314)], [(22.403160181214993, 4.800846650708588)]]
#guard lp_close (computeLoop .TMP codeLeaves lp_P lp_teams [0, 0, 2, 3])
  [[(22.027655289347585, 7.843796861388969), (29.256913822336898, 3.9806182717224927)],
   [(31.10504929689745, 5.934183841888958)],
   [(16.38872302597406, 7.395000279272467), (21.42219568415585, 2.9933196197097396),
    (25.799761157402646, 8.817990134088385)], [(23.915355462653565, 4.99768235139527)]]
-- `_calculate_rankings`: Python `[0, 0, 2, 3]` and `[0, 1, 2]`
#guard rankingsLoopRanks lp_lt lp_teams [1, 1, 2, 5] == [0, 0, 2, 3]
#guard rankingsLoopNone [(), (), ()] == [0, 1, 2]
-- the one place where the model and the code differ at `Float`: a team whose first player has
-- `mu = -0.0`.  `reduce` (no initial value) keeps `-0.0`; `sumL` computes `0.0 + -0.0 = +0.0`.
-- Python: `m._calculate_team_ratings([[m.rating(mu=-0.0, sigma=1.0)]])[0].mu` is `-0.0`.
#guard ((teamRatingsLoop [[(⟨0, -0.0, 1.0⟩ : Rating Float)]] [0]).map (·.mu.toBits)) == [(-0.0 : Float).toBits]
#guard ((teamAggs [[(⟨0, -0.0, 1.0⟩ : Rating Float)]] [0]).map (·.mu.toBits)) == [(0.0 : Float).toBits]

end OS
