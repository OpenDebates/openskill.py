import OSModel
import OSProofs.ValidateLemmas
/-!
# C19 — the five models accept and reject exactly the same arguments with the same class

`validateRate` / `validatePredict` use the model kind only for "a rating of this model's own class".
Re-tagging every rating of kind `k` as kind `k'` (and vice versa — the same call made against another
of the five classes with *its* own ratings in place of this one's) gives the same verdict.
-/
namespace OS

def swapK (k k' j : Kind) : Kind := if j = k then k' else if j = k' then k else j

theorem swapK_eq_iff (k k' j : Kind) : swapK k k' j = k' ↔ j = k := by
  unfold swapK
  split
  · next h => exact ⟨fun _ => h, fun _ => rfl⟩
  · next h1 =>
    split
    · next h2 => exact ⟨fun h => h2.trans h.symm, fun h => absurd h h1⟩
    · next h2 => exact ⟨fun h => absurd h h2, fun h => absurd h h1⟩

/-- the same argument value as seen by model `k'` instead of `k`: own ratings become own ratings,
the other model's ratings become the other model's -/
def swapKind (k k' : Kind) : PyVal → PyVal
  | .rating j => .rating (swapK k k' j)
  | .list xs => .list (xs.map (swapKind k k'))
  | .tuple xs => .tuple (xs.map (swapKind k k'))
  | v => v

theorem swapKind_truthy (k k' : Kind) (v : PyVal) : (swapKind k k' v).truthy = v.truthy := by
  cases v <;> simp [swapKind, PyVal.truthy]

theorem swapKind_isNumber (k k' : Kind) (v : PyVal) : (swapKind k k' v).isNumber = v.isNumber := by
  cases v <;> simp [swapKind, PyVal.isNumber]

theorem swapKind_isRatingOf (k k' : Kind) (v : PyVal) :
    (swapKind k k' v).isRatingOf k' = v.isRatingOf k := by
  cases v with
  | rating j =>
    simp only [swapKind, PyVal.isRatingOf]
    rw [Bool.eq_iff_iff, beq_iff_eq, beq_iff_eq, eq_comm, swapK_eq_iff, eq_comm]
  | _ => simp [swapKind, PyVal.isRatingOf]

theorem checkList_swap (k k' : Kind) {bad : Nat → Prop} [DecidablePred bad] {g g' : List PyVal → Except PyExc Unit}
    (h : ∀ xs, g' (xs.map (swapKind k k')) = g xs) (v : PyVal) :
    checkList bad g' (swapKind k k' v) = checkList bad g v := by
  cases v <;> simp only [swapKind, checkList, List.length_map, h]

/-- `checkTeams` is a `checkList` of a loop of `checkList`s of a loop of `isRatingOf` tests: each layer commutes with the swap -/
theorem checkTeams_swap (k k' : Kind) (v : PyVal) :
    checkTeams k' (swapKind k k' v) = checkTeams k v := by
  simp only [checkTeams_eq, checkTeamList_eq, checkTeam, checkPlayers_eq]
  exact checkList_swap k k' (execFor_map (checkList_swap k k' (execFor_map fun p => by rw [swapKind_isRatingOf]))) v

theorem checkSelector_swap (k k' : Kind) (n : Nat) (v : PyVal) :
    checkSelector n (swapKind k k' v) = checkSelector n v := by
  rw [checkSelector_eq, checkSelector_eq, swapKind_truthy, checkNumbers_eq,
    checkList_swap k k' (execFor_map fun x => by rw [swapKind_isNumber])]

theorem teamCount_swap (k k' : Kind) (v : PyVal) : teamCount (swapKind k k' v) = teamCount v := by
  cases v <;> simp [swapKind, teamCount]

/-- all five models accept and reject exactly the same `rate` arguments, with the same exception class -/
theorem C19_validateRate_kind_free (k k' : Kind) (teams ranks scores : PyVal) :
    validateRate k' (swapKind k k' teams) (swapKind k k' ranks) (swapKind k k' scores)
      = validateRate k teams ranks scores := by
  unfold validateRate
  simp only [checkTeams_swap, checkSelector_swap, teamCount_swap, swapKind_truthy]

/-- … and the same `predict_*` arguments -/
theorem C19_validatePredict_kind_free (k k' : Kind) (teams : PyVal) :
    validatePredict k' (swapKind k k' teams) = validatePredict k teams := by
  unfold validatePredict; exact checkTeams_swap k k' teams

end OS
