import OSProofs.LeagueLemmas
import OSProofs.LeagueRealLemmas
import OSProofs.Props.C06

/-!
# C06 for a concrete league

`OSModel/League.lean` models a league: a store `player ↦ (mu, sigma)`, games given by player
numbers, `playGame` = load the participants' ratings from the store, `rate`, write every returned
rating back under its id; `playLeague` folds `playGame` over a history.  Here the abstract
league statements of C06 (`C06_history`, `C06_history_limit`, stated over an arbitrary
`GameStep`) are proved for that state machine, at `α := ℝ`.

Standing hypotheses (those of `C06_rate`, for every game of the history): `0 < κ ≤ 1`,
`GammaOK P.gamma`, `LeafFacts L` (asked only if some game of the history uses a Thurstone–Mosteller
model), and every game well-formed (`LeagueGame.WF`: pairwise distinct players, one outcome entry per
team).  Every game may have its own model kind, outcome form, per-call `tau` and `limit_sigma`;
nothing is assumed about the comparator `le`, about `neg`, `β`, or the sign of the sigmas unless
stated.
-/

noncomputable section
namespace OS
open Scalar
variable {ρ : Type}

/-! ### one game -/

/-- **C06 for one game of the league.**  Let `s' = playGame … s g` for a well-formed game `g`,
`τ_g` and `limit_sigma` as resolved for that call.  For every player `p`:

* if `p` takes part in `g`: `σ'(p) ≤ √(σ(p)² + τ_g²)`; `0 < σ(p) → 0 < σ'(p)`;
  `0 ≤ σ(p) → 0 ≤ σ'(p)`; with limit_sigma on, `σ'(p) ≤ σ(p)`; with limit_sigma off,
  `σ(p) ≠ 0 ∨ τ_g ≠ 0 → 0 < σ'(p)`;
* if `p` does not take part: `μ'(p) = μ(p)` and `σ'(p) = σ(p)`. -/
theorem C06_playGame_slot (L : Leaves ℝ) (P : Params ℝ) (le : ρ → ρ → Bool) (neg : ρ → ρ)
    (s : Store ℝ) (g : LeagueGame ℝ ρ)
    (hL : g.kind = .TMF ∨ g.kind = .TMP → LeafFacts L) (hk0 : 0 < P.kappa) (hk1 : P.kappa ≤ 1)
    (hg : GammaOK P.gamma) (hwf : g.WF) (p : Nat) :
    (g.plays p →
      (playGame L P le neg s g).sigma p ≤ √(s.sigma p ^ 2 + resolveTau P g.opts ^ 2)
      ∧ (0 < s.sigma p → 0 < (playGame L P le neg s g).sigma p)
      ∧ (0 ≤ s.sigma p → 0 ≤ (playGame L P le neg s g).sigma p)
      ∧ (resolveLimit P g.opts = true → (playGame L P le neg s g).sigma p ≤ s.sigma p)
      ∧ (resolveLimit P g.opts = false → (s.sigma p ≠ 0 ∨ resolveTau P g.opts ≠ 0) →
          0 < (playGame L P le neg s g).sigma p))
    ∧ (¬ g.plays p →
      (playGame L P le neg s g).mu p = s.mu p ∧ (playGame L P le neg s g).sigma p = s.sigma p) := by
  refine ⟨fun hp => ?_, fun hp => playGame_untouched L P le neg s g hwf.2 p hp⟩
  obtain ⟨r', ⟨-, h2, h3, h4, h5, h6⟩, -, hsig⟩ :=
    lg_playGame_slotC06 L P le neg s g hL hk0 hk1 hg hwf p hp
  rw [hsig]
  exact ⟨h2, h3, h5, h6, h4⟩

theorem C06_playGame_sq (L : Leaves ℝ) (P : Params ℝ) (le : ρ → ρ → Bool) (neg : ρ → ρ)
    (s : Store ℝ) (g : LeagueGame ℝ ρ)
    (hL : g.kind = .TMF ∨ g.kind = .TMP → LeafFacts L) (hk0 : 0 < P.kappa) (hk1 : P.kappa ≤ 1)
    (hg : GammaOK P.gamma) (hwf : g.WF) (p : Nat) (hp : 0 ≤ s.sigma p) :
    0 ≤ (playGame L P le neg s g).sigma p ∧
    (playGame L P le neg s g).sigma p ^ 2 ≤ s.sigma p ^ 2 + gameBudget P g p := by
  obtain ⟨hin, hout⟩ := C06_playGame_slot L P le neg s g hL hk0 hk1 hg hwf p
  by_cases hpl : g.plays p
  · obtain ⟨h1, _, h3, _, _⟩ := hin hpl
    rw [gameBudget_pos hpl]
    exact ⟨h3 hp, (Real.le_sqrt (h3 hp) (add_nonneg (sq_nonneg _) (sq_nonneg _))).1 h1⟩
  · rw [(hout hpl).2, gameBudget_neg hpl, add_zero]
    exact ⟨hp, le_rfl⟩

/-! ### a history -/

/-- **Variance budget, whole history.**  For a player who starts with `0 ≤ σ_0`:
`0 ≤ σ_end` and `σ_end² ≤ σ_0² + Σ_{g in the history, p takes part in g} τ_g²`. -/
theorem C06_league_total (L : Leaves ℝ) (P : Params ℝ) (le : ρ → ρ → Bool) (neg : ρ → ρ)
    (s : Store ℝ) (gs : List (LeagueGame ℝ ρ))
    (hL : ∀ g ∈ gs, g.kind = .TMF ∨ g.kind = .TMP → LeafFacts L)
    (hk0 : 0 < P.kappa) (hk1 : P.kappa ≤ 1) (hg : GammaOK P.gamma) (hwf : ∀ g ∈ gs, g.WF)
    (p : Nat) (hp : 0 ≤ s.sigma p) :
    0 ≤ (playLeague L P le neg s gs).sigma p ∧
    (playLeague L P le neg s gs).sigma p ^ 2 ≤ s.sigma p ^ 2 + leagueBudget P gs p := by
  induction gs generalizing s with
  | nil => exact ⟨hp, (add_zero _).ge⟩
  | cons g gs ih =>
    obtain ⟨h0, h1⟩ := C06_playGame_sq L P le neg s g (hL g List.mem_cons_self) hk0 hk1 hg
      (hwf g List.mem_cons_self) p hp
    obtain ⟨h2, h3⟩ := ih (playGame L P le neg s g) (fun g' h => hL g' (List.mem_cons_of_mem _ h))
      (fun g' h => hwf g' (List.mem_cons_of_mem _ h)) h0
    have hb : leagueBudget P (g :: gs) p = gameBudget P g p + leagueBudget P gs p := rfl
    rw [lg_playLeague_cons, hb, ← add_assoc]
    exact ⟨h2, h3.trans (add_le_add h1 le_rfl)⟩

/-- **Variance budget of the league (C06, history clause without limit_sigma).**  Write `σ_k(p)`
for the sigma of player `p` in the store after the first `k` games of the history `gs`
(`playLeague … s (gs.take k)`; `k` beyond the end means the whole history).  If every game is
well-formed then for every player with `0 ≤ σ_0(p)` and every `k`:

`σ_k(p)² ≤ σ_0(p)² + Σ_{g among the first k games, p takes part in g} τ_g²`,

`τ_g = resolveTau P g.opts` being the tau in force in game `g` (per-call value, else the
model's).  So sigma grows by at most tau, in quadrature, per game played. -/
theorem C06_league (L : Leaves ℝ) (P : Params ℝ) (le : ρ → ρ → Bool) (neg : ρ → ρ)
    (s : Store ℝ) (gs : List (LeagueGame ℝ ρ))
    (hL : ∀ g ∈ gs, g.kind = .TMF ∨ g.kind = .TMP → LeafFacts L)
    (hk0 : 0 < P.kappa) (hk1 : P.kappa ≤ 1) (hg : GammaOK P.gamma) (hwf : ∀ g ∈ gs, g.WF)
    (p : Nat) (hp : 0 ≤ s.sigma p) (k : Nat) :
    (playLeague L P le neg s (gs.take k)).sigma p ^ 2
      ≤ s.sigma p ^ 2 + leagueBudget P (gs.take k) p :=
  (C06_league_total L P le neg s (gs.take k) (fun g h => hL g (List.mem_of_mem_take h)) hk0 hk1 hg
    (fun g h => hwf g (List.mem_of_mem_take h)) p hp).2

/-- **A non-negative sigma stays non-negative** after every prefix of the history. -/
theorem C06_league_nonneg (L : Leaves ℝ) (P : Params ℝ) (le : ρ → ρ → Bool) (neg : ρ → ρ)
    (s : Store ℝ) (gs : List (LeagueGame ℝ ρ))
    (hL : ∀ g ∈ gs, g.kind = .TMF ∨ g.kind = .TMP → LeafFacts L)
    (hk0 : 0 < P.kappa) (hk1 : P.kappa ≤ 1) (hg : GammaOK P.gamma) (hwf : ∀ g ∈ gs, g.WF)
    (p : Nat) (hp : 0 ≤ s.sigma p) (k : Nat) :
    0 ≤ (playLeague L P le neg s (gs.take k)).sigma p :=
  (C06_league_total L P le neg s (gs.take k) (fun g h => hL g (List.mem_of_mem_take h)) hk0 hk1 hg
    (fun g h => hwf g (List.mem_of_mem_take h)) p hp).1

/-- **A positive sigma stays positive for ever**: `0 < σ_0(p) → 0 < σ_k(p)` for all `k`, with or
without limit_sigma, whatever the taus (zero and negative ones included). -/
theorem C06_league_pos (L : Leaves ℝ) (P : Params ℝ) (le : ρ → ρ → Bool) (neg : ρ → ρ)
    (s : Store ℝ) (gs : List (LeagueGame ℝ ρ))
    (hL : ∀ g ∈ gs, g.kind = .TMF ∨ g.kind = .TMP → LeafFacts L)
    (hk0 : 0 < P.kappa) (hk1 : P.kappa ≤ 1) (hg : GammaOK P.gamma) (hwf : ∀ g ∈ gs, g.WF)
    (p : Nat) (hp : 0 < s.sigma p) (k : Nat) :
    0 < (playLeague L P le neg s (gs.take k)).sigma p :=
  playLeague_sigma_rel L P le neg p (fun a b => 0 < a → 0 < b) (fun _ h => h)
    (fun h1 h2 h => h2 (h1 h)) s gs (fun j hj => (hwf _ (List.getElem_mem hj)).2)
    (fun j hj hpl => ((C06_playGame_slot L P le neg _ gs[j] (hL _ (List.getElem_mem hj)) hk0 hk1 hg
      (hwf _ (List.getElem_mem hj)) p).1 hpl).2.1) (Nat.zero_le k) hp

theorem C06_league_pos_total (L : Leaves ℝ) (P : Params ℝ) (le : ρ → ρ → Bool) (neg : ρ → ρ)
    (s : Store ℝ) (gs : List (LeagueGame ℝ ρ))
    (hL : ∀ g ∈ gs, g.kind = .TMF ∨ g.kind = .TMP → LeafFacts L)
    (hk0 : 0 < P.kappa) (hk1 : P.kappa ≤ 1) (hg : GammaOK P.gamma) (hwf : ∀ g ∈ gs, g.WF)
    (p : Nat) (hp : 0 < s.sigma p) : 0 < (playLeague L P le neg s gs).sigma p := by
  have h := C06_league_pos L P le neg s gs hL hk0 hk1 hg hwf p hp gs.length
  rwa [List.take_length] at h

/-- **limit_sigma makes sigma non-increasing along the league (C06, history clause with
limit_sigma).**  If limit_sigma is in force (per call, else by the model's setting) in every game
of the history in which player `p` takes part — in particular if it is in force in every game —
then `σ_k(p)` is non-increasing in `k`: `k ≤ l → σ_l(p) ≤ σ_k(p)`.  No sign condition on the
sigmas, none on the taus. -/
theorem C06_league_limit (L : Leaves ℝ) (P : Params ℝ) (le : ρ → ρ → Bool) (neg : ρ → ρ)
    (s : Store ℝ) (gs : List (LeagueGame ℝ ρ))
    (hL : ∀ g ∈ gs, g.kind = .TMF ∨ g.kind = .TMP → LeafFacts L)
    (hk0 : 0 < P.kappa) (hk1 : P.kappa ≤ 1) (hg : GammaOK P.gamma) (hwf : ∀ g ∈ gs, g.WF)
    (p : Nat) (hlim : ∀ g ∈ gs, g.plays p → resolveLimit P g.opts = true)
    (k l : Nat) (hkl : k ≤ l) :
    (playLeague L P le neg s (gs.take l)).sigma p ≤ (playLeague L P le neg s (gs.take k)).sigma p :=
  playLeague_sigma_rel L P le neg p (fun a b => b ≤ a) (fun _ => le_rfl) (fun h1 h2 => h2.trans h1)
    s gs (fun j hj => (hwf _ (List.getElem_mem hj)).2)
    (fun j hj hpl => ((C06_playGame_slot L P le neg _ gs[j] (hL _ (List.getElem_mem hj)) hk0 hk1 hg
      (hwf _ (List.getElem_mem hj)) p).1 hpl).2.2.2.1 (hlim _ (List.getElem_mem hj) hpl)) hkl

theorem C06_league_limit_total (L : Leaves ℝ) (P : Params ℝ) (le : ρ → ρ → Bool) (neg : ρ → ρ)
    (s : Store ℝ) (gs : List (LeagueGame ℝ ρ))
    (hL : ∀ g ∈ gs, g.kind = .TMF ∨ g.kind = .TMP → LeafFacts L)
    (hk0 : 0 < P.kappa) (hk1 : P.kappa ≤ 1) (hg : GammaOK P.gamma) (hwf : ∀ g ∈ gs, g.WF)
    (p : Nat) (hlim : ∀ g ∈ gs, g.plays p → resolveLimit P g.opts = true) :
    (playLeague L P le neg s gs).sigma p ≤ s.sigma p := by
  have h := C06_league_limit L P le neg s gs hL hk0 hk1 hg hwf p hlim 0 gs.length (Nat.zero_le _)
  rwa [List.take_length] at h

/-- `C06_league_limit` for every player at once: limit_sigma in force in every game of the history -/
theorem C06_league_limit_all (L : Leaves ℝ) (P : Params ℝ) (le : ρ → ρ → Bool) (neg : ρ → ρ)
    (s : Store ℝ) (gs : List (LeagueGame ℝ ρ))
    (hL : ∀ g ∈ gs, g.kind = .TMF ∨ g.kind = .TMP → LeafFacts L)
    (hk0 : 0 < P.kappa) (hk1 : P.kappa ≤ 1) (hg : GammaOK P.gamma) (hwf : ∀ g ∈ gs, g.WF)
    (hlim : ∀ g ∈ gs, resolveLimit P g.opts = true) :
    ∀ (p k l : Nat), k ≤ l →
      (playLeague L P le neg s (gs.take l)).sigma p ≤ (playLeague L P le neg s (gs.take k)).sigma p :=
  fun p k l hkl => C06_league_limit L P le neg s gs hL hk0 hk1 hg hwf p
    (fun g h _ => hlim g h) k l hkl

/-! ### the abstract `C06_history` instantiated -/

/-- the `GameStep` of game number `k` of the league: the tau in force, who takes part, and the
sigmas in the store after the game (past the end of the history: nobody plays) -/
def leagueStep (L : Leaves ℝ) (P : Params ℝ) (le : ρ → ρ → Bool) (neg : ρ → ρ)
    (s : Store ℝ) (gs : List (LeagueGame ℝ ρ)) (k : Nat) : GameStep :=
  match gs[k]? with
  | some g => ⟨resolveTau P g.opts, g.plays, (playLeague L P le neg s (gs.take (k + 1))).sigma⟩
  | none => ⟨0, fun _ => False, (playLeague L P le neg s (gs.take k)).sigma⟩

theorem leagueStep_of_lt (L : Leaves ℝ) (P : Params ℝ) (le : ρ → ρ → Bool) (neg : ρ → ρ)
    (s : Store ℝ) (gs : List (LeagueGame ℝ ρ)) {k : Nat} (hk : k < gs.length) :
    leagueStep L P le neg s gs k
      = ⟨resolveTau P gs[k].opts, gs[k].plays, (playLeague L P le neg s (gs.take (k + 1))).sigma⟩ := by
  simp only [leagueStep, List.getElem?_eq_getElem hk]

/-- **The concrete league is an instance of the abstract history of `C06_history`.**  With
`sig k = ` the sigmas after `k` games: if all players start with `0 ≤ σ`, every game of the
history is an admissible step (`GameStep.Adm`) from the state before it and leads to the state
after it. -/
theorem C06_league_steps (L : Leaves ℝ) (P : Params ℝ) (le : ρ → ρ → Bool) (neg : ρ → ρ)
    (s : Store ℝ) (gs : List (LeagueGame ℝ ρ))
    (hL : ∀ g ∈ gs, g.kind = .TMF ∨ g.kind = .TMP → LeafFacts L)
    (hk0 : 0 < P.kappa) (hk1 : P.kappa ≤ 1) (hg : GammaOK P.gamma) (hwf : ∀ g ∈ gs, g.WF)
    (hs : ∀ p, 0 ≤ s.sigma p) :
    ∀ k < gs.length,
      (leagueStep L P le neg s gs k).Adm (playLeague L P le neg s (gs.take k)).sigma
      ∧ (playLeague L P le neg s (gs.take (k + 1))).sigma = (leagueStep L P le neg s gs k).post := by
  intro k hk
  rw [leagueStep_of_lt L P le neg s gs hk]
  refine ⟨fun p => ?_, rfl⟩
  have hmem := List.getElem_mem hk
  obtain ⟨hin, hout⟩ := C06_playGame_slot L P le neg (playLeague L P le neg s (gs.take k)) gs[k]
    (hL _ hmem) hk0 hk1 hg (hwf _ hmem) p
  rw [playLeague_take_succ L P le neg s gs k hk]
  exact ⟨fun hpl => ⟨(hin hpl).2.2.1 (C06_league_nonneg L P le neg s gs hL hk0 hk1 hg hwf p (hs p) k),
    (hin hpl).1⟩, fun hpl => (hout hpl).2⟩

/-- the conclusion of the abstract `C06_history` for the concrete league (all players starting
with `0 ≤ σ`): the same bound as `C06_league`, with the budget written as `tauBudget` -/
theorem C06_league_via_history (L : Leaves ℝ) (P : Params ℝ) (le : ρ → ρ → Bool) (neg : ρ → ρ)
    (s : Store ℝ) (gs : List (LeagueGame ℝ ρ))
    (hL : ∀ g ∈ gs, g.kind = .TMF ∨ g.kind = .TMP → LeafFacts L)
    (hk0 : 0 < P.kappa) (hk1 : P.kappa ≤ 1) (hg : GammaOK P.gamma) (hwf : ∀ g ∈ gs, g.WF)
    (hs : ∀ p, 0 ≤ s.sigma p) :
    ∀ k ≤ gs.length, ∀ p,
      (playLeague L P le neg s (gs.take k)).sigma p ^ 2
        ≤ s.sigma p ^ 2 + tauBudget (leagueStep L P le neg s gs) p k :=
  -- `sig 0` below is `s.sigma` by computation: `gs.take 0 = []`
  C06_history (leagueStep L P le neg s gs)
    (fun k => (playLeague L P le neg s (gs.take k)).sigma) gs.length
    (C06_league_steps L P le neg s gs hL hk0 hk1 hg hwf hs)

theorem C06_league_budget_eq (L : Leaves ℝ) (P : Params ℝ) (le : ρ → ρ → Bool) (neg : ρ → ρ)
    (s : Store ℝ) (gs : List (LeagueGame ℝ ρ)) (p k : Nat) (hk : k ≤ gs.length) :
    tauBudget (leagueStep L P le neg s gs) p k = leagueBudget P (gs.take k) p := by
  induction k with
  | zero => simp [tauBudget_zero, leagueBudget]
  | succ k ih =>
    rw [tauBudget_succ, ih (Nat.le_of_succ_le hk), leagueStep_of_lt L P le neg s gs hk,
      List.take_succ_eq_append_getElem hk, leagueBudget_append]
    congr 1
    simp only [stepBudget, gameBudget, leagueBudget, List.map_cons, List.map_nil, List.sum_cons,
      List.sum_nil, add_zero]

/-! ### the hypotheses are satisfiable -/

/-- a three-player, two-game history of well-formed games: a 2-vs-1 Plackett–Luce game with ranks,
then a Thurstone–Mosteller free-for-all with scores, its own tau and limit_sigma -/
example :
    ∀ g ∈ ([⟨.PL, [[0, 1], [2]], .ranks [1, 2], ⟨none, none⟩⟩,
            ⟨.TMF, [[2], [0], [1]], .scores [3, 1, 2], ⟨some (1 / 10), some true⟩⟩] :
              List (LeagueGame ℝ Nat)), g.WF := by
  decide

/-- `C06_league` instantiated on that history with the library defaults
(`β = 25/6`, `κ = 0.0001`, `τ = 25/300`, default gamma), leaves satisfying `LeafFacts`, every player
starting at `σ = 25/3`: player 0 after both games has `σ² ≤ (25/3)² + (25/300)² + (1/10)²`. -/
example :
    (playLeague ⟨fun x t => |t - x|, fun _ _ => 0, fun x _ => -x, fun _ _ => 0⟩
        ⟨25 / 6, 1 / 10000, 25 / 300, false, .dflt⟩ leNat (fun n => 10 - n)
        ⟨fun _ => 25, fun _ => 25 / 3⟩
        [⟨.PL, [[0, 1], [2]], .ranks [1, 2], ⟨none, none⟩⟩,
         ⟨.TMF, [[2], [0], [1]], .scores [3, 1, 2], ⟨some (1 / 10), some true⟩⟩]).sigma 0 ^ 2
      ≤ (25 / 3 : ℝ) ^ 2 + ((25 / 300) ^ 2 + (1 / 10) ^ 2) := by
  refine (C06_league _ _ _ _ _ [_, _] (fun _ _ _ => leafFacts_abs) ?_ ?_ ?_ ?_ 0 ?_ 2).trans_eq ?_
  · norm_num
  · norm_num
  · exact gammaOK_dflt
  · decide
  · norm_num
  · show (25 / 3 : ℝ) ^ 2 + (gameBudget _ _ 0 + (gameBudget _ _ 0 + 0)) = _
    rw [gameBudget_pos (by decide), gameBudget_pos (by decide), add_zero]
    rfl

end OS
end
