import OSModel.Validate
import OSProofs.ValidateLemmas
/-!
# C13 — malformed calls are rejected with `TypeError` / `ValueError`; well-formed calls are accepted

The validation prefix of `rate` (`validateRate`) and of `predict_*` (`validatePredict`) is
characterised against a well-formedness predicate that is *transcribed from the property
statement* (plain logic over lists; it does not mention the checking functions):

* `teams` is a list of at least two non-empty lists of this model's own rating objects;
* `ranks` / `scores` are each either not given (falsy: `None`, `[]`, …) or a list of numbers
  (`bool`, `int`, `float`; any value, zero and negative included) with one entry per team;
* `ranks` and `scores` are not both given.

Main results: `C13_validateRate_iff`, `C13_validatePredict_iff` (accepted ⇔ well-formed),
`C13_reject_class` / `C13_malformed_rejected` (otherwise a `TypeError` or a `ValueError`), and a
family of small lemmas giving the class of the exception in each malformed case, in the order
the code performs the checks.
-/
namespace OS

def WellFormedTeams (k : Kind) (v : PyVal) : Prop :=
  ∃ ts, v = .list ts ∧ 2 ≤ ts.length ∧
    ∀ t ∈ ts, ∃ ps, t = .list ps ∧ ps ≠ [] ∧ ∀ p ∈ ps, p = .rating k

def SelectorOK (n : Nat) (v : PyVal) : Prop :=
  v.truthy = false ∨ ∃ xs, v = .list xs ∧ xs.length = n ∧ ∀ x ∈ xs, x.isNumber = true

def WellFormedRate (k : Kind) (teams ranks scores : PyVal) : Prop :=
  WellFormedTeams k teams ∧ SelectorOK (teamCount teams) ranks ∧ SelectorOK (teamCount teams) scores
    ∧ ¬ (ranks.truthy = true ∧ scores.truthy = true)

theorem checkTeams_not_list (k : Kind) (v : PyVal) (h : ∀ ts, v ≠ .list ts) :
    checkTeams k v = .error .TypeError := by
  rw [checkTeams_eq]; exact checkList_not_list h

theorem checkTeams_too_few (k : Kind) (ts : List PyVal) (h : ts.length < 2) :
    checkTeams k (.list ts) = .error .ValueError := by
  rw [checkTeams, if_pos h]

theorem checkTeams_list (k : Kind) (ts : List PyVal) (h : 2 ≤ ts.length) :
    checkTeams k (.list ts) = checkTeamList k ts := by
  rw [checkTeams, if_neg (Nat.not_lt.2 h)]

/-- the first offending item (everything before it is a good team) decides -/
theorem checkTeams_first_error (k : Kind) {pre : List PyVal} {t : PyVal} {e : PyExc} (post : List PyVal)
    (hlen : 2 ≤ (pre ++ t :: post).length)
    (hpre : ∀ u ∈ pre, ∃ ps, u = .list ps ∧ ps ≠ [] ∧ ∀ p ∈ ps, p = .rating k)
    (ht : checkTeam k t = .error e) :
    checkTeams k (.list (pre ++ t :: post)) = .error e := by
  rw [checkTeams_list k _ hlen, checkTeamList_eq]
  exact execFor_first_error (fun u hu => (checkTeam_ok_iff k u).2 (hpre u hu)) ht post

theorem checkTeams_team_not_list (k : Kind) (pre post : List PyVal) (t : PyVal)
    (hlen : 2 ≤ (pre ++ t :: post).length)
    (hpre : ∀ u ∈ pre, ∃ ps, u = .list ps ∧ ps ≠ [] ∧ ∀ p ∈ ps, p = .rating k)
    (ht : ∀ ps, t ≠ .list ps) :
    checkTeams k (.list (pre ++ t :: post)) = .error .TypeError :=
  checkTeams_first_error k post hlen hpre (checkList_not_list ht)

theorem checkTeams_empty_team (k : Kind) (pre post : List PyVal)
    (hlen : 2 ≤ (pre ++ PyVal.list [] :: post).length)
    (hpre : ∀ u ∈ pre, ∃ ps, u = .list ps ∧ ps ≠ [] ∧ ∀ p ∈ ps, p = .rating k) :
    checkTeams k (.list (pre ++ .list [] :: post)) = .error .ValueError :=
  checkTeams_first_error k post hlen hpre rfl

theorem checkTeams_foreign_player (k : Kind) (pre post ps : List PyVal)
    (hlen : 2 ≤ (pre ++ PyVal.list ps :: post).length)
    (hpre : ∀ u ∈ pre, ∃ ps, u = .list ps ∧ ps ≠ [] ∧ ∀ p ∈ ps, p = .rating k)
    (hbad : ∃ p ∈ ps, p ≠ .rating k) :
    checkTeams k (.list (pre ++ .list ps :: post)) = .error .TypeError :=
  have hne : ¬ ps.length < 1 := by obtain ⟨p, hp, -⟩ := hbad; exact Nat.not_lt.2 (List.length_pos_of_mem hp)
  checkTeams_first_error k post hlen hpre ((if_neg hne).trans (checkPlayers_bad k ps hbad))

theorem checkTeams_ok_iff (k : Kind) (v : PyVal) :
    checkTeams k v = .ok () ↔ WellFormedTeams k v := by
  simp only [WellFormedTeams, checkTeams_eq, checkList_ok_iff, Nat.not_lt, checkTeamList_ok_iff]

theorem checkSelector_not_given (n : Nat) (v : PyVal) (h : v.truthy = false) :
    checkSelector n v = .ok () := by
  unfold checkSelector; rw [h]; rfl

theorem checkSelector_not_list (n : Nat) (v : PyVal) (ht : v.truthy = true)
    (h : ∀ xs, v ≠ .list xs) : checkSelector n v = .error .TypeError := by
  rw [checkSelector_eq, if_pos ht]; exact checkList_not_list h

theorem checkSelector_wrong_length (n : Nat) (xs : List PyVal) (hne : xs ≠ [])
    (h : xs.length ≠ n) : checkSelector n (.list xs) = .error .ValueError := by
  rw [checkSelector_list n xs hne]
  simp [h]

theorem checkSelector_non_number (n : Nat) (xs : List PyVal) (hne : xs ≠ [])
    (hlen : xs.length = n) (hbad : ∃ x ∈ xs, x.isNumber = false) :
    checkSelector n (.list xs) = .error .TypeError := by
  rw [checkSelector_list n xs hne]
  simp [hlen, checkNumbers_bad xs hbad]

theorem checkSelector_ok_iff (n : Nat) (v : PyVal) :
    checkSelector n v = .ok () ↔ SelectorOK n v := by
  rw [checkSelector_eq, SelectorOK]
  cases v.truthy
  · exact ⟨fun _ => .inl rfl, fun _ => rfl⟩
  · simp only [if_true, checkList_ok_iff, Bool.not_eq_true, bne_eq_false_iff_eq, checkNumbers_ok_iff, Bool.true_eq_false,
      false_or]

/-- **C13 (numbers accepted).** Any list of `bool` / `int` / `float` values (zero, negative,
anything) with one entry per team is an accepted selector. -/
theorem C13_wellformed_numbers_accepted (n : Nat) (xs : List PyVal)
    (hnum : ∀ x ∈ xs, x.isNumber = true) (hlen : xs.length = n) :
    checkSelector n (.list xs) = .ok () :=
  (checkSelector_ok_iff n _).2 (.inr ⟨xs, rfl, hlen, hnum⟩)

theorem checkSelector_error_class (n : Nat) (v : PyVal) (e : PyExc)
    (_ : checkSelector n v = .error e) : e = .TypeError ∨ e = .ValueError := pyexc_cases e

theorem validateRate_teams_error (k : Kind) (teams ranks scores : PyVal) (e : PyExc)
    (h : checkTeams k teams = .error e) : validateRate k teams ranks scores = .error e := by
  simp [validateRate, h]

theorem validateRate_ranks_error (k : Kind) (teams ranks scores : PyVal) (e : PyExc)
    (hT : checkTeams k teams = .ok ())
    (h : checkSelector (teamCount teams) ranks = .error e) :
    validateRate k teams ranks scores = .error e := by
  simp [validateRate, hT, h]

/-- both selectors given → `ValueError` before `scores` is inspected any further -/
theorem validateRate_both (k : Kind) (teams ranks scores : PyVal)
    (hT : checkTeams k teams = .ok ())
    (hR : checkSelector (teamCount teams) ranks = .ok ())
    (hr : ranks.truthy = true) (hs : scores.truthy = true) :
    validateRate k teams ranks scores = .error .ValueError := by
  simp [validateRate, hT, hR, hr, hs]

theorem validateRate_scores (k : Kind) (teams ranks scores : PyVal)
    (hT : checkTeams k teams = .ok ())
    (hR : checkSelector (teamCount teams) ranks = .ok ())
    (hnb : ¬ (ranks.truthy = true ∧ scores.truthy = true)) :
    validateRate k teams ranks scores = checkSelector (teamCount teams) scores := by
  rw [validateRate, hT, hR]
  exact if_neg (fun h => hnb (Bool.and_eq_true_iff.1 h))

theorem validateRate_teams_not_list (k : Kind) (teams ranks scores : PyVal)
    (h : ∀ ts, teams ≠ .list ts) : validateRate k teams ranks scores = .error .TypeError :=
  validateRate_teams_error k teams ranks scores _ (checkTeams_not_list k teams h)

theorem validateRate_too_few (k : Kind) (ts : List PyVal) (ranks scores : PyVal)
    (h : ts.length < 2) : validateRate k (.list ts) ranks scores = .error .ValueError :=
  validateRate_teams_error k _ ranks scores _ (checkTeams_too_few k ts h)

theorem validateRate_ranks_not_list (k : Kind) (teams ranks scores : PyVal)
    (hT : checkTeams k teams = .ok ()) (ht : ranks.truthy = true) (h : ∀ xs, ranks ≠ .list xs) :
    validateRate k teams ranks scores = .error .TypeError :=
  validateRate_ranks_error k teams ranks scores _ hT (checkSelector_not_list _ ranks ht h)

theorem validateRate_ranks_wrong_length (k : Kind) (teams scores : PyVal) (xs : List PyVal)
    (hT : checkTeams k teams = .ok ()) (hne : xs ≠ []) (h : xs.length ≠ teamCount teams) :
    validateRate k teams (.list xs) scores = .error .ValueError :=
  validateRate_ranks_error k teams _ scores _ hT (checkSelector_wrong_length _ xs hne h)

theorem validateRate_ranks_non_number (k : Kind) (teams scores : PyVal) (xs : List PyVal)
    (hT : checkTeams k teams = .ok ()) (hne : xs ≠ []) (hlen : xs.length = teamCount teams)
    (hbad : ∃ x ∈ xs, x.isNumber = false) :
    validateRate k teams (.list xs) scores = .error .TypeError :=
  validateRate_ranks_error k teams _ scores _ hT (checkSelector_non_number _ xs hne hlen hbad)

/-- the other `scores` errors are likewise those of `checkSelector`, by `validateRate_scores` -/
theorem validateRate_scores_not_list (k : Kind) (teams ranks scores : PyVal)
    (hT : checkTeams k teams = .ok ()) (hr : ranks.truthy = false)
    (ht : scores.truthy = true) (h : ∀ xs, scores ≠ .list xs) :
    validateRate k teams ranks scores = .error .TypeError := by
  rw [validateRate_scores k teams ranks scores hT (checkSelector_not_given _ ranks hr)
    (by simp [hr])]
  exact checkSelector_not_list _ scores ht h

/-- **C13 (rate).** The validation prefix of `rate` accepts a call exactly when the call is
well-formed: `teams` is a list of ≥ 2 non-empty lists of own ratings, each of `ranks` / `scores`
is either not given or a list of numbers with one entry per team, and not both are given. -/
theorem C13_validateRate_iff (k : Kind) (teams ranks scores : PyVal) :
    validateRate k teams ranks scores = .ok () ↔ WellFormedRate k teams ranks scores := by
  unfold WellFormedRate
  rw [← checkTeams_ok_iff, ← checkSelector_ok_iff, ← checkSelector_ok_iff]
  constructor
  · intro h
    rcases except_unit_cases (checkTeams k teams) with hT | ⟨e, hT⟩
    · rcases except_unit_cases (checkSelector (teamCount teams) ranks) with hR | ⟨e, hR⟩
      · by_cases hb : ranks.truthy = true ∧ scores.truthy = true
        · rw [validateRate_both k teams ranks scores hT hR hb.1 hb.2] at h; cases h
        · exact ⟨hT, hR, validateRate_scores k teams ranks scores hT hR hb ▸ h, hb⟩
      · rw [validateRate_ranks_error k teams ranks scores e hT hR] at h; cases h
    · rw [validateRate_teams_error k teams ranks scores e hT] at h; cases h
  · rintro ⟨hT, hR, hS, hb⟩
    rw [validateRate_scores k teams ranks scores hT hR hb]; exact hS

/-- **C13 (predict).** `predict_win` / `predict_draw` / `predict_rank` accept exactly the
well-formed teams. -/
theorem C13_validatePredict_iff (k : Kind) (teams : PyVal) :
    validatePredict k teams = .ok () ↔ WellFormedTeams k teams :=
  checkTeams_ok_iff k teams

/-- **C13 (class of the rejection).** Whatever `rate` rejects, it rejects with a `TypeError`
or a `ValueError` (the model's validation has no other outcome). -/
theorem C13_reject_class (k : Kind) (teams ranks scores : PyVal) (e : PyExc)
    (_ : validateRate k teams ranks scores = .error e) : e = .TypeError ∨ e = .ValueError :=
  pyexc_cases e

theorem C13_reject_class_predict (k : Kind) (teams : PyVal) (e : PyExc)
    (_ : validatePredict k teams = .error e) : e = .TypeError ∨ e = .ValueError :=
  pyexc_cases e

/-- **C13 (malformed calls are rejected).** A `rate` call that is not well-formed raises
`TypeError` or `ValueError`. -/
theorem C13_malformed_rejected (k : Kind) (teams ranks scores : PyVal)
    (h : ¬ WellFormedRate k teams ranks scores) :
    validateRate k teams ranks scores = .error .TypeError ∨
      validateRate k teams ranks scores = .error .ValueError :=
  error_class _ (fun h1 => h ((C13_validateRate_iff k teams ranks scores).1 h1))

/-- **C13 (malformed teams are rejected by `predict_*`).** -/
theorem C13_malformed_rejected_predict (k : Kind) (teams : PyVal)
    (h : ¬ WellFormedTeams k teams) :
    validatePredict k teams = .error .TypeError ∨ validatePredict k teams = .error .ValueError :=
  error_class _ (fun h1 => h ((C13_validatePredict_iff k teams).1 h1))

section Examples

private def goodTeams : PyVal :=
  .list [.list [.rating .PL], .list [.rating .PL, .rating .PL]]

/-- Non-vacuity: a well-formed call, shown well-formed directly from the specification
(ranks `[True, 0.0]`: a bool and a zero float are numbers) … -/
example : WellFormedRate .PL goodTeams (.list [.bool true, .flt true]) .none := by
  refine ⟨⟨_, rfl, by decide, ?_⟩, .inr ⟨_, rfl, rfl, by decide⟩, .inl rfl, fun h => nomatch h.2⟩
  simp

/-- … and accepted by the model -/
example : validateRate .PL goodTeams (.list [.bool true, .flt true]) .none = .ok () := rfl
example : validatePredict .PL goodTeams = .ok () := rfl
/-- negative ints and zero as scores -/
example : validateRate .PL goodTeams .none (.list [.int (-3), .int 0]) = .ok () := rfl
/-- `ranks=[]` counts as not given -/
example : validateRate .PL goodTeams (.list []) (.list [.flt false, .flt true]) = .ok () := rfl

example : validateRate .PL .none .none .none = .error .TypeError := rfl
example : validateRate .PL (.tuple [.list [.rating .PL], .list [.rating .PL]]) .none .none
    = .error .TypeError := rfl
example : validateRate .PL (.list [.list [.rating .PL]]) .none .none = .error .ValueError := rfl
example : validateRate .PL (.list [.list [.rating .PL], .obj]) .none .none
    = .error .TypeError := rfl
example : validateRate .PL (.list [.list [.rating .PL], .list []]) .none .none
    = .error .ValueError := rfl
/-- a rating object of another model is not an own rating -/
example : validateRate .PL (.list [.list [.rating .PL], .list [.rating .BTF]]) .none .none
    = .error .TypeError := rfl
/-- the same teams handed to another model -/
example : validateRate .BTF goodTeams .none .none = .error .TypeError := rfl
example : validateRate .PL goodTeams (.int 1) .none = .error .TypeError := rfl
example : validateRate .PL goodTeams (.tuple [.int 1, .int 2]) .none = .error .TypeError := rfl
example : validateRate .PL goodTeams (.list [.int 1]) .none = .error .ValueError := rfl
example : validateRate .PL goodTeams (.list [.int 1, .str 1]) .none = .error .TypeError := rfl
example : validateRate .PL goodTeams (.list [.int 1, .none]) .none = .error .TypeError := rfl
example : validateRate .PL goodTeams (.list [.int 1, .int 2]) (.list [.int 1, .int 2])
    = .error .ValueError := rfl
/-- both given: `ValueError` even if `scores` is itself malformed (it is not inspected) -/
example : validateRate .PL goodTeams (.list [.int 1, .int 2]) .obj = .error .ValueError := rfl
example : validateRate .PL goodTeams .none (.list [.int 1, .int 2, .int 3])
    = .error .ValueError := rfl
example : validatePredict .PL (.list [.list [.rating .PL]]) = .error .ValueError := rfl
/-- the malformed examples are indeed not well-formed (via the characterisation) -/
example : ¬ WellFormedRate .PL goodTeams (.list [.int 1, .int 2]) .obj := by
  rw [← C13_validateRate_iff]; intro h; cases h

end Examples

end OS
