import OSProofs.HiPrecLemmas

/-!
# Oracle — the arithmetic core of the high-precision evaluator is proved, not trusted

`OSModel/HiPrec.lean` (namespace `OS.HP`) is the big-float evaluator the differential tests
compare the Python implementation with.  A big float is a pair `⟨m, e⟩` of integers meaning
the real number `m · 2^e` (`BF.toReal`).  This file states, against that real-number meaning,

* that `neg`, `abs`, `scale2`, `ofInt`, `isNeg`, `lt`, `floor` are **exact**
  (`lt` decides the order of the real numbers: the recorded-comparison / knife-edge logic
  relies on exactly this);
* that `norm P` truncates the mantissa toward zero to at most `P` bits, with relative loss
  `≤ 2^(1-P)`, never increasing the magnitude and never changing the sign;
* relative error bounds for `mul` (`2^(1-P)`), `add`/`sub` (`2^(1-P)`), `div` (`2^(2-P)`),
  `sqrt` (`2^(2-P)`), and the documented totalisations `div _ 0 = 0`, `sqrt (≤ 0) = 0`.

`add_err` needs **no** hypothesis on the operands: the shortcut in `add` (return the operand
with the larger exponent unchanged) tests `bitLen lo.m ≤ P + 8` itself, so the neglected term is
bounded whatever the caller passes.

The series functions (`ln2`, `pi`, `exp`, `erfc`, `Φ`, `φ`, `Φ⁻¹`, leaves) and the conversions
`ofFloat`/`toFloat` stay trusted executable code; every rounding step *inside* them is one of the
operations below.
-/

namespace OS.HP

noncomputable section

theorem toReal_zero_of_m {x : BF} (h : x.m = 0) : x.toReal = 0 := by
  rw [BF.toReal, h, Int.cast_zero, zero_mul]

/-- `bitLen n ≤ k` says exactly `n < 2^k` -/
theorem Oracle_bitLen_le_iff {n k : Nat} : bitLen n ≤ k ↔ n < 2 ^ k := by
  unfold bitLen
  split_ifs with h
  · subst h; exact iff_of_true (Nat.zero_le k) (Nat.two_pow_pos k)
  · exact Nat.log2_lt h

theorem Oracle_bitLen_zero : bitLen 0 = 0 := if_pos rfl

/-- `bitLen n` is the number of binary digits of `n > 0` -/
theorem Oracle_bitLen_spec {n : Nat} (h : 0 < n) :
    2 ^ (bitLen n - 1) ≤ n ∧ n < 2 ^ bitLen n := by
  refine ⟨Nat.le_of_not_lt fun hlt => ?_, Oracle_bitLen_le_iff.1 le_rfl⟩
  have h1 := Oracle_bitLen_le_iff.2 hlt
  have h2 : ¬ bitLen n ≤ 0 := fun h0 => by have := Oracle_bitLen_le_iff.1 h0; omega
  omega

theorem abs_lt_of_bitLen {m : Int} {k : Nat} (h : bitLen m.natAbs ≤ k) : |(m : ℝ)| < 2 ^ k := by
  rw [← Int.cast_abs, ← Nat.cast_natAbs]
  exact_mod_cast Oracle_bitLen_le_iff.1 h

theorem le_abs_of_bitLen {m : Int} (h : m ≠ 0) : (2 : ℝ) ^ (bitLen m.natAbs - 1) ≤ |(m : ℝ)| := by
  rw [← Int.cast_abs, ← Nat.cast_natAbs]
  exact_mod_cast (Oracle_bitLen_spec (Int.natAbs_pos.2 h)).1

/-- negation is exact -/
theorem Oracle_neg_toReal (a : BF) : (neg a).toReal = -a.toReal := by
  simp only [neg, BF.toReal, Int.cast_neg, neg_mul]

/-- absolute value is exact -/
theorem Oracle_abs_toReal (a : BF) : (abs a).toReal = |a.toReal| := by
  simp only [abs, BF.toReal, Int.ofNat_eq_natCast, Int.natCast_natAbs, Int.cast_abs, abs_mul,
    abs_of_pos (two_zpow_pos a.e)]

/-- multiplication by a power of two is exact -/
theorem Oracle_scale2_toReal (a : BF) (k : Int) :
    (scale2 a k).toReal = a.toReal * (2 : ℝ) ^ k := by
  simp only [scale2, BF.toReal, two_zpow_add, mul_assoc]

/-- an integer is represented exactly -/
theorem Oracle_ofInt_toReal (i : Int) : (ofInt i).toReal = (i : ℝ) := by
  simp only [ofInt, BF.toReal, zpow_zero, mul_one]

/-- `b.m ≠ 0` is the same as "the divisor is not the real number 0" -/
theorem Oracle_m_ne_zero_iff (b : BF) : b.m ≠ 0 ↔ b.toReal ≠ 0 := by
  rw [BF.toReal, mul_ne_zero_iff_right (two_zpow_pos b.e).ne', Int.cast_ne_zero]

theorem mk_lt_mk_iff (m n e : Int) : (BF.mk m e).toReal < (BF.mk n e).toReal ↔ m < n := by
  rw [toReal_mk, toReal_mk, mul_lt_mul_iff_left₀ (two_zpow_pos e), Int.cast_lt]

/-- the sign test is exact -/
theorem Oracle_isNeg_iff (a : BF) : isNeg a = true ↔ a.toReal < 0 := by
  have := mk_lt_mk_iff a.m 0 a.e
  rw [toReal_mk 0, Int.cast_zero, zero_mul] at this
  exact decide_eq_true_iff.trans this.symm

/-- aligning a value on a smaller exponent: `m · 2^hi = (m · 2^(hi-lo)) · 2^lo` -/
theorem align (a : BF) {e : Int} (h : e ≤ a.e) :
    (BF.mk (a.m * (2 : Int) ^ (a.e - e).toNat) e).toReal = a.toReal := by
  have hd : a.e = ((a.e - e).toNat : Int) + e := by rw [Int.toNat_of_nonneg (by omega)]; ring
  rw [toReal_mk, BF.toReal]
  conv_rhs => rw [hd, two_zpow_add, zpow_natCast]
  push_cast; ring

theorem lt_iff (a b : BF) : lt a b = true ↔ a.toReal < b.toReal := by
  unfold lt
  by_cases h : a.e ≥ b.e
  · simp only [h, if_true, Bool.false_eq_true, if_false, decide_eq_true_eq]
    have := mk_lt_mk_iff (a.m * (2 : Int) ^ (a.e - b.e).toNat) b.m b.e
    rw [align a h] at this
    exact sub_neg.trans this.symm
  · simp only [h, if_false, if_true, decide_eq_true_eq]
    have := mk_lt_mk_iff a.m (b.m * (2 : Int) ^ (b.e - a.e).toNat) a.e
    rw [align b (by omega)] at this
    exact sub_pos.trans this.symm

/-- the comparison is exact: `lt a b` answers `true` exactly when the real number `a` stands
for is smaller than the real number `b` stands for (no rounding is involved at all) -/
theorem Oracle_lt_iff (a b : BF) : lt a b = true ↔ a.toReal < b.toReal := lt_iff a b

/-- consequently `lt a b = false` means `b ≤ a` as real numbers -/
theorem Oracle_lt_false_iff (a b : BF) : lt a b = false ↔ b.toReal ≤ a.toReal := by
  rw [← not_lt, ← lt_iff, Bool.not_eq_true]

/-- `floor` is Mathlib's floor of the real value -/
theorem Oracle_floor_eq (a : BF) : floor a = ⌊a.toReal⌋ := by
  unfold floor BF.toReal
  split_ifs with h
  · rw [← Int.floor_intCast (R := ℝ) (a.m * 2 ^ a.e.toNat)]
    conv_rhs => rw [← Int.toNat_of_nonneg h, zpow_natCast]
    push_cast; rfl
  · have he : a.e = -((-a.e).toNat : Int) := by rw [Int.toNat_of_nonneg (by omega), neg_neg]
    conv_rhs => rw [he, zpow_neg, zpow_natCast, ← div_eq_mul_inv, ← Nat.cast_ofNat, ← Nat.cast_pow,
      Int.floor_div_natCast, Int.floor_intCast]
    rw [Int.fdiv_eq_ediv_of_nonneg _ (by positivity)]
    push_cast; rfl

/-- `floor` is the floor of the real value -/
theorem Oracle_floor_spec (a : BF) :
    ((floor a : Int) : ℝ) ≤ a.toReal ∧ a.toReal < ((floor a : Int) : ℝ) + 1 := by
  rw [Oracle_floor_eq]
  exact ⟨Int.floor_le _, Int.lt_floor_add_one _⟩

/-- the mantissa `norm` produces is the `Int.tdiv` of the input mantissa by `2^sh` -/
theorem norm_mantissa (m : Int) (sh : Nat) :
    (if m < 0 then -(Int.ofNat (m.natAbs >>> sh)) else Int.ofNat (m.natAbs >>> sh))
      = Int.tdiv m ((2 : Int) ^ sh) := by
  have hq : Int.ofNat (m.natAbs >>> sh) = Int.tdiv (m.natAbs : Int) ((2 : Int) ^ sh) := by
    rw [Nat.shiftRight_eq_div_pow, Int.tdiv_eq_ediv_of_nonneg (Int.natCast_nonneg _),
      Int.ofNat_eq_natCast, Int.natCast_ediv, Nat.cast_pow, Nat.cast_ofNat]
  rw [hq]
  split_ifs with h
  · rw [← Int.neg_tdiv]; congr 1; omega
  · congr 1; omega

theorem norm_eq (P : Nat) (x : BF) : norm P x =
    if x.m = 0 then ⟨0, 0⟩ else if bitLen x.m.natAbs ≤ P then x else
      ⟨Int.tdiv x.m ((2 : Int) ^ (bitLen x.m.natAbs - P)),
        x.e + ((bitLen x.m.natAbs - P : Nat) : Int)⟩ := by
  unfold norm
  simp only [Int.natAbs_eq_zero, norm_mantissa]
  rfl

/-- the three facts at once: `norm P x = x · (1 - θ)` with `0 ≤ θ ≤ 2^(1-P)`, `θ ≤ 1` -/
theorem Oracle_norm_spec {P : Nat} (hP : 0 < P) (x : BF) :
    ∃ θ : ℝ, 0 ≤ θ ∧ θ ≤ (2 : ℝ) ^ (1 - (P : Int)) ∧ θ ≤ 1 ∧
      (norm P x).toReal = x.toReal * (1 - θ) := by
  have hε := (two_zpow_pos (1 - (P : Int))).le
  show RelTrunc _ _ _
  rw [norm_eq]
  split_ifs with h0 hb
  · rw [toReal_zero_of_m h0, toReal_zero_of_m (x := ⟨0, 0⟩) rfl]; exact RelTrunc.refl 0 hε
  · exact RelTrunc.refl _ hε
  · -- `x.m` has `sh + P` bits, so `|x.m| ≥ 2^(P-1) · 2^sh`, and the unit of the division is `2^sh`
    set sh := bitLen x.m.natAbs - P with hsh
    have hd : ((2 : Int) ^ sh : Int) ≠ 0 := pow_ne_zero _ two_ne_zero
    have hlow := le_abs_of_bitLen h0
    rw [show bitLen x.m.natAbs - 1 = (P - 1) + sh by omega, pow_add] at hlow
    have t := (tdiv_relTrunc (m := x.m) hd (k := P - 1) fun _ => by
      rwa [Int.cast_pow, Int.cast_ofNat, abs_pow, abs_two]).mul_right ((2 : ℝ) ^ x.e)
    rw [show (-((P - 1 : Nat) : Int)) = 1 - (P : Int) by omega] at t
    refine t.of_eq ?_ rfl
    rw [toReal_mk, two_zpow_add, zpow_natCast]; push_cast; ring

/-- a value whose mantissa already fits in `P` bits is left unchanged in value (this includes
the mantissa 0, which is re-written as `⟨0, 0⟩`) -/
theorem Oracle_norm_exact {P : Nat} (x : BF) (h : bitLen x.m.natAbs ≤ P) :
    (norm P x).toReal = x.toReal := by
  rw [norm_eq, if_pos h]
  split_ifs with h0
  · rw [toReal_zero_of_m h0, toReal_mk, Int.cast_zero, zero_mul]
  · rfl

/-- the result of `norm P` has at most `P` mantissa bits (for every `P`, also 0) -/
theorem Oracle_norm_bitLen {P : Nat} (x : BF) : bitLen (norm P x).m.natAbs ≤ P := by
  rw [norm_eq]
  split_ifs with h0 hb
  · exact Nat.zero_le P
  · exact hb
  · rw [Oracle_bitLen_le_iff, Int.natAbs_tdiv, Int.natAbs_pow]
    refine (Nat.div_lt_iff_lt_mul (Nat.two_pow_pos _)).2 ?_
    rw [← pow_add, show P + (bitLen x.m.natAbs - P) = bitLen x.m.natAbs by omega]
    exact (Oracle_bitLen_spec (Int.natAbs_pos.2 h0)).2

/-- truncation to `P` bits loses at most the relative amount `2^(1-P)` -/
theorem Oracle_norm_err {P : Nat} (hP : 0 < P) (x : BF) :
    |(norm P x).toReal - x.toReal| ≤ |x.toReal| * (2 : ℝ) ^ (1 - (P : Int)) :=
  RelTrunc.err (Oracle_norm_spec hP x)

/-- truncation never increases the magnitude -/
theorem Oracle_norm_abs_le {P : Nat} (hP : 0 < P) (x : BF) :
    |(norm P x).toReal| ≤ |x.toReal| := RelTrunc.abs_le (Oracle_norm_spec hP x)

/-- truncation keeps the sign -/
theorem Oracle_norm_sign {P : Nat} (hP : 0 < P) (x : BF) :
    (0 ≤ x.toReal → 0 ≤ (norm P x).toReal) ∧ (x.toReal ≤ 0 → (norm P x).toReal ≤ 0) :=
  ⟨RelTrunc.nonneg (Oracle_norm_spec hP x), RelTrunc.nonpos (Oracle_norm_spec hP x)⟩

theorem norm_of_eq {P : Nat} (hP : 0 < P) {x : BF} {r : ℝ} (h : x.toReal = r) :
    RelTrunc (norm P x).toReal r ((2 : ℝ) ^ (1 - (P : Int))) := h ▸ Oracle_norm_spec hP x

/-- rounding a raw result that is itself a truncation of `r`: the losses `2^-j` (`j ≥ P - 1`)
and `2^(1-P)` add up to at most `2^(2-P)` -/
theorem norm_of_trunc {P : Nat} (hP : 0 < P) {x : BF} {r : ℝ} {j : Nat} (hj : P ≤ j + 1)
    (h : RelTrunc x.toReal r ((2 : ℝ) ^ (-(j : Int)))) :
    RelTrunc (norm P x).toReal r ((2 : ℝ) ^ (2 - (P : Int))) := by
  refine (RelTrunc.trans (Oracle_norm_spec hP x) h).mono ?_
  have h1 : (2 : ℝ) ^ (-(j : Int)) ≤ (2 : ℝ) ^ (1 - (P : Int)) :=
    zpow_le_zpow_right₀ one_le_two (by omega)
  rw [show 2 - (P : Int) = 1 - (P : Int) + 1 by ring, zpow_add_one₀ two_ne_zero]
  linarith

theorem mul_spec {P : Nat} (hP : 0 < P) (a b : BF) :
    RelTrunc (mul P a b).toReal (a.toReal * b.toReal) ((2 : ℝ) ^ (1 - (P : Int))) :=
  norm_of_eq hP (by simp only [BF.toReal, two_zpow_add]; push_cast; ring)

/-- the product is the exact product truncated to `P` bits -/
theorem Oracle_mul_err {P : Nat} (hP : 0 < P) (a b : BF) :
    |(mul P a b).toReal - a.toReal * b.toReal|
      ≤ |a.toReal * b.toReal| * (2 : ℝ) ^ (1 - (P : Int)) := (mul_spec hP a b).err

/-- and it is a truncation: never larger in magnitude than the exact product -/
theorem Oracle_mul_abs_le {P : Nat} (hP : 0 < P) (a b : BF) :
    |(mul P a b).toReal| ≤ |a.toReal * b.toReal| := (mul_spec hP a b).abs_le

theorem Oracle_mul_bitLen {P : Nat} (a b : BF) : bitLen (mul P a b).m.natAbs ≤ P :=
  Oracle_norm_bitLen _

/-- the body of `add` once the operands are ordered by exponent -/
def addCore (P : Nat) (hi lo : BF) : BF :=
  if (hi.e - lo.e).toNat > 2 * P + 64 ∧ bitLen lo.m.natAbs ≤ P + 8 then hi
  else norm P ⟨hi.m * (2 : Int) ^ (hi.e - lo.e).toNat + lo.m, lo.e⟩

theorem add_eq (P : Nat) (a b : BF) :
    add P a b = if a.m = 0 then b else if b.m = 0 then a else
      if a.e ≥ b.e then addCore P a b else addCore P b a := by
  unfold add addCore
  by_cases h1 : a.m = 0
  · simp [h1]
  · by_cases h2 : b.m = 0
    · simp [h1, h2]
    · by_cases h3 : a.e ≥ b.e
      · simp only [h1, h2, h3, if_false, if_true]
      · simp only [h1, h2, h3, if_false]

theorem abs_drop_le {h l ε : ℝ} (hε : 0 ≤ ε) (hl : |l| * (1 + ε) ≤ ε * |h|) :
    |h - (h + l)| ≤ |h + l| * ε := by
  have := abs_sub_abs_le_abs_sub h (-l)
  rw [abs_neg, sub_neg_eq_add] at this
  rw [sub_add_cancel_left, abs_neg]
  linarith [mul_le_mul_of_nonneg_right this hε]

theorem addCore_err {P : Nat} (hP : 0 < P) (hi lo : BF) (he : lo.e ≤ hi.e) (hm : hi.m ≠ 0) :
    |(addCore P hi lo).toReal - (hi.toReal + lo.toReal)|
      ≤ |hi.toReal + lo.toReal| * (2 : ℝ) ^ (1 - (P : Int)) := by
  unfold addCore
  split_ifs with hc
  · -- `|lo| < 2^(P+8+lo.e)`, `|hi| ≥ 2^hi.e`, and `hi.e - lo.e ≥ 2P + 65`
    refine abs_drop_le (two_zpow_pos _).le ?_
    have hlo : |lo.toReal| ≤ (2 : ℝ) ^ (((P + 8 : Nat) : Int) + lo.e) := by
      rw [BF.toReal, abs_mul, abs_of_pos (two_zpow_pos _), two_zpow_add, zpow_natCast]
      exact mul_le_mul_of_nonneg_right (abs_lt_of_bitLen hc.2).le (two_zpow_pos _).le
    have hhi : (2 : ℝ) ^ hi.e ≤ |hi.toReal| := by
      rw [BF.toReal, abs_mul, abs_of_pos (two_zpow_pos _)]
      refine le_mul_of_one_le_left (two_zpow_pos _).le ?_
      exact_mod_cast Int.one_le_abs hm
    have hε : 1 + (2 : ℝ) ^ (1 - (P : Int)) ≤ 2 := by
      have : (2 : ℝ) ^ (1 - (P : Int)) ≤ 1 := zpow_le_one_of_nonpos₀ one_le_two (by omega)
      linarith
    calc |lo.toReal| * (1 + (2 : ℝ) ^ (1 - (P : Int)))
        ≤ (2 : ℝ) ^ (((P + 8 : Nat) : Int) + lo.e) * 2 :=
          mul_le_mul hlo hε (add_pos one_pos (two_zpow_pos _)).le (two_zpow_pos _).le
      _ = (2 : ℝ) ^ (((P + 8 : Nat) : Int) + lo.e + 1) := (zpow_add_one₀ two_ne_zero _).symm
      _ ≤ (2 : ℝ) ^ (1 - (P : Int) + hi.e) := zpow_le_zpow_right₀ one_le_two (by omega)
      _ = (2 : ℝ) ^ (1 - (P : Int)) * (2 : ℝ) ^ hi.e := two_zpow_add _ _
      _ ≤ _ := mul_le_mul_of_nonneg_left hhi (two_zpow_pos _).le
  · refine (norm_of_eq hP ?_).err
    rw [← align hi he, toReal_mk, toReal_mk, BF.toReal]; push_cast; ring

/-- the sum has relative error at most `2^(1-P)` — for **all** operands: either the exact sum
is formed and truncated, or (exponents more than `2P+64` apart and the low operand at most
`P+8` bits long, both tested by the code) the low operand is dropped, and it is then smaller
than `2^(1-P)` times the exact sum. -/
theorem Oracle_add_err {P : Nat} (hP : 0 < P) (a b : BF) :
    |(add P a b).toReal - (a.toReal + b.toReal)|
      ≤ |a.toReal + b.toReal| * (2 : ℝ) ^ (1 - (P : Int)) := by
  have hε := (two_zpow_pos (1 - (P : Int))).le
  rw [add_eq]
  split_ifs with h1 h2 h3
  · rw [toReal_zero_of_m h1, zero_add, sub_self, abs_zero]; exact mul_nonneg (abs_nonneg _) hε
  · rw [toReal_zero_of_m h2, add_zero, sub_self, abs_zero]; exact mul_nonneg (abs_nonneg _) hε
  · exact addCore_err hP a b h3 h1
  · rw [add_comm a.toReal]; exact addCore_err hP b a (by omega) h2

/-- restates `Oracle_add_err` for operands normalised to `P + 8` bits; `_h` is not needed, because the
shortcut in `add` tests the bit length itself (file header) -/
theorem Oracle_add_err_normalised {P : Nat} (hP : 0 < P) (a b : BF)
    (_h : bitLen a.m.natAbs ≤ P + 8 ∧ bitLen b.m.natAbs ≤ P + 8) :
    |(add P a b).toReal - (a.toReal + b.toReal)|
      ≤ |a.toReal + b.toReal| * (2 : ℝ) ^ (1 - (P : Int)) := Oracle_add_err hP a b

theorem Oracle_sub_err {P : Nat} (hP : 0 < P) (a b : BF) :
    |(sub P a b).toReal - (a.toReal - b.toReal)|
      ≤ |a.toReal - b.toReal| * (2 : ℝ) ^ (1 - (P : Int)) := by
  have := Oracle_add_err hP a (neg b)
  rwa [Oracle_neg_toReal, ← sub_eq_add_neg] at this

/-- in particular a sum or difference that is exactly zero is computed as exactly zero -/
theorem Oracle_sub_self_zero {P : Nat} (hP : 0 < P) (a b : BF) (h : a.toReal = b.toReal) :
    (sub P a b).toReal = 0 := by
  have := Oracle_sub_err hP a b
  rw [h, sub_self, abs_zero, zero_mul, sub_zero] at this
  exact abs_eq_zero.1 (le_antisymm this (abs_nonneg _))

/-- the quotient of the mantissas after a left shift by `s ≥ k + bitLen b.m` bits, before
rounding: the exact quotient truncated, loss at most `2^-k` (the unit of the integer division is
`|b.m| < 2^(bitLen b.m)`, the dividend `|a.m|·2^s ≥ 2^s`) -/
theorem div_raw_spec (a b : BF) (hb : b.m ≠ 0) {k s : Nat} (hs : k + bitLen b.m.natAbs ≤ s) :
    RelTrunc (BF.mk (Int.tdiv (a.m * (2 : Int) ^ s) b.m) (a.e - b.e - Int.ofNat s)).toReal
      (a.toReal / b.toReal) ((2 : ℝ) ^ (-(k : Int))) := by
  have hbR : (b.m : ℝ) ≠ 0 := Int.cast_ne_zero.2 hb
  have t := (tdiv_relTrunc (m := a.m * (2 : Int) ^ s) hb (k := k) fun hm => by
    have ha : (1 : ℝ) ≤ |(a.m : ℝ)| := by exact_mod_cast Int.one_le_abs (left_ne_zero_of_mul hm)
    rw [Int.cast_mul, Int.cast_pow, Int.cast_ofNat, abs_mul, abs_pow, abs_two]
    calc (2 : ℝ) ^ k * |(b.m : ℝ)| ≤ (2 : ℝ) ^ k * (2 : ℝ) ^ bitLen b.m.natAbs :=
          mul_le_mul_of_nonneg_left (abs_lt_of_bitLen le_rfl).le (by positivity)
      _ = (2 : ℝ) ^ (k + bitLen b.m.natAbs) := (pow_add _ _ _).symm
      _ ≤ (2 : ℝ) ^ s := pow_le_pow_right₀ one_le_two hs
      _ ≤ |(a.m : ℝ)| * (2 : ℝ) ^ s := le_mul_of_one_le_left (by positivity) ha).mul_right
    ((2 : ℝ) ^ (a.e - b.e - (s : Int)) / (b.m : ℝ))
  refine t.of_eq ?_ ?_
  · rw [toReal_mk, Int.ofNat_eq_natCast, mul_assoc, mul_div_cancel₀ _ hbR]
  · rw [BF.toReal, BF.toReal, zpow_sub₀ two_ne_zero, zpow_sub₀ two_ne_zero, zpow_natCast]
    push_cast; field_simp

theorem div_spec {P : Nat} (hP : 0 < P) (a b : BF) (hb : b.m ≠ 0) :
    RelTrunc (div P a b).toReal (a.toReal / b.toReal) ((2 : ℝ) ^ (2 - (P : Int))) := by
  unfold div
  rw [if_neg hb]
  exact norm_of_trunc hP (j := P + 8) (by omega) (div_raw_spec a b hb le_rfl)

/-- the quotient (formed with `P + 8` guard bits by integer division toward zero, then
truncated to `P` bits) has relative error at most `2^(2-P)` -/
theorem Oracle_div_err {P : Nat} (hP : 0 < P) (a b : BF) (hb : b.m ≠ 0) :
    |(div P a b).toReal - a.toReal / b.toReal|
      ≤ |a.toReal / b.toReal| * (2 : ℝ) ^ (2 - (P : Int)) := (div_spec hP a b hb).err

/-- and it is a truncation: never larger in magnitude than the exact quotient -/
theorem Oracle_div_abs_le {P : Nat} (hP : 0 < P) (a b : BF) (hb : b.m ≠ 0) :
    |(div P a b).toReal| ≤ |a.toReal / b.toReal| := (div_spec hP a b hb).abs_le

/-- documented totalisation: division by zero gives 0 in the model (Python raises
`ZeroDivisionError`; the harness never compares such a case) -/
theorem Oracle_div_zero (P : Nat) (a b : BF) (h : b.m = 0) : div P a b = ⟨0, 0⟩ :=
  if_pos h

/-- the integer root of the mantissa shifted left by `s` bits onto an even exponent and at least
`2k+1` bits, before rounding: the exact root truncated, loss at most `2^-k`
(`√N - 1 < Nat.sqrt N ≤ √N` and `√N ≥ 2^k`) -/
theorem sqrt_raw_spec (a : BF) (h : 0 < a.m) {k s : Nat}
    (heven : (a.e - (s : Int)) % 2 = 0) (hge : 2 * k + 1 ≤ bitLen a.m.natAbs + s) :
    RelTrunc (BF.mk (Int.ofNat (Nat.sqrt (a.m.natAbs <<< s))) ((a.e - Int.ofNat s) / 2)).toReal
      (Real.sqrt a.toReal) ((2 : ℝ) ^ (-(k : Int))) := by
  set N := a.m.natAbs <<< s with hN
  have hlow : ((2 : ℝ) ^ k) ^ 2 ≤ (N : ℝ) := by
    have := Nat.mul_le_mul_right (2 ^ s) (Oracle_bitLen_spec (Int.natAbs_pos.2 h.ne')).1
    rw [← pow_add, ← Nat.shiftLeft_eq] at this
    rw [← pow_mul]
    exact_mod_cast (Nat.pow_le_pow_right two_pos (by omega)).trans this
  have t := (RelTrunc.of_sub_le (k := k) one_pos (Real.nat_sqrt_le_real_sqrt (a := N))
    (by linarith [Real.real_sqrt_le_nat_sqrt_succ (a := N)])
    (by rw [mul_one]; exact Real.le_sqrt_of_sq_le hlow)).mul_right
    ((2 : ℝ) ^ ((a.e - Int.ofNat s) / 2))
  refine t.of_eq ?_ ?_
  · rw [toReal_mk, Int.ofNat_eq_natCast, Int.cast_natCast]
  · -- `a = N · (2^j)²` with `2j = a.e - s`
    rw [← Real.sqrt_sq (two_zpow_pos ((a.e - Int.ofNat s) / 2)).le,
      ← Real.sqrt_mul (Nat.cast_nonneg N), ← zpow_natCast, ← zpow_mul, hN, Nat.shiftLeft_eq,
      BF.toReal]
    congr 1
    have hm : (a.m : ℝ) = (a.m.natAbs : ℝ) := by rw [Nat.cast_natAbs, abs_of_pos h]
    have he : a.e = (s : Int) + (a.e - Int.ofNat s) / 2 * (2 : Nat) := by
      rw [Int.ofNat_eq_natCast]; omega
    conv_lhs => rw [hm, he, two_zpow_add, zpow_natCast]
    push_cast; ring

/-- `sqrt` shifts one bit further when that makes the exponent even -/
theorem evenShift (e : Int) (s0 : Nat) :
    (e - ((if (e - Int.ofNat s0) % 2 = 0 then s0 else s0 + 1 : Nat) : Int)) % 2 = 0 := by
  split_ifs with h
  · exact h
  · rw [Int.ofNat_eq_natCast] at h; push_cast; omega

theorem sqrt_spec {P : Nat} (hP : 0 < P) (a : BF) (h : 0 < a.m) :
    RelTrunc (sqrt P a).toReal (Real.sqrt a.toReal) ((2 : ℝ) ^ (2 - (P : Int))) := by
  unfold sqrt
  rw [if_neg (not_le.2 h)]
  refine norm_of_trunc hP (j := P + 1) (by omega) (sqrt_raw_spec a h (evenShift _ _) ?_)
  split_ifs <;> omega

/-- the square root (integer square root of the mantissa shifted to at least `2P+4` bits on an
even exponent, then truncated to `P` bits) has relative error at most `2^(2-P)` -/
theorem Oracle_sqrt_err {P : Nat} (hP : 0 < P) (a : BF) (h : 0 < a.m) :
    |(sqrt P a).toReal - Real.sqrt a.toReal|
      ≤ Real.sqrt a.toReal * (2 : ℝ) ^ (2 - (P : Int)) := by
  have := (sqrt_spec hP a h).err
  rwa [abs_of_nonneg (Real.sqrt_nonneg _)] at this

/-- and it is a truncation: `0 ≤ sqrt P a ≤ √a` -/
theorem Oracle_sqrt_le {P : Nat} (hP : 0 < P) (a : BF) (h : 0 < a.m) :
    0 ≤ (sqrt P a).toReal ∧ (sqrt P a).toReal ≤ Real.sqrt a.toReal := by
  have hs := sqrt_spec hP a h
  refine ⟨hs.nonneg (Real.sqrt_nonneg _), ?_⟩
  have := hs.abs_le
  rw [abs_of_nonneg (Real.sqrt_nonneg _)] at this
  exact (le_abs_self _).trans this

/-- documented totalisation: the root of a non-positive number is 0 in the model -/
theorem Oracle_sqrt_nonpos (P : Nat) (a : BF) (h : a.m ≤ 0) : sqrt P a = ⟨0, 0⟩ :=
  if_pos h

example : mul 8 ⟨3, 0⟩ ⟨5, 1⟩ = ⟨15, 1⟩ := by rfl
/-- 1 < 1.5 -/
example : lt ⟨1, 0⟩ ⟨3, -1⟩ = true := by rfl
example : lt ⟨3, -1⟩ ⟨1, 0⟩ = false := by rfl
/-- −1.5 < −1 -/
example : lt ⟨-3, -1⟩ ⟨-1, 0⟩ = true := by rfl
/-- 1000 = 1111101000₂ truncated to 4 bits is 1111₂ · 2^6 = 960 -/
example : norm 4 ⟨1000, 0⟩ = ⟨15, 6⟩ := by rfl
example : norm 4 ⟨-1000, 0⟩ = ⟨-15, 6⟩ := by rfl
example : bitLen 1000 = 10 := by rfl
/-- 1 + 2^-3 at 8 bits is exact: 9 · 2^-3 -/
example : add 8 ⟨1, 0⟩ ⟨1, -3⟩ = ⟨9, -3⟩ := by rfl
/-- the shortcut: 1 + 2^-200 at 8 bits returns 1 -/
example : add 8 ⟨1, 0⟩ ⟨1, -200⟩ = ⟨1, 0⟩ := by rfl
/-- floor(−1.5) = −2, floor(1.5) = 1 -/
example : floor ⟨-3, -1⟩ = -2 := by rfl
example : floor ⟨3, -1⟩ = 1 := by rfl
/-- 1/3 at 4 bits: 0.0101010101…₂ truncated to 1010₂ · 2^-5 = 0.3125 -/
example : div 4 ⟨1, 0⟩ ⟨3, 0⟩ = ⟨10, -5⟩ := by rfl
example : div 4 ⟨1, 0⟩ ⟨0, 7⟩ = ⟨0, 0⟩ := by rfl
/-- √2 at 4 bits: 1.011₂ = 1.375 -/
example : (sqrt 4 ⟨2, 0⟩).m = 11 ∧ (sqrt 4 ⟨2, 0⟩).e = -3 := by decide +kernel
example : sqrt 4 ⟨-2, 0⟩ = ⟨0, 0⟩ := by rfl

/-- the hypotheses of the error theorems are satisfiable and the bounds are not trivial:
`1/3` at 4 bits is `0.3125`, off by `1/48 ≤ (1/3)·2^(2-4)` -/
example : |(div 4 ⟨1, 0⟩ ⟨3, 0⟩).toReal - (1 : ℝ) / 3| ≤ |(1 : ℝ) / 3| * (2 : ℝ) ^ (2 - ((4 : Nat) : Int)) := by
  have := Oracle_div_err (P := 4) (by norm_num) ⟨1, 0⟩ ⟨3, 0⟩ (by decide)
  rwa [toReal_mk 1, toReal_mk 3, zpow_zero, mul_one, mul_one, Int.cast_one, Int.cast_ofNat] at this

end

end OS.HP
