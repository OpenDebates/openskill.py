import OSProofs.LeagueLemmas
import OSProofs.Props.C20b
/-!
# C20 (rebuild clause) for a concrete league

`OSModel/League.lean` models a league: a store `player ↦ (mu, sigma)`, games given by player
numbers, `playGame` = load the participants' ratings from the store, `rate`, write the results
back.  This file shows that **rebuilding the players from their stored (mu, sigma) before every
game changes no number, ever**: a league in which every game is rated on fresh objects carrying
other ids (and the results are written back by position) goes through exactly the same stores
as the original league.

Generic over the scalar type `[Scalar α]` — no real numbers, so every equality below holds
bit-for-bit for the `Float` instance the driver runs.  No hypothesis on the comparator `le`,
on `neg`, on the parameters or on the ids chosen for the rebuilt objects (they need not be
injective, and may change from game to game).  The gamma callback must not read the `id` fields of the
players it is handed (`GammaIdInv P.gamma`; `Gamma_tagged_players` for every tagged member,
`gam_teamSigma_idInv` for the team-reading callback, `gam_fn_idInv_of_values` for any callback that
reads the players through their (mu, sigma)).
-/
namespace OS
open Scalar
variable {α ρ : Type} [Scalar α]

/-! ### one game -/

/-- **`playGame` depends on the loaded objects only through their numbers and the player numbers
    used to write back.**  Any team list with the values of the loaded one and the game's player
    numbers as ids *is* the loaded one, so rating it and writing back by id is `playGame`. -/
theorem C20_playGame_of_values_ids (L : Leaves α) (P : Params α) (le : ρ → ρ → Bool) (neg : ρ → ρ)
    (s : Store α) (g : LeagueGame α ρ) (ts' : List (List (Rating α)))
    (hv : valuesOf ts' = valuesOf (loadTeams s g)) (hi : idsOf ts' = g.teams) :
    storeBack s (rate g.kind L P le neg ts' g.outcome g.opts) = playGame L P le neg s g := by
  rw [game_ext ts' (loadTeams s g) (by rw [hi, lg_idsOf_loadTeams]) hv]
  rfl

/-- **Rebuilt objects get identical numbers from `rate`**: rating the loaded teams under any
    other ids `ι (player)` returns the same (mu, sigma) in every slot. -/
theorem C20_rate_load_reid (ι : Nat → Nat) (L : Leaves α) (P : Params α) (hg : GammaIdInv P.gamma) (le : ρ → ρ → Bool)
    (neg : ρ → ρ) (s : Store α) (g : LeagueGame α ρ) :
    valuesOf (rate g.kind L P le neg (reid ι (loadTeams s g)) g.outcome g.opts)
      = valuesOf (rate g.kind L P le neg (loadTeams s g) g.outcome g.opts) :=
  C20_rate_values ι g.kind L P hg le neg (loadTeams s g) g.outcome g.opts

/-- **Writing back by position is writing back by id** when the game is rated on the loaded
    objects and the outcome has one entry per team (the ids of the result are the loaded ids, C02).
    Distinctness of the players is not needed. -/
theorem C20_playGamePos_eq_playGame (L : Leaves α) (P : Params α) (le : ρ → ρ → Bool)
    (neg : ρ → ρ) (s : Store α) (g : LeagueGame α ρ) (hf : g.outcome.fits g.teams.length) :
    playGamePos L P le neg s g (loadTeams s g) = playGame L P le neg s g := by
  have h := storeBackPos_eq_storeBack s (rate g.kind L P le neg (loadTeams s g) g.outcome g.opts)
  rw [lg_idsOf_rate_load L P le neg s g hf] at h
  exact h

/-- **A game rated on any objects with the stored numbers** (same nesting; ids arbitrary, shared
    or not) and written back by position gives the store of the game rated on the loaded objects.
    No hypothesis on the game. -/
theorem C20_playGamePos_rebuilt (L : Leaves α) (P : Params α) (hg : GammaIdInv P.gamma) (le : ρ → ρ → Bool) (neg : ρ → ρ)
    (s : Store α) (g : LeagueGame α ρ) (ts' : List (List (Rating α)))
    (hv : valuesOf ts' = valuesOf (loadTeams s g)) :
    playGamePos L P le neg s g ts' = playGamePos L P le neg s g (loadTeams s g) := by
  have h := C20_rate_values_of_eq g.kind L P hg le neg ts' (loadTeams s g) g.outcome g.opts hv
  simp only [valuesOf] at h
  simp only [playGamePos, h]

theorem C20_playGamePos_reid (ι : Nat → Nat) (L : Leaves α) (P : Params α) (hg : GammaIdInv P.gamma) (le : ρ → ρ → Bool)
    (neg : ρ → ρ) (s : Store α) (g : LeagueGame α ρ) :
    playGamePos L P le neg s g (reid ι (loadTeams s g))
      = playGamePos L P le neg s g (loadTeams s g) :=
  C20_playGamePos_rebuilt L P hg le neg s g _ (valuesOf_reid ι _)

/-- one game on rebuilt copies, written back by position, is `playGame` -/
theorem C20_playGame_rebuild (ι : Nat → Nat) (L : Leaves α) (P : Params α) (hg : GammaIdInv P.gamma) (le : ρ → ρ → Bool)
    (neg : ρ → ρ) (s : Store α) (g : LeagueGame α ρ) (hf : g.outcome.fits g.teams.length) :
    playGamePos L P le neg s g (reid ι (loadTeams s g)) = playGame L P le neg s g := by
  rw [C20_playGamePos_reid ι L P hg, C20_playGamePos_eq_playGame L P le neg s g hf]

/-! ### a history -/

/-- **General form.**  Let game number `k` of the history be rated on the objects
    `build k s g` — anything that has the numbers stored in `s` for the players of `g`, in the
    nesting of `g` — and written back by position.  If every outcome has one entry per team, the
    final store is the one of the original league.  (Apply it to `gs.take k` for the store after
    `k` games.) -/
theorem C20_league_rebuild_general (L : Leaves α) (P : Params α) (hg : GammaIdInv P.gamma) (le : ρ → ρ → Bool) (neg : ρ → ρ)
    (build : Nat → Store α → LeagueGame α ρ → List (List (Rating α)))
    (s : Store α) (gs : List (LeagueGame α ρ))
    (hb : ∀ k (hk : k < gs.length) (s' : Store α),
      valuesOf (build k s' gs[k]) = valuesOf (loadTeams s' gs[k]))
    (hf : ∀ g ∈ gs, g.outcome.fits g.teams.length) :
    playLeagueWith L P le neg build s gs = playLeague L P le neg s gs := by
  have hstep : ∀ s' : Store α, ∀ gk ∈ gs.zipIdx,
      playGamePos L P le neg s' gk.1 (build gk.2 s' gk.1) = playGame L P le neg s' gk.1 := by
    rintro s' ⟨g, k⟩ hm
    obtain ⟨hk, rfl⟩ := List.getElem?_eq_some_iff.1 (List.mk_mem_zipIdx_iff_getElem?.1 hm)
    rw [C20_playGamePos_rebuilt L P hg le neg s' gs[k] _ (hb k hk s'),
      C20_playGamePos_eq_playGame L P le neg s' gs[k] (hf _ (List.getElem_mem hk))]
  unfold playLeagueWith playLeague
  rw [List.foldl_ext _ _ s hstep, ← List.foldl_map (f := Prod.fst), List.zipIdx_map_fst]

/-- **Rebuilding the players before every game changes nothing.**  For every history of
    well-formed games and every choice `ι k` of new ids for game number `k` (no injectivity
    needed, a different one per game allowed): the league in which every game is rated on
    rebuilt copies `reid (ι k) (loadTeams s g)` of the stored ratings, written back by position,
    ends in the same store — the same (mu, sigma) for every player, as elements of `α` — as the
    original league.  (Only the "one outcome entry per team" half of well-formedness is used.) -/
theorem C20_league_rebuild (L : Leaves α) (P : Params α) (hg : GammaIdInv P.gamma) (le : ρ → ρ → Bool) (neg : ρ → ρ)
    (ι : Nat → Nat → Nat) (s : Store α) (gs : List (LeagueGame α ρ)) (hwf : ∀ g ∈ gs, g.WF) :
    playLeagueWith L P le neg (fun k s g => reid (ι k) (loadTeams s g)) s gs
      = playLeague L P le neg s gs :=
  C20_league_rebuild_general L P hg le neg _ s gs (fun k _ _ => valuesOf_reid (ι k) _)
    (fun g hg => (hwf g hg).2)

theorem C20_league_rebuild_prefix (L : Leaves α) (P : Params α) (hg : GammaIdInv P.gamma) (le : ρ → ρ → Bool) (neg : ρ → ρ)
    (ι : Nat → Nat → Nat) (s : Store α) (gs : List (LeagueGame α ρ)) (hwf : ∀ g ∈ gs, g.WF) (k : Nat) :
    playLeagueWith L P le neg (fun k s g => reid (ι k) (loadTeams s g)) s (gs.take k)
      = playLeague L P le neg s (gs.take k) :=
  C20_league_rebuild L P hg le neg ι s (gs.take k) (fun g hg => hwf g (List.mem_of_mem_take hg))

/-- **Fresh ids slot by slot** (not even a function of the player): game number `k` is rated on
    `setIds (fresh k) (loadTeams s g)`, `fresh k` any nested list of ids in the nesting of the
    game. -/
theorem C20_league_rebuild_fresh (L : Leaves α) (P : Params α) (hg : GammaIdInv P.gamma) (le : ρ → ρ → Bool) (neg : ρ → ρ)
    (fresh : Nat → List (List Nat)) (s : Store α) (gs : List (LeagueGame α ρ))
    (hsh : ∀ k (hk : k < gs.length), shapeOf (fresh k) = shapeOf gs[k].teams)
    (hf : ∀ g ∈ gs, g.outcome.fits g.teams.length) :
    playLeagueWith L P le neg (fun k s g => setIds (fresh k) (loadTeams s g)) s gs
      = playLeague L P le neg s gs := by
  apply C20_league_rebuild_general L P hg le neg _ s gs _ hf
  intro k hk s'
  apply setIds_values
  rw [hsh k hk, ← lg_idsOf_loadTeams s' gs[k], shapeOf_idsOf]

/-! ### the hypotheses are satisfiable -/

/-- a three-player, two-game history of well-formed games: a 2-vs-1 game with ranks, then a
    free-for-all with scores and a per-call tau -/
example (t : α) :
    ∀ g ∈ ([⟨.PL, [[0, 1], [2]], .ranks [1, 2], ⟨none, none⟩⟩,
            ⟨.TMF, [[2], [0], [1]], .scores [3, 1, 2], ⟨some t, some true⟩⟩] : List (LeagueGame α Nat)),
      g.WF := by
  intro g hg
  simp only [List.mem_cons, List.not_mem_nil, or_false] at hg
  rcases hg with rfl | rfl <;> exact ⟨by dsimp only; decide, by dsimp only; decide⟩

/-- well-formedness is decidable; a game literal over `Float` is checked by evaluation -/
example : (⟨.BTF, [[0, 1], [2]], .omitted, ⟨none, none⟩⟩ : LeagueGame Float Nat).WF := by decide

/-- a player twice in a game, or an outcome of the wrong length, is not well-formed -/
example : ¬ (⟨.BTF, [[0, 1], [0]], .omitted, ⟨none, none⟩⟩ : LeagueGame Float Nat).WF := by decide
example : ¬ (⟨.BTF, [[0, 1], [2]], .ranks [1], ⟨none, none⟩⟩ : LeagueGame Float Nat).WF := by decide

/-- `C20_league_rebuild` instantiated: that history, ids shifted by `100·(k+1)` before game `k` -/
example (L : Leaves α) (P : Params α) (hg : GammaIdInv P.gamma) (s : Store α) (t : α) :
    playLeagueWith L P leNat id (fun k s g => reid (fun p => p + 100 * (k + 1)) (loadTeams s g)) s
        [⟨.PL, [[0, 1], [2]], .ranks [1, 2], ⟨none, none⟩⟩,
         ⟨.TMF, [[2], [0], [1]], .scores [3, 1, 2], ⟨some t, some true⟩⟩]
      = playLeague L P leNat id s
        [⟨.PL, [[0, 1], [2]], .ranks [1, 2], ⟨none, none⟩⟩,
         ⟨.TMF, [[2], [0], [1]], .scores [3, 1, 2], ⟨some t, some true⟩⟩] := by
  apply C20_league_rebuild L P hg leNat id (fun k p => p + 100 * (k + 1))
  intro g hg
  simp only [List.mem_cons, List.not_mem_nil, or_false] at hg
  rcases hg with rfl | rfl <;> exact ⟨by dsimp only; decide, by dsimp only; decide⟩

end OS
