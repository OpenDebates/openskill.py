import OSProofs.C20Lemmas
import OSProofs.GammaLemmas
/-!
# C20 (last clause) / C14 — `rate` reads a rating only through its (mu, sigma)

Rebuilding every player from the stored (mu, sigma) — fresh objects with other ids, names or
object identities — changes no number that `rate` returns: `rate` commutes with every
replacement of ids (`reid f`), for each of the five models, every gamma callback whose value does not
depend on the `id` fields of the players it is handed (`GammaIdInv`: every tagged member, the
team-reading callback `gammaTeamSigma`, any callback that reads the players through their
(mu, sigma)), every outcome form (omitted, ranks, scores), every `tau` / `limit_sigma` option and
**every** comparator and rank list (no length or order hypothesis).  Generic over the scalar type, so the statement holds bit-for-bit at `Float`.
-/
namespace OS
open Scalar
variable {α ρ : Type} [Scalar α]

/-- The (omega, delta) of every team, for each of the five models, is computed from the team
    aggregates' `mu`, `sig2` and `rank` only — never from the players they carry. -/
theorem omegaDelta_reid (f : Nat → Nat) (K : Kind) (L : Leaves α) (P : Params α)
    (hg : GammaIdInv P.gamma) (ts : List (TeamAgg α)) :
    omegaDelta K L P (ts.map (reidAgg f)) = omegaDelta K L P ts :=
  omegaDelta_congr K L P P rfl rfl (reidAgg f) (fun _ => rfl) (fun _ => rfl) (fun _ => rfl) ts
    (fun _ _ c => hg f c _ _ _ _ _)

/-- `_compute` (any model) commutes with replacing the ids: same numbers, the new ids in the
    same slots. -/
theorem compute_reid (f : Nat → Nat) (K : Kind) (L : Leaves α) (P : Params α)
    (hg : GammaIdInv P.gamma) (teams : List (List (Rating α))) (dense : List Nat) :
    compute K L P (reid f teams) dense = reid f (compute K L P teams dense) :=
  compute_map K L P P (reidP f) (reidAgg f) id teams dense (fun tr _ => teamAgg_reidT f tr.1 tr.2)
    ((omegaDelta_reid f K L P hg _).trans (List.map_id _).symm)
    (fun t od => applyTeam_reidAgg f P.kappa t od.1 od.2)

theorem inflate_reid (f : Nat → Nat) (tau : α) (teams : List (List (Rating α))) :
    inflate tau (reid f teams) = reid f (inflate tau teams) := by
  simp only [inflate, reid, List.map_map, Function.comp_def]

theorem clampTeams_reid (f : Nat → Nat) (orig res : List (List (Rating α))) :
    clampTeams (reid f orig) (reid f res) = reid f (clampTeams orig res) :=
  clampTeams_map (reidP f) (fun _ _ => Iff.rfl) (fun _ _ => rfl) orig res

omit [Scalar α] in
theorem unwind_reid {κ : Type} (f : Nat → Nat) (le : κ → κ → Bool) (tenet : List κ)
    (teams : List (List (Rating α))) :
    unwind le tenet (reid f teams) = (reid f (unwind le tenet teams).1, (unwind le tenet teams).2) :=
  unwind_map le tenet teams _

/-- **`rateCore` commutes with replacing the ids**, whatever the ranks (given or omitted, of any
    length, under any comparator) and whatever the per-call options. -/
theorem C20_rateCore_reid (f : Nat → Nat) (K : Kind) (L : Leaves α) (P : Params α)
    (hg : GammaIdInv P.gamma) (le : ρ → ρ → Bool) (teams : List (List (Rating α))) (ranks : Option (List ρ))
    (o : CallOpts α) :
    rateCore K L P le (reid f teams) ranks o = reid f (rateCore K L P le teams ranks o) :=
  rateCore_map K L P P o o le (reidP f) (fun _ => True) rfl (inflate_reid f _)
    (fun ts dense _ => compute_reid f K L P hg ts dense) (fun _ _ => Iff.rfl) (fun _ _ => rfl)
    teams (fun _ _ => trivial) ranks

/-- **`rate` commutes with replacing the ids**: for each model, each outcome form (omitted, ranks,
    scores) and each option, rating rebuilt players (same (mu, sigma), other ids) returns the same
    numbers in the same slots, carried by the rebuilt ids. -/
theorem C20_rate_reid (f : Nat → Nat) (K : Kind) (L : Leaves α) (P : Params α)
    (hg : GammaIdInv P.gamma) (le : ρ → ρ → Bool) (neg : ρ → ρ) (teams : List (List (Rating α))) (oc : Outcome ρ)
    (o : CallOpts α) :
    rate K L P le neg (reid f teams) oc o = reid f (rate K L P le neg teams oc o) := by
  rw [rate_eq_rateCore, rate_eq_rateCore]
  exact C20_rateCore_reid f K L P hg le teams _ o

/-- predictions read ratings only through (mu, sigma): rebuilt objects give identical predictions -/
theorem C20_predict_reid (f : Nat → Nat) (beta : α) (teams : List (List (Rating α))) :
    predictWin beta (reid f teams) = predictWin beta teams ∧
    predictDraw beta (reid f teams) = predictDraw beta teams ∧
    predictRank beta (reid f teams) = predictRank beta teams :=
  have hagg : ∀ t ∈ teams, teamAgg (t.map (reidP f)) 0 = reidAgg f (teamAgg t 0) :=
    fun t _ => teamAgg_reidT f t 0
  ⟨predictWin_map beta beta _ _ teams hagg (fun _ _ _ => rfl),
    predictDraw_map beta beta _ _ teams hagg (fun _ _ _ => ⟨rfl, rfl⟩),
    predictRank_map beta beta _ _ teams hagg (fun _ _ _ => rfl)⟩

/-- **The numbers `rate` returns are identical whatever the ids**: replacing every id changes no
    (mu, sigma) of the result, in any slot. -/
theorem C20_rate_values (f : Nat → Nat) (K : Kind) (L : Leaves α) (P : Params α)
    (hg : GammaIdInv P.gamma) (le : ρ → ρ → Bool) (neg : ρ → ρ) (teams : List (List (Rating α))) (oc : Outcome ρ)
    (o : CallOpts α) :
    valuesOf (rate K L P le neg (reid f teams) oc o) = valuesOf (rate K L P le neg teams oc o) := by
  rw [C20_rate_reid f K L P hg, valuesOf_reid]

/-- forgetting the ids (all set to 0) makes two games with the same numbers equal -/
theorem C20_rateCore_values_of_eq (K : Kind) (L : Leaves α) (P : Params α)
    (hg : GammaIdInv P.gamma) (le : ρ → ρ → Bool) (teams teams' : List (List (Rating α))) (ranks : Option (List ρ))
    (o : CallOpts α) (h : valuesOf teams = valuesOf teams') :
    valuesOf (rateCore K L P le teams ranks o) = valuesOf (rateCore K L P le teams' ranks o) := by
  have h0 : ∀ ts : List (List (Rating α)), reid (fun _ => 0) ts
      = (valuesOf ts).map (·.map fun v => { id := 0, mu := v.1, sigma := v.2 }) := fun ts => by
    simp only [valuesOf, reid, List.map_map, Function.comp_def]
  have hs : reid (fun _ => 0) teams = reid (fun _ => 0) teams' := by rw [h0, h0, h]
  have := congrArg (fun t => valuesOf (rateCore K L P le t ranks o)) hs
  simpa only [C20_rateCore_reid _ K L P hg, valuesOf_reid] using this

/-- **Two games with the same numbers in the same nesting get the same numbers back**, whatever
    their ids are (equal, distinct, shared between slots or not): `rate` is a function of the
    (mu, sigma) of the players.  In particular players rebuilt from stored (mu, sigma) — fresh
    objects — are rated exactly like the originals.  (Equality of `valuesOf` includes equality of
    the nesting.) -/
theorem C20_rate_values_of_eq (K : Kind) (L : Leaves α) (P : Params α)
    (hg : GammaIdInv P.gamma) (le : ρ → ρ → Bool) (neg : ρ → ρ) (teams teams' : List (List (Rating α))) (oc : Outcome ρ)
    (o : CallOpts α) (h : valuesOf teams = valuesOf teams') :
    valuesOf (rate K L P le neg teams oc o) = valuesOf (rate K L P le neg teams' oc o) := by
  rw [rate_eq_rateCore, rate_eq_rateCore]
  exact C20_rateCore_values_of_eq K L P hg le teams teams' _ o h

/-- **Full form, with the ids** (uses C02): if `teams'` has the numbers of `teams` (same nesting)
    under arbitrary other ids, and the outcome has one entry per team, then rating `teams'` gives
    exactly the result of rating `teams` with the ids of `teams'` written slot by slot. -/
theorem C20_rate_rebuilt (K : Kind) (L : Leaves α) (P : Params α)
    (hg : GammaIdInv P.gamma) (le : ρ → ρ → Bool) (neg : ρ → ρ) (teams teams' : List (List (Rating α))) (oc : Outcome ρ)
    (o : CallOpts α) (h : valuesOf teams = valuesOf teams') (hoc : oc.fits teams.length) :
    rate K L P le neg teams' oc o = setIds (idsOf teams') (rate K L P le neg teams oc o) := by
  have hlen : teams'.length = teams.length := by
    simpa only [valuesOf, List.length_map] using (congrArg List.length h).symm
  have hshape : shapeOf (idsOf teams') = shapeOf (rate K L P le neg teams oc o) := by
    rw [shapeOf_idsOf, ← shapeOf_valuesOf teams', ← h, shapeOf_valuesOf, ← shapeOf_idsOf teams,
      ← C02_ids_rate K L P le neg teams oc o hoc, shapeOf_idsOf]
  apply game_ext
  · rw [C02_ids_rate K L P le neg teams' oc o (hlen ▸ hoc), setIds_ids _ _ hshape]
  · rw [setIds_values _ _ hshape]
    exact (C20_rate_values_of_eq K L P hg le neg teams teams' oc o h).symm

/-- **`rate` commutes with an arbitrary slot-wise replacement of the ids** (`ids` in the nesting of
    the game, one outcome entry per team). -/
theorem C20_rate_setIds (K : Kind) (L : Leaves α) (P : Params α)
    (hg : GammaIdInv P.gamma) (le : ρ → ρ → Bool) (neg : ρ → ρ) (teams : List (List (Rating α))) (ids : List (List Nat))
    (oc : Outcome ρ) (o : CallOpts α) (hids : shapeOf ids = shapeOf teams)
    (hoc : oc.fits teams.length) :
    rate K L P le neg (setIds ids teams) oc o = setIds ids (rate K L P le neg teams oc o) := by
  have := C20_rate_rebuilt K L P hg le neg teams (setIds ids teams) oc o
    (setIds_values ids teams hids).symm hoc
  rwa [setIds_ids ids teams hids] at this

/-! the statements for the tagged family (no hypothesis on gamma: a tagged member reads no player) -/

theorem C20_rate_reid_tagged (f : Nat → Nat) (K : Kind) (L : Leaves α) (P : Params α)
    (hg : P.gamma.Tagged) (le : ρ → ρ → Bool) (neg : ρ → ρ) (teams : List (List (Rating α)))
    (oc : Outcome ρ) (o : CallOpts α) :
    rate K L P le neg (reid f teams) oc o = reid f (rate K L P le neg teams oc o) :=
  C20_rate_reid f K L P (Gamma_tagged_players _ hg).2 le neg teams oc o

theorem C20_rate_values_of_eq_tagged (K : Kind) (L : Leaves α) (P : Params α)
    (hg : P.gamma.Tagged) (le : ρ → ρ → Bool) (neg : ρ → ρ) (teams teams' : List (List (Rating α)))
    (oc : Outcome ρ) (o : CallOpts α) (h : valuesOf teams = valuesOf teams') :
    valuesOf (rate K L P le neg teams oc o) = valuesOf (rate K L P le neg teams' oc o) :=
  C20_rate_values_of_eq K L P (Gamma_tagged_players _ hg).2 le neg teams teams' oc o h

theorem C20_rate_rebuilt_tagged (K : Kind) (L : Leaves α) (P : Params α)
    (hg : P.gamma.Tagged) (le : ρ → ρ → Bool) (neg : ρ → ρ) (teams teams' : List (List (Rating α)))
    (oc : Outcome ρ) (o : CallOpts α) (h : valuesOf teams = valuesOf teams') (hoc : oc.fits teams.length) :
    rate K L P le neg teams' oc o = setIds (idsOf teams') (rate K L P le neg teams oc o) :=
  C20_rate_rebuilt K L P (Gamma_tagged_players _ hg).2 le neg teams teams' oc o h hoc

theorem C20_rate_setIds_tagged (K : Kind) (L : Leaves α) (P : Params α)
    (hg : P.gamma.Tagged) (le : ρ → ρ → Bool) (neg : ρ → ρ) (teams : List (List (Rating α)))
    (ids : List (List Nat)) (oc : Outcome ρ) (o : CallOpts α) (hids : shapeOf ids = shapeOf teams)
    (hoc : oc.fits teams.length) :
    rate K L P le neg (setIds ids teams) oc o = setIds ids (rate K L P le neg teams oc o) :=
  C20_rate_setIds K L P (Gamma_tagged_players _ hg).2 le neg teams ids oc o hids hoc

/-- the hypotheses of `C20_rate_values_of_eq` / `C20_rate_rebuilt` are met by genuinely different
    games: same numbers, other ids -/
example : valuesOf [[({ id := 1, mu := 25, sigma := 8 } : Rating Nat)], [{ id := 1, mu := 30, sigma := 7 }]]
    = valuesOf [[({ id := 5, mu := 25, sigma := 8 } : Rating Nat)], [{ id := 9, mu := 30, sigma := 7 }]] := rfl

end OS
