import OSProofs.Props.FL1
import OSProofs.MonoArithInst
import OSProofs.Props.C08
import Mathlib.Algebra.Order.BigOperators.Group.List

/-!
# FL1 — the `MonoArith` theorems instantiated at ℝ and at every rounded arithmetic `RN r`

`OSProofs/Props/FL1.lean` is abstract (it does not import the reals); this file plugs in the two proved instances
`MonoArith.real` and `MonoArith.rn r`, so that the statements are visibly usable:

* over ℝ every divisor hypothesis is discharged (`FL_divisorsPosRest_real`): `FL_C06_real_instance`,
  `FL_C05_real_instance_first/last` have hypotheses on the input only;
* over `RN r` (exact result, then an arbitrary monotone rounding `r`) Bradley–Terry needs no divisor
  hypothesis either: `FL_C06_rn_instance_BT`; for Plackett–Luce the two underflow conditions remain
  (`FL_C06_rn_instance`).
-/

noncomputable section
namespace OS
open Scalar

/-! ### ℝ: all divisor hypotheses hold -/

/-- over ℝ, positive team variances and at least one team make every computed divisor positive -/
theorem FL_divisorsPosRest_real (K : Kind) (P : Params ℝ) (ts : List (TeamAgg ℝ)) (hne : ts ≠ [])
    (hv : ∀ t ∈ ts, (0 : ℝ) < t.sig2) : DivisorsPosRest K P ts := by
  let R := MonoArith.real
  rw [← sc_zero] at hv
  -- the law `MonoArith` cannot have: over ℝ a product of positive factors is positive
  have mul_pos' : ∀ {a b : ℝ}, 𝟘 < a → 𝟘 < b → 𝟘 < a * b := sc_zero ▸ mul_pos
  have hc : ∀ ti ∈ ts, ∀ tq ∈ ts, 𝟘 < sqrt (ti.sig2 + tq.sig2 + ofNat 2 * (P.beta * P.beta)) :=
    fun ti hti tq htq => R.fl1_ciq_pos P.beta ti tq (hv ti hti) (R.orderLaws.le_of_lt (hv tq htq))
  cases K with
  | PL =>
    obtain ⟨t, ht⟩ := List.exists_mem_of_ne_nil ts hne
    have h := R.fl1_plC_pos P.beta ts (fun u hu => R.orderLaws.le_of_lt (hv u hu)) ht (hv t ht)
    exact ⟨mul_pos' h h, fun t _ => sc_zero ▸ Real.exp_pos _⟩
  | BTF => trivial
  | BTP => trivial
  | TMF => exact fun ti hti tq htq => mul_pos' R.zero_lt_one (hc ti hti tq htq)
  | TMP => exact fun ti hti tq htq => mul_pos' (R.zero_lt_ofNat (by decide)) (hc ti hti tq htq)

theorem fl1_real_infl_var_pos (tau : ℝ) (teams : List (List (Rating ℝ)))
    (hT : ∀ T ∈ teams, T ≠ []) (hs : ∀ T ∈ teams, ∀ p ∈ T, (0 : ℝ) < p.sigma) :
    ∀ T ∈ inflate tau teams, (Scalar.ofNat 0 : ℝ) < sumL (T.map (fun p => p.sigma * p.sigma)) := by
  intro T hTm
  obtain ⟨T₀, hT₀, rfl⟩ := mem_inflate hTm
  obtain ⟨p, hp⟩ := List.exists_mem_of_ne_nil T₀ (hT T₀ hT₀)
  rw [sc_zero]
  -- one player of the team has an inflated `σ > 0`
  exact C08_team_var_pos _ 0 ⟨inflPlayer tau p, List.mem_map_of_mem hp,
    (C08_inflate_pos p.sigma tau (Or.inl (hs T₀ hT₀ p hp).ne')).ne'⟩

theorem fl1_real_rateAggs_divisors {ρ : Type} (K : Kind) (P : Params ℝ) (le : ρ → ρ → Bool)
    (teams : List (List (Rating ℝ))) (ranks : Option (List ρ)) (o : CallOpts ℝ) (hne : teams ≠ [])
    (hr : ∀ r, ranks = some r → r.length = teams.length)
    (hv : ∀ T ∈ inflate (resolveTau P o) teams,
      (Scalar.ofNat 0 : ℝ) < sumL (T.map (fun p => p.sigma * p.sigma))) :
    DivisorsPosRest K P (FL_rateAggs P le teams ranks o) := by
  rw [FL_rateAggs_eq_prepared]
  apply FL_divisorsPosRest_real K P _ (prepared_ne_nil P le ranks o hne hr)
  intro t ht
  obtain ⟨S, hS, d, rfl⟩ := mem_prepared ht
  exact sc_zero ▸ hv S hS

/-- **C06 over ℝ, hypotheses on the input only.**  At least one team, no empty team, all `σ > 0`, `κ ≤ 1`,
non-negative gamma (non-negative leaves for TMF/TMP), ranks omitted or one per team: slot by slot,
`σ' ≤ √(σ·σ + τ·τ)`, `σ' ≤ σ` under limit_sigma, `0 ≤ σ'`. -/
theorem FL_C06_real_instance {ρ : Type} (K : Kind) (L : Leaves ℝ) (P : Params ℝ)
    (le : ρ → ρ → Bool) (teams : List (List (Rating ℝ))) (ranks : Option (List ρ)) (o : CallOpts ℝ)
    (hL : K = .TMF ∨ K = .TMP → LeavesNonneg L)
    (hne : teams ≠ []) (hT : ∀ T ∈ teams, T ≠ []) (hs : ∀ T ∈ teams, ∀ p ∈ T, (0 : ℝ) < p.sigma)
    (hk : P.kappa ≤ 1) (hg : GammaNonneg P.gamma)
    (hr : ∀ r, ranks = some r → r.length = teams.length) :
    List.Forall₂ (List.Forall₂ (FLSlotRate (resolveTau P o) (resolveLimit P o)))
      teams (rateCore K L P le teams ranks o) := by
  have hv := fl1_real_infl_var_pos (resolveTau P o) teams hT hs
  exact FL_C06_rateCore MonoArith.real K L P le teams ranks o hL hv (sc_one ▸ hk) hg
    (fl1_real_rateAggs_divisors K P le teams ranks o hne hr hv) hr

theorem fl1_real_teamAggs_divisors (K : Kind) (P : Params ℝ) (teams : List (List (Rating ℝ)))
    (dense : List Nat) (hv : ∀ T ∈ teams, (0 : ℝ) < sumL (T.map (fun p => p.sigma * p.sigma)))
    {i : Nat} {T : List (Rating ℝ)} {d : Nat} (hT : teams[i]? = some T) (hdi : dense[i]? = some d) :
    DivisorsPosRest K P (teamAggs teams dense) := by
  apply FL_divisorsPosRest_real
  · exact List.ne_nil_of_mem (List.mem_of_getElem? (teamAggs_getElem? teams dense i hT hdi))
  · intro t ht
    obtain ⟨S, hS, r, rfl⟩ := mem_teamAggs ht
    exact hv S hS

/-- **C05 over ℝ, sole winner**: hypotheses on the input only (positive team variances) -/
theorem FL_C05_real_instance_first (K : Kind) (L : Leaves ℝ) (P : Params ℝ)
    (teams : List (List (Rating ℝ))) (dense : List Nat)
    (hL : K = .TMF ∨ K = .TMP → LeavesNonneg L)
    (hv : ∀ T ∈ teams, (0 : ℝ) < sumL (T.map (fun p => p.sigma * p.sigma)))
    (i : Nat) (T : List (Rating ℝ)) (d : Nat) (hT : teams[i]? = some T) (hdi : dense[i]? = some d)
    (hfirst : ∀ j dj, j < teams.length → j ≠ i → dense[j]? = some dj → d < dj) :
    ∃ T', (compute K L P teams dense)[i]? = some T' ∧
      List.Forall₂ (fun p p' => p'.id = p.id ∧ p.mu ≤ p'.mu) T T' :=
  FL_C05_compute_sole_first MonoArith.real K L P teams dense hL
    (fun T hT => sc_zero ▸ hv T hT) (fl1_real_teamAggs_divisors K P teams dense hv hT hdi)
    i T d hT hdi hfirst

/-- **C05 over ℝ, sole loser** -/
theorem FL_C05_real_instance_last (K : Kind) (L : Leaves ℝ) (P : Params ℝ)
    (teams : List (List (Rating ℝ))) (dense : List Nat)
    (hL : K = .TMF ∨ K = .TMP → LeavesNonneg L)
    (hv : ∀ T ∈ teams, (0 : ℝ) < sumL (T.map (fun p => p.sigma * p.sigma)))
    (i : Nat) (T : List (Rating ℝ)) (d : Nat) (hT : teams[i]? = some T) (hdi : dense[i]? = some d)
    (hlast : ∀ j dj, j < teams.length → j ≠ i → dense[j]? = some dj → dj < d) :
    ∃ T', (compute K L P teams dense)[i]? = some T' ∧
      List.Forall₂ (fun p p' => p'.id = p.id ∧ p'.mu ≤ p.mu) T T' :=
  FL_C05_compute_sole_last MonoArith.real K L P teams dense hL
    (fun T hT => sc_zero ▸ hv T hT) (fl1_real_teamAggs_divisors K P teams dense hv hT hdi)
    i T d hT hdi hlast

/-! ### `RN r`: exact result, then an arbitrary monotone rounding -/

/-- **C06 in every rounded arithmetic.**  `FL_C06_rateCore` at `MonoArith.rn r`: the statement is about
the *rounded* numbers. -/
theorem FL_C06_rn_instance (r : Rounding) {ρ : Type} (K : Kind) (L : Leaves (RN r))
    (P : Params (RN r)) (le : ρ → ρ → Bool) (teams : List (List (Rating (RN r))))
    (ranks : Option (List ρ)) (o : CallOpts (RN r))
    (hL : K = .TMF ∨ K = .TMP → LeavesNonneg L)
    (hv : ∀ T ∈ inflate (resolveTau P o) teams,
      Scalar.ofNat 0 < sumL (T.map (fun p => p.sigma * p.sigma)))
    (hk : P.kappa ≤ Scalar.ofNat 1) (hg : GammaNonneg P.gamma)
    (hd : DivisorsPosRest K P (FL_rateAggs P le teams ranks o))
    (hr : ∀ r', ranks = some r' → r'.length = teams.length) :
    List.Forall₂ (List.Forall₂ (FLSlotRate (resolveTau P o) (resolveLimit P o)))
      teams (rateCore K L P le teams ranks o) :=
  FL_C06_rateCore (MonoArith.rn r) K L P le teams ranks o hL hv hk hg hd hr

/-- **C06 in every rounded arithmetic, Bradley–Terry**: besides `κ ≤ 1` and a non-negative gamma the only
hypothesis is that the (rounded) variances of the inflated teams are `> 0`; with the library's default
gamma nothing about gamma is left either. -/
theorem FL_C06_rn_instance_BT (r : Rounding) {ρ : Type} (L : Leaves (RN r))
    (beta kappa tau : RN r) (lim : Bool) (le : ρ → ρ → Bool)
    (teams : List (List (Rating (RN r)))) (ranks : Option (List ρ)) (o : CallOpts (RN r))
    (hv : ∀ T ∈ inflate (resolveTau ⟨beta, kappa, tau, lim, .dflt⟩ o) teams,
      Scalar.ofNat 0 < sumL (T.map (fun p => p.sigma * p.sigma)))
    (hk : kappa ≤ Scalar.ofNat 1)
    (hr : ∀ r', ranks = some r' → r'.length = teams.length) :
    List.Forall₂ (List.Forall₂ (FLSlotRate (resolveTau ⟨beta, kappa, tau, lim, .dflt⟩ o)
        (resolveLimit ⟨beta, kappa, tau, lim, .dflt⟩ o)))
      teams (rateCore .BTF L ⟨beta, kappa, tau, lim, .dflt⟩ le teams ranks o) :=
  FL_C06_rateCore (MonoArith.rn r) .BTF L _ le teams ranks o nofun hv hk
    ((MonoArith.rn r).fl1_gammaNonneg_of_tag _ nofun nofun nofun) trivial hr

/-- C05 in every rounded arithmetic: a sole winner's members never lose mu (Bradley–Terry, partial pairing) -/
example (r : Rounding) (L : Leaves (RN r)) (P : Params (RN r))
    (teams : List (List (Rating (RN r)))) (dense : List Nat)
    (hv : ∀ T ∈ teams, Scalar.ofNat 0 < sumL (T.map (fun p => p.sigma * p.sigma)))
    (i : Nat) (T : List (Rating (RN r))) (d : Nat) (hT : teams[i]? = some T)
    (hdi : dense[i]? = some d)
    (hfirst : ∀ j dj, j < teams.length → j ≠ i → dense[j]? = some dj → d < dj) :
    ∃ T', (compute .BTP L P teams dense)[i]? = some T' ∧
      List.Forall₂ (fun p p' => p'.id = p.id ∧ p.mu ≤ p'.mu) T T' :=
  FL_C05_compute_sole_first (MonoArith.rn r) .BTP L P teams dense nofun hv trivial i T d hT hdi
    hfirst

/-- C05 in the lossy arithmetic `truncRounding 10`, Plackett–Luce, sole loser -/
example (L : Leaves (RN (truncRounding 10))) (P : Params (RN (truncRounding 10)))
    (teams : List (List (Rating (RN (truncRounding 10))))) (dense : List Nat)
    (hv : ∀ T ∈ teams, Scalar.ofNat 0 < sumL (T.map (fun p => p.sigma * p.sigma)))
    (hd : DivisorsPosRest .PL P (teamAggs teams dense))
    (i : Nat) (T : List (Rating (RN (truncRounding 10)))) (d : Nat) (hT : teams[i]? = some T)
    (hdi : dense[i]? = some d)
    (hlast : ∀ j dj, j < teams.length → j ≠ i → dense[j]? = some dj → dj < d) :
    ∃ T', (compute .PL L P teams dense)[i]? = some T' ∧
      List.Forall₂ (fun p p' => p'.id = p.id ∧ p'.mu ≤ p.mu) T T' :=
  FL_C05_compute_sole_last (MonoArith.rn _) .PL L P teams dense nofun hv hd i T d hT hdi hlast

/-- why `GammaNonneg` restricts `c` to `c > 0`: the unrestricted "`0 ≤ gamma` for all `c`" is false for the
library's default callback `√σ² / c` (take `c = -1`, `σ² = 1`) -/
example : ¬ ∀ (c : ℝ) (k : Nat) (mu s2 : ℝ) (rank : Nat),
    (Scalar.ofNat 0 : ℝ) ≤ gammaVal GammaFn.dflt c k mu s2 [] rank := by
  intro h
  have := h (-1) 0 0 1 0
  simp only [gammaVal, sc_sqrt, Real.sqrt_one, sc_zero] at this
  norm_num at this

/-- the hypotheses of `FL_C06_real_instance` are satisfiable: two one-player teams, library defaults -/
example (L : Leaves ℝ) (o : CallOpts ℝ) :
    List.Forall₂ (List.Forall₂ (FLSlotRate
        (resolveTau ⟨25 / 6, 1 / 10000, 25 / 300, false, .dflt⟩ o)
        (resolveLimit ⟨25 / 6, 1 / 10000, 25 / 300, false, .dflt⟩ o)))
      [[⟨0, 25, 25 / 3⟩], [⟨1, 25, 25 / 3⟩]]
      (rateCore .PL L ⟨25 / 6, 1 / 10000, 25 / 300, false, .dflt⟩ leNat
        [[⟨0, 25, 25 / 3⟩], [⟨1, 25, 25 / 3⟩]] (some [1, 2]) o) := by
  apply FL_C06_real_instance .PL L _ leNat _ _ o nofun (by simp)
  · intro T hT; simp at hT; rcases hT with rfl | rfl <;> simp
  · intro T hT p hp; simp at hT; rcases hT with rfl | rfl <;> simp at hp <;> subst hp <;> norm_num
  · norm_num
  · exact MonoArith.real.fl1_gammaNonneg_of_tag _ nofun nofun nofun
  · intro r h; cases h; rfl

end OS
end
