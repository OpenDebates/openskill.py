import OSProofs.LeafCode
import OSProofs.LeafFacts
/-!
# C17 — the four Gaussian correction functions `v, w, vt, wt` of the Thurstone–Mosteller models

All statements are about the code's functions (`vCode`, `wCode`, `vtCode`, `wtCode` of
`OSModel/Leaf.lean`, with their guards `Φ(x−t) < 2⁻⁵²`, `b < 1e-5`, `b < 2⁻⁵²`) read over ℝ with
the exact normal density `Gauss.phi` and distribution function `Gauss.Phi`.  They cover the branch
logic and the ranges; the accuracy of libm and float rounding is outside any theorem over ℝ
(checked against the `HiPrec` oracle by the harness).

On the exact branches the code computes the paper's formulas (`C17_v_exact_branch` …
`C17_wt_exact_branch`, in `OSProofs/LeafCode.lean`); every range fact below is a case split on the
guard: by inspection on the guard branch, by the fact about the paper's function off it.

Gaussian facts used: G5 `Gauss.mills`, G6 `Gauss.trunc_mean_mem`, G8a `Gauss.Wt_mul_Z_nonneg`,
G8b `Gauss.Wt_mul_Z_le` (truncated variance ≥ 0), G8c `Gauss.sampford` for the ranges; G8d `Gauss.Wt_mul_Z_ge`,
G9 `Gauss.Phi_neg_eight_gt`, `Gauss.sampford_lower`, `Gauss.mills_ratio_add_lt` for the errors on the guard
branches — all proved, no hypothesis left open.
-/

noncomputable section
namespace OS
open Gauss

/-- G9: the guard `Φ(x−t) < 2⁻⁵²` only fires for `x − t < −8` (because `Φ(−8) > 6·10⁻¹⁶ > 2⁻⁵²`) -/
theorem C17_asymptote_below_minus_8 {x t : ℝ} (h : Phi (x - t) < epsF) : x - t < -8 := by
  have he : (epsF : ℝ) < 6 / 10 ^ 16 := by rw [epsF_eq]; norm_num
  exact Phi_strictMono.lt_iff_lt.1 (h.trans (he.trans Phi_neg_eight_gt))

/-- the asymptotic branch of `v` and `w` (guard `Φ(x−t) < 2⁻⁵²`) is only taken for `x − t < 0`,
where the asymptote `−(x−t)` is positive -/
theorem C17_asymptote_only_negative {x t : ℝ} (h : Phi (x - t) < epsF) : x - t < 0 :=
  (C17_asymptote_below_minus_8 h).trans (by norm_num)

/-- the guard can fire (the previous theorem is not vacuous) -/
example : ∃ u : ℝ, Phi u < epsF :=
  (Phi_tendsto_atBot.eventually (gt_mem_nhds epsF_pos)).exists

/-- `v ≥ 0` on both branches -/
theorem C17_v_nonneg (x t : ℝ) : 0 ≤ vCode x t := by
  by_cases h : Phi (x - t) < epsF
  · rw [vCode_asym h]; exact (neg_pos.2 (C17_asymptote_only_negative h)).le
  · rw [C17_v_exact_branch h]; exact (mills_ratio_pos (x - t)).le

/-- Mills-type lower bound on both branches: `v(x,t) ≥ t − x` -/
theorem C17_v_ge_mills (x t : ℝ) : t - x ≤ vCode x t := by
  by_cases h : Phi (x - t) < epsF
  · rw [vCode_asym h, neg_sub]
  · rw [C17_v_exact_branch h]; exact (vExact_gt x t).le

/-- `v(x,t) ≤ |x − t| + 1` on both branches.  Exact branch: were `V > |u| + 1` then
`V > 1` and `V + u > 1`, against Sampford's inequality `V(V+u) < 1` -/
theorem vCode_le_abs_sub_add_one (x t : ℝ) : vCode x t ≤ |x - t| + 1 := by
  by_cases h : Phi (x - t) < epsF
  · rw [vCode_asym h]
    exact (neg_le_abs (x - t)).trans (le_add_of_nonneg_right zero_le_one)
  · rw [C17_v_exact_branch h]
    by_contra hc
    have hV : |x - t| + 1 < vExact x t := not_le.mp hc
    have h1 : 1 < vExact x t := (le_add_of_nonneg_left (abs_nonneg _)).trans_lt hV
    have h2 : 1 < vExact x t + (x - t) := by
      have := neg_abs_le (x - t)
      linarith
    exact absurd (wExact_lt_one x t) (not_lt.mpr (one_lt_mul_of_lt_of_le h1 h2.le).le)

/-- `0 ≤ w ≤ 1` on both branches; the upper bound on the exact branch is Sampford's inequality
`V(u)(V(u)+u) < 1` (`Gauss.sampford`, proved) -/
theorem C17_w_range (x t : ℝ) : 0 ≤ wCode x t ∧ wCode x t ≤ 1 := by
  by_cases h : Phi (x - t) < epsF
  · by_cases hx : x < 0
    · rw [wCode_asym_neg h hx]; exact ⟨zero_le_one, le_rfl⟩
    · rw [wCode_asym_nonneg h hx]; exact ⟨le_rfl, zero_le_one⟩
  · rw [C17_w_exact_branch h]; exact ⟨(wExact_pos x t).le, (wExact_lt_one x t).le⟩

theorem C17_w_nonneg (x t : ℝ) : 0 ≤ wCode x t := (C17_w_range x t).1

/-- `0 ≤ wt ≤ 1` for every margin: a negative margin makes `b < 0`, so the guard fires; off the guard
`t > 0` and the exact branch is `1 − Var` of the truncated normal (`Gauss.Wt_mul_Z_nonneg`,
`Gauss.Wt_mul_Z_le`) -/
theorem wtCode_range (x t : ℝ) : 0 ≤ wtCode x t ∧ wtCode x t ≤ 1 := by
  by_cases h : Zc x t < epsF
  · rw [wtCode_asym h]; exact ⟨zero_le_one, le_rfl⟩
  · have ht := t_pos_of_Zc_pos (epsF_pos.trans_le (not_lt.1 h))
    rw [C17_wt_exact_branch h]; exact ⟨wtExact_nonneg ht, C17_wtExact_le_one ht⟩

/-- in the shape of the field `LeafFacts.wt_nonneg`, which asks for `W̃ ≥ 0` only at non-negative
margins; the code's `wt` needs no `ht` -/
theorem C17_wt_nonneg (x t : ℝ) (ht : 0 ≤ t) : 0 ≤ wtCode x t := (wtCode_range x t).1

theorem wtCode_le_one (x t : ℝ) : wtCode x t ≤ 1 := (wtCode_range x t).2

/-- `0 ≤ wt ≤ 1` for a non-negative draw margin, on both branches (after repair F5); `ht` states the
property's domain, both bounds hold for every `t` -/
theorem C17_wt_range (x t : ℝ) (ht : 0 ≤ t) : 0 ≤ wtCode x t ∧ wtCode x t ≤ 1 := wtCode_range x t

/-- the code's `vt` lies in the truncation interval `[−t−x, t−x]`, on both branches -/
theorem C17_vt_mem (x t : ℝ) (ht : 0 ≤ t) : -t - x ≤ vtCode x t ∧ vtCode x t ≤ t - x := by
  by_cases h : Zc x t < tiny5
  · by_cases hx : x < 0
    · rw [vtCode_asym_neg h hx]; constructor <;> linarith
    · rw [vtCode_asym_nonneg h hx]; constructor <;> linarith
  · rw [C17_vt_exact_branch h]
    obtain ⟨h1, h2⟩ := vtExact_mem x t (t_pos_of_Zc_pos (tiny5_pos.trans_le (not_lt.1 h)))
    exact ⟨h1.le, h2.le⟩

/-- on either branch the code's `vt` is within `2t` of the paper's Ṽ (on the exact branch they
are equal, `C17_vt_exact_branch`; on the small-`b` branch both lie in an interval of length 2t).
Stated for `0 < t`: at `t = 0` the paper's formula is `0/0`. -/
theorem C17_vt_within_2t (x t : ℝ) (ht : 0 < t) : |vtCode x t - vtExact x t| ≤ 2 * t := by
  obtain ⟨h1, h2⟩ := C17_vt_mem x t ht.le
  obtain ⟨h3, h4⟩ := vtExact_mem x t ht
  rw [abs_le]; constructor <;> linarith

/-- `vt` is odd in x (x ≠ 0) -/
theorem C17_vt_odd (x t : ℝ) (hx : x ≠ 0) : vtCode (-x) t = -vtCode x t := by
  have hZ : Zc (-x) t = Zc x t := by unfold Zc; rw [abs_neg]
  by_cases h : Zc x t < tiny5
  · rcases lt_or_gt_of_ne hx with hneg | hpos
    · rw [vtCode_asym_neg h hneg, vtCode_asym_nonneg (hZ ▸ h) (by linarith)]; ring
    · rw [vtCode_asym_nonneg h (by linarith), vtCode_asym_neg (hZ ▸ h) (by linarith)]; ring
  · rw [C17_vt_exact_branch h, C17_vt_exact_branch (hZ ▸ h), vtExact_neg]

/-- the code's four correction functions, read over ℝ, satisfy every fact the game-level
theorems use -/
theorem leafFacts_code : LeafFacts (codeLeaves : Leaves ℝ) where
  v_nonneg := C17_v_nonneg
  v_ge := C17_v_ge_mills
  w_nonneg := C17_w_nonneg
  wt_nonneg := C17_wt_nonneg
  vt_mem := C17_vt_mem
  vt_odd := C17_vt_odd

/-- on the guard `u = x − t < −8`, so `1 − W(u) < (u²+4)/(u²+2)² ≤ 1/50` -/
theorem wExact_gt_on_guard {x t : ℝ} (h : Phi (x - t) < epsF) : 49 / 50 < wExact x t := by
  have hu := C17_asymptote_below_minus_8 h
  have hs : 8 ^ 2 ≤ (x - t) ^ 2 :=
    neg_sq (x - t) ▸ pow_le_pow_left₀ (by norm_num) (by linarith : 8 ≤ -(x - t)) 2
  refine lt_of_le_of_lt ?_ (sampford_lower (hu.trans (by norm_num)))
  rw [div_le_div_iff₀ (by norm_num) (by positivity)]
  -- with `s = (x−t)²`: 50 s (s+3) − 49 (s+2)² = (s − 64)(s + 18) + 956
  linarith [mul_nonneg (sub_nonneg.mpr hs) (by linarith : 0 ≤ (x - t) ^ 2 + 18)]

/-- on the asymptotic branch `v` returns `−(x−t)`, which is below the paper's V by less than V/64 -/
theorem C17_v_asym_error {x t : ℝ} (h : Phi (x - t) < epsF) :
    |vCode x t - vExact x t| ≤ vExact x t / 64 := by
  -- the error is `V + u` with `u = x − t < −8`, and `0 < V + u < 1/(−u) < 1/8 < −u/64 < V/64`
  have hu := C17_asymptote_below_minus_8 h
  have h1 := vExact_gt x t
  have h2 : vExact x t + (x - t) < 1 / -(x - t) := mills_ratio_add_lt (hu.trans (by norm_num))
  have h3 : 1 / -(x - t) < 1 / 8 := one_div_lt_one_div_of_lt (by norm_num) (by linarith)
  rw [vCode_asym h, abs_sub_comm, abs_of_pos (by linarith)]
  linarith

/-- on the asymptotic branch with `x < 0`, `w` returns 1, which is above the paper's W by less
than 0.02 -/
theorem C17_w_asym_error {x t : ℝ} (h : Phi (x - t) < epsF) (hx : x < 0) :
    |wCode x t - wExact x t| ≤ 1 / 50 := by
  rw [wCode_asym_neg h hx, abs_of_pos (sub_pos.2 (wExact_lt_one x t))]
  linarith [wExact_gt_on_guard h]

/-- OBSERVATION: the asymptotic branch of `w` decides between 1 and 0 by the sign of `x`, not of
`x − t`.  If the guard fires with `x ≥ 0`
(this needs a draw margin `t > 8`, i.e. ε/c > 8 — not reachable with sensible parameters) the
code returns 0 although the paper's W exceeds 0.98 there. -/
theorem C17_w_asym_nonneg_x {x t : ℝ} (h : Phi (x - t) < epsF) (hx : 0 ≤ x) :
    wCode x t = 0 ∧ 49 / 50 < wExact x t ∧ 8 < t := by
  have hu := C17_asymptote_below_minus_8 h
  exact ⟨wCode_asym_nonneg h (not_lt.mpr hx), wExact_gt_on_guard h, by linarith⟩

/-! ### the error `wt` makes by returning the constant 1 on its guard branch

The paper's `W̃(x,t) = 1 − Var`, where `Var` is the variance of the standard normal truncated to
`[−t−x, t−x]`, an interval of length `2t`; so `0 ≤ Var ≤ (2t)²` (`Gauss.Wt_mul_Z_le`,
`Gauss.Wt_mul_Z_ge`) and `1 − 4t² ≤ W̃ ≤ 1` for EVERY `x` and every `t > 0`.  The code's `wtCode`
equals `W̃` outside its guard (`C17_wt_exact_branch`) and returns 1 inside it; hence over ℝ
`|wtCode − W̃| ≤ 4t²` everywhere, which is `≤ 20t` for `t ≤ 5` (the models use `t ≈ 1e-5`).
Float rounding / libm accuracy (the `1e-13/t` part of the tolerance) is outside any theorem over ℝ. -/

/-- over ℝ, on BOTH branches, the code's `wt` differs from the paper's W̃ by at most `4t²`:
outside the guard they are equal; inside the guard the code returns 1 and `1 − 4t² ≤ W̃ ≤ 1`.
Stated for `0 < t`: at `t = 0` the paper's formula is `0/0`. -/
theorem C17_wt_code_error {x t : ℝ} (ht : 0 < t) : |wtCode x t - wtExact x t| ≤ 4 * t ^ 2 := by
  by_cases h : Zc x t < epsF
  · rw [wtCode_asym h, abs_of_nonneg (sub_nonneg.2 (C17_wtExact_le_one ht))]
    linarith [C17_wtExact_ge (x := x) ht]
  · rw [C17_wt_exact_branch h, sub_self, abs_zero]; positivity

/-- for margins `t ≤ 5` the bound `4t²` is within the harness tolerance `20t` -/
theorem C17_wt_code_error_20t {x t : ℝ} (ht : 0 < t) (ht5 : t ≤ 5) :
    |wtCode x t - wtExact x t| ≤ 20 * t := by
  refine (C17_wt_code_error ht).trans ?_
  linarith [mul_le_mul_of_nonneg_left ht5 ht.le]

/-- the guard branch is reachable with a positive margin (so the error bound is not only the
trivial `0` of the exact branch): for every `t` there is an `x` with `Zc x t < 2⁻⁵²` -/
example (t : ℝ) : ∃ x : ℝ, Zc x t < epsF := by
  -- `Zc x t < Φ(t − |x|) ≤ Φ(u)` as soon as `|x| ≥ t − u`
  obtain ⟨u, hu⟩ := (Phi_tendsto_atBot.eventually (gt_mem_nhds epsF_pos)).exists
  refine ⟨t - u, (sub_lt_self _ (Phi_pos _)).trans ((Phi_strictMono.monotone ?_).trans_lt hu)⟩
  linarith [le_abs_self (t - u)]

end OS
end
