import OSProofs.Props.FL3
import OSProofs.MonoArithInst
import OSProofs.Props.FL1Inst
import OSProofs.Props.C17
import OSProofs.PairLemmas

/-!
# FL3 — the four extra laws hold in ℝ and in every rounded arithmetic; instances of the chain

`OSProofs/Props/FL3.lean` is abstract (it does not import the reals).  Here:

* `ChainLaws.real`, `ChainLaws.rn r` — the four laws the two-team chain needs beyond `MonoArith`
  (`MulLeftMonoNonpos`, `MulRightMonoNonpos`, `HalfLeOne`, `NegMulLe`) are true of the exact arithmetic and
  survive every monotone, odd, idempotent rounding that fixes the naturals;
* the chain theorems at `MonoArith.real` and at `MonoArith.rn r`.
-/

noncomputable section
namespace OS
open Scalar

/-! ### ℝ -/

theorem ChainLaws.real : ChainLaws ℝ where
  mulL _ _ _ ha hxy _ := mul_le_mul_of_nonneg_left hxy (sc_zero ▸ ha)
  mulR _ _ _ ha hxy _ := mul_le_mul_of_nonneg_right hxy (sc_zero ▸ ha)
  half a ha := by
    rw [sc_one, div_one]
    exact half_le_self (sc_zero ▸ ha)
  negMul a b := (neg_mul_comm a b).le

/-! ### `RN r` -/

theorem ChainLaws.rn (r : Rounding) : ChainLaws (RN r) where
  mulL a x y ha hxy hy := r.mono (ChainLaws.real.mulL a.1 x.1 y.1 ha hxy hy)
  mulR a x y ha hxy hy := r.mono (ChainLaws.real.mulR a.1 x.1 y.1 ha hxy hy)
  half a ha := r.mono (ChainLaws.real.half a.1 ha)
  negMul a b := r.mono (ChainLaws.real.negMul a.1 b.1)

/-! ### the chain at ℝ -/

theorem fl3_real_pair_divisors (K : Kind) (P : Params ℝ) (T0 T1 : List (Rating ℝ))
    (hv0 : (0 : ℝ) < sumL (T0.map (fun p => p.sigma * p.sigma)))
    (hv1 : (0 : ℝ) < sumL (T1.map (fun p => p.sigma * p.sigma))) :
    DivisorsPosRest K P [teamAgg T0 0, teamAgg T1 0] :=
  FL_divisorsPosRest_real K P _ (List.cons_ne_nil _ _)
    (List.forall_mem_cons.2 ⟨hv0, List.forall_mem_cons.2 ⟨hv1, nofun⟩⟩)

/-- **The two-team chain over ℝ, all five models, team 0**: hypotheses on the input only for
Bradley–Terry and Plackett–Luce (positive variance of team 0 resp. of both teams). -/
theorem FL_C05_two_team_chain_real (K : Kind) (L : Leaves ℝ) (P : Params ℝ)
    (T0 T1 : List (Rating ℝ))
    (hv0 : (0 : ℝ) < sumL (T0.map (fun p => p.sigma * p.sigma)))
    (hv1 : (0 : ℝ) < sumL (T1.map (fun p => p.sigma * p.sigma)))
    (hLv : K = .TMF ∨ K = .TMP →
      LeavesChainAt L (fl3_tmD (fl3_cmul K) P.beta (teamAgg T0 0) (teamAgg T1 0))
        (fl3_tmT (fl3_cmul K) P.beta P.kappa (teamAgg T0 0) (teamAgg T1 0)))
    {rw0 rw1 rd rl0 rl1 : Nat} (hw : rw0 < rw1) (hl : rl1 < rl0) :
    FL3ComputeChain K L P T0 T1 0 T0 rl0 rl1 rd rw0 rw1 :=
  FL_C05_two_team_chain MonoArith.real ChainLaws.real K L P T0 T1 (sc_zero ▸ hv0)
    (fl3_real_pair_divisors K P T0 T1 hv0 hv1) hLv hw hl

/-! ### the chain at `RN r` -/

/-- **The two-team chain in every rounded arithmetic, Bradley–Terry, team 0**: the only hypothesis is that
the (rounded) variance of team 0 is `> 0`.  The statement is about the rounded numbers. -/
theorem FL_C05_two_team_chain_rn_BT (r : Rounding) (K : Kind) (hK : K = .BTF ∨ K = .BTP)
    (L : Leaves (RN r)) (P : Params (RN r)) (T0 T1 : List (Rating (RN r)))
    (hv : Scalar.ofNat 0 < sumL (T0.map (fun p => p.sigma * p.sigma)))
    {rw0 rw1 rd rl0 rl1 : Nat} (hw : rw0 < rw1) (hl : rl1 < rl0) :
    FL3ComputeChain K L P T0 T1 0 T0 rl0 rl1 rd rw0 rw1 :=
  FL_C05_two_team_chain_BT (MonoArith.rn r) (ChainLaws.rn r).mulL K hK L P T0 T1 hv hw hl

/-- **The two-team chain in every rounded arithmetic, Plackett–Luce, team 0**: positive rounded variance of
team 0 and no underflow of `exp(μ₀/c)`. -/
theorem FL_C05_two_team_chain_rn_PL (r : Rounding) (L : Leaves (RN r)) (P : Params (RN r))
    (T0 T1 : List (Rating (RN r)))
    (hv : Scalar.ofNat 0 < sumL (T0.map (fun p => p.sigma * p.sigma)))
    (he : Scalar.ofNat 0 < Scalar.exp ((teamAgg T0 0).mu / plC P.beta [teamAgg T0 0, teamAgg T1 0]))
    {rw0 rw1 rd rl0 rl1 : Nat} (hw : rw0 < rw1) (hl : rl1 < rl0) :
    FL3ComputeChain .PL L P T0 T1 0 T0 rl0 rl1 rd rw0 rw1 :=
  FL_C05_two_team_chain_PL (MonoArith.rn r) (ChainLaws.rn r).mulL (ChainLaws.rn r).mulR
    (ChainLaws.rn r).half L P T0 T1 hv he hw hl

/-- **The two-team chain in every rounded arithmetic, all five models, team 0** -/
theorem FL_C05_two_team_chain_rn (r : Rounding) (K : Kind) (L : Leaves (RN r)) (P : Params (RN r))
    (T0 T1 : List (Rating (RN r)))
    (hv : Scalar.ofNat 0 < sumL (T0.map (fun p => p.sigma * p.sigma)))
    (hd : DivisorsPosRest K P [teamAgg T0 0, teamAgg T1 0])
    (hLv : K = .TMF ∨ K = .TMP →
      LeavesChainAt L (fl3_tmD (fl3_cmul K) P.beta (teamAgg T0 0) (teamAgg T1 0))
        (fl3_tmT (fl3_cmul K) P.beta P.kappa (teamAgg T0 0) (teamAgg T1 0)))
    {rw0 rw1 rd rl0 rl1 : Nat} (hw : rw0 < rw1) (hl : rl1 < rl0) :
    FL3ComputeChain K L P T0 T1 0 T0 rl0 rl1 rd rw0 rw1 :=
  FL_C05_two_team_chain (MonoArith.rn r) (ChainLaws.rn r) K L P T0 T1 hv hd hLv hw hl

/-- in the lossy arithmetic `truncRounding 10`, Bradley–Terry partial pairing, team 1 -/
example (L : Leaves (RN (truncRounding 10))) (P : Params (RN (truncRounding 10)))
    (T0 T1 : List (Rating (RN (truncRounding 10))))
    (hv : Scalar.ofNat 0 < sumL (T1.map (fun p => p.sigma * p.sigma))) :
    FL3ComputeChain .BTP L P T0 T1 1 T1 0 1 0 1 0 :=
  FL_C05_two_team_chain_BT_team1 (MonoArith.rn _) (ChainLaws.rn _).mulL .BTP (Or.inr rfl) L P T0 T1 hv
    (by decide) (by decide)

/-- the hypotheses of `FL_C05_two_team_chain_real` are satisfiable: two one-player teams, library defaults,
Plackett–Luce -/
example (L : Leaves ℝ) :
    FL3ComputeChain .PL L ⟨25 / 6, 1 / 10000, 25 / 300, false, .dflt⟩
      [⟨0, 25, 25 / 3⟩] [⟨1, 25, 25 / 3⟩] 0 [⟨0, 25, 25 / 3⟩] 1 0 0 0 1 := by
  -- the variance of a one-player team is the computed `0 + σ·σ`
  have h : (0 : ℝ) < ((0 : ℕ) : ℝ) + 25 / 3 * (25 / 3) := by norm_num
  exact FL_C05_two_team_chain_real .PL L _ [⟨0, 25, 25 / 3⟩] [⟨1, 25, 25 / 3⟩] h h nofun
    (by decide) (by decide)

/-! ### Thurstone–Mosteller over ℝ with the library's own leaves -/

/-- **The leaf facts hold for the code's leaves over ℝ** whenever `t ≥ 0`: `vt(x,t) ≤ t − x ≤ v(x,t)` and
`−v(−x,t) ≤ −t − x ≤ vt(x,t)` (`LeafFacts.chain` at `leafFacts_code`). -/
theorem fl3_leavesChainAt_code_real (x t : ℝ) (ht : 0 ≤ t) :
    LeavesChainAt (codeLeaves : Leaves ℝ) x t :=
  have h := leafFacts_code.chain x ht
  ⟨sc_zero ▸ leafFacts_code.v_nonneg x t, sc_zero ▸ leafFacts_code.v_nonneg (-x) t, h.2, h.1⟩

/-- **The two-team chain over ℝ, Thurstone–Mosteller (full and partial pairing) with the library's leaves,
team 0**: hypotheses on the input only — positive variances and `κ ≥ 0`. -/
theorem FL_C05_two_team_chain_real_TM_code (K : Kind) (hK : K = .TMF ∨ K = .TMP) (P : Params ℝ)
    (T0 T1 : List (Rating ℝ))
    (hv0 : (0 : ℝ) < sumL (T0.map (fun p => p.sigma * p.sigma)))
    (hv1 : (0 : ℝ) < sumL (T1.map (fun p => p.sigma * p.sigma)))
    (hk : 0 ≤ P.kappa)
    {rw0 rw1 rd rl0 rl1 : Nat} (hw : rw0 < rw1) (hl : rl1 < rl0) :
    FL3ComputeChain K codeLeaves P T0 T1 0 T0 rl0 rl1 rd rw0 rw1 := by
  have hc : (0 : ℝ) < fl3_tmC (fl3_cmul K) P.beta (teamAgg T0 0) (teamAgg T1 0) :=
    sc_zero ▸ ((fl3_real_pair_divisors K P T0 T1 hv0 hv1).tm hK).tm hK _ List.mem_cons_self _
      (List.mem_cons_of_mem _ List.mem_cons_self)
  exact FL_C05_two_team_chain_real K codeLeaves P T0 T1 hv0 hv1
    (fun _ => fl3_leavesChainAt_code_real _ _ (div_nonneg hk hc.le)) hw hl

end OS
end
