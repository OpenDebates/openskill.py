import OSProofs.LiftLemmas
import OSProofs.Props.C07
/-!
# C07b — no rating inflation, at the level of `rate`

`C07` is proved for `_compute` (`C07_compute…`: the list of team aggregates is already rank-sorted
and carries dense ranks).  Here it is lifted to the public operation

  `rate` = tau inflation → stable sort by the rank values → dense ranks → `_compute` → un-sort →
           optional `limit_sigma` clamp,

stated on the caller's data: the teams in the caller's order, the result in the caller's order,
`τ := resolveTau P o` the tau of the call and

  `teamVar τ team = Σ_j (σ_j² + τ²)`      (the team's variance after the inflation).

The precision-weighted mu change of a call is

  `Σ_i (Σ_j (res[i][j].mu − teams[i][j].mu)) / teamVar τ teams[i]`,

written `((teams.zip res).map (fun tr => ((tr.1.zip tr.2).map (fun pq => pq.2.mu − pq.1.mu)).sum /
teamVar τ tr.1)).sum`.

It equals the quantity `C07_compute` talks about, evaluated on `prepared …` (the aggregates
`_compute` receives): the un-sort permutes the (team, result) pairs, the inflation and the clamp do
not touch mu.
-/

noncomputable section
namespace OS
variable {ρ : Type}

/-- **Rearrangement.**  The precision-weighted mu change of a `rate` call, on the caller's data, is
the precision-weighted mu change of `_compute` on `prepared` (the sorted, dense-ranked aggregates of
the inflated teams).  All five models; only "one rank value per team" is assumed. -/
theorem C07_rate_sum_eq_compute (K : Kind) (L : Leaves ℝ) (P : Params ℝ) (le : ρ → ρ → Bool)
    (neg : ρ → ρ) (teams : List (List (Rating ℝ))) (oc : Outcome ρ) (o : CallOpts ℝ)
    (hoc : oc.fits teams.length) :
    ((teams.zip (rate K L P le neg teams oc o)).map (fun tr =>
        ((tr.1.zip tr.2).map (fun pq => pq.2.mu - pq.1.mu)).sum
          / teamVar (resolveTau P o) tr.1)).sum
      = (((computeOn K L P (prepared P le teams (lft_ranksOf neg oc) o)).zip
            (prepared P le teams (lft_ranksOf neg oc) o)).map
          (fun x => ((x.1.zip x.2.players).map (fun y => y.1.mu - y.2.mu)).sum / x.2.sig2)).sum := by
  rw [rate_eq_rateCore]
  exact lft_rate_sum_eq K L P le teams _ o (lft_fits neg oc _ hoc)

/-- … and therefore `Σ_i Ω_i / sig2_i` of `prepared`, when every inflated team variance is non-zero
(all five models). -/
theorem C07_rate_weighted_change (K : Kind) (L : Leaves ℝ) (P : Params ℝ) (le : ρ → ρ → Bool)
    (neg : ρ → ρ) (teams : List (List (Rating ℝ))) (oc : Outcome ρ) (o : CallOpts ℝ)
    (hoc : oc.fits teams.length)
    (hs : ∀ team ∈ teams, teamVar (resolveTau P o) team ≠ 0) :
    ((teams.zip (rate K L P le neg teams oc o)).map (fun tr =>
        ((tr.1.zip tr.2).map (fun pq => pq.2.mu - pq.1.mu)).sum
          / teamVar (resolveTau P o) tr.1)).sum
      = (((omegaDelta K L P (prepared P le teams (lft_ranksOf neg oc) o)).zip
            (prepared P le teams (lft_ranksOf neg oc) o)).map (fun x => x.1.1 / x.2.sig2)).sum := by
  rw [C07_rate_sum_eq_compute K L P le neg teams oc o hoc]
  have hpos := lft_prepared_pos P le teams (lft_ranksOf neg oc) o hs
  obtain ⟨X, d, e, -⟩ := prepared_eq_teamAggs P le teams (lft_ranksOf neg oc) o
  rw [e] at hpos ⊢
  exact compute_weighted_change K L P X d (fun t ht => (hpos t ht).ne')

/-- **C07 at the level of `rate`: no rating inflation** — Plackett–Luce, Bradley–Terry full and
partial pairing.  For every list of teams, every outcome (omitted, ranks or scores, one value per
team, ties allowed, any value type with any comparison `le`), every tau (per call or from the
model) and with or without the `limit_sigma` clamp: if no team has zero variance after the
inflation, then summing over the teams — in the caller's order — the total mu change of the
team's players divided by the team's inflated variance gives exactly zero. -/
theorem C07_rate (K : Kind) (hK : K = .PL ∨ K = .BTF ∨ K = .BTP) (L : Leaves ℝ) (P : Params ℝ)
    (le : ρ → ρ → Bool) (neg : ρ → ρ) (teams : List (List (Rating ℝ))) (oc : Outcome ρ)
    (o : CallOpts ℝ) (hoc : oc.fits teams.length)
    (hs : ∀ team ∈ teams, teamVar (resolveTau P o) team ≠ 0) :
    ((teams.zip (rate K L P le neg teams oc o)).map (fun tr =>
        ((tr.1.zip tr.2).map (fun pq => pq.2.mu - pq.1.mu)).sum
          / teamVar (resolveTau P o) tr.1)).sum = 0 := by
  rw [C07_rate_weighted_change K L P le neg teams oc o hoc hs]
  have hpos := lft_prepared_pos P le teams (lft_ranksOf neg oc) o hs
  rcases hK with rfl | rfl | rfl
  · exact C07_PL L P _ (fun t ht => (hpos t ht).ne')
  · exact C07_BTF L P _ hpos
  · exact C07_BTP L P _ hpos

/-- **C07 at the level of `rate`, Thurstone–Mosteller full pairing**: exactly zero when no two tied
teams have exactly equal mu.  The hypothesis is on `prepared …` — the sorted list of aggregates
`_compute` receives, whose `rank` is the dense rank and whose `mu` is the team's total mu; see
`C07_rate_TM_caller` for a hypothesis on the caller's data. -/
theorem C07_rate_TMF (L : Leaves ℝ) (hL : LeafFacts L) (P : Params ℝ)
    (le : ρ → ρ → Bool) (neg : ρ → ρ) (teams : List (List (Rating ℝ))) (oc : Outcome ρ)
    (o : CallOpts ℝ) (hoc : oc.fits teams.length)
    (hs : ∀ team ∈ teams, teamVar (resolveTau P o) team ≠ 0)
    (hne : ∀ i q : Fin (prepared P le teams (lft_ranksOf neg oc) o).length, i ≠ q →
      (prepared P le teams (lft_ranksOf neg oc) o)[i].rank
          = (prepared P le teams (lft_ranksOf neg oc) o)[q].rank →
      (prepared P le teams (lft_ranksOf neg oc) o)[i].mu
          ≠ (prepared P le teams (lft_ranksOf neg oc) o)[q].mu) :
    ((teams.zip (rate .TMF L P le neg teams oc o)).map (fun tr =>
        ((tr.1.zip tr.2).map (fun pq => pq.2.mu - pq.1.mu)).sum
          / teamVar (resolveTau P o) tr.1)).sum = 0 := by
  rw [C07_rate_weighted_change .TMF L P le neg teams oc o hoc hs]
  exact C07_TMF L hL P _ (lft_prepared_pos P le teams (lft_ranksOf neg oc) o hs) hne

/-- **C07 at the level of `rate`, Thurstone–Mosteller partial pairing**: exactly zero when no two
tied teams that are ADJACENT in the sorted order have exactly equal mu (hypothesis on
`prepared …`). -/
theorem C07_rate_TMP (L : Leaves ℝ) (hL : LeafFacts L) (P : Params ℝ)
    (le : ρ → ρ → Bool) (neg : ρ → ρ) (teams : List (List (Rating ℝ))) (oc : Outcome ρ)
    (o : CallOpts ℝ) (hoc : oc.fits teams.length)
    (hs : ∀ team ∈ teams, teamVar (resolveTau P o) team ≠ 0)
    (hne : ∀ (j : ℕ) (hj : j + 1 < (prepared P le teams (lft_ranksOf neg oc) o).length),
      (prepared P le teams (lft_ranksOf neg oc) o)[j].rank
          = (prepared P le teams (lft_ranksOf neg oc) o)[j + 1].rank →
      (prepared P le teams (lft_ranksOf neg oc) o)[j].mu
          ≠ (prepared P le teams (lft_ranksOf neg oc) o)[j + 1].mu) :
    ((teams.zip (rate .TMP L P le neg teams oc o)).map (fun tr =>
        ((tr.1.zip tr.2).map (fun pq => pq.2.mu - pq.1.mu)).sum
          / teamVar (resolveTau P o) tr.1)).sum = 0 := by
  rw [C07_rate_weighted_change .TMP L P le neg teams oc o hoc hs]
  exact C07_TMP L hL P _ (lft_prepared_pos P le teams (lft_ranksOf neg oc) o hs) hne

/-- **Thurstone–Mosteller full pairing, general bound at the level of `rate`**: the absolute value
of the precision-weighted mu change is at most the sum of `2κ / c_iq²` over the unordered pairs of
tied teams of `prepared` with exactly equal mu. -/
theorem C07_rate_TMF_bound (L : Leaves ℝ) (hL : LeafFacts L) (P : Params ℝ) (hk : 0 ≤ P.kappa)
    (le : ρ → ρ → Bool) (neg : ρ → ρ) (teams : List (List (Rating ℝ))) (oc : Outcome ρ)
    (o : CallOpts ℝ) (hoc : oc.fits teams.length)
    (hs : ∀ team ∈ teams, teamVar (resolveTau P o) team ≠ 0) :
    |((teams.zip (rate .TMF L P le neg teams oc o)).map (fun tr =>
        ((tr.1.zip tr.2).map (fun pq => pq.2.mu - pq.1.mu)).sum
          / teamVar (resolveTau P o) tr.1)).sum|
      ≤ ∑ i : Fin (prepared P le teams (lft_ranksOf neg oc) o).length,
          ∑ q : Fin (prepared P le teams (lft_ranksOf neg oc) o).length,
          if i < q then
            (if (prepared P le teams (lft_ranksOf neg oc) o)[i].rank
                  = (prepared P le teams (lft_ranksOf neg oc) o)[q].rank ∧
                (prepared P le teams (lft_ranksOf neg oc) o)[i].mu
                  = (prepared P le teams (lft_ranksOf neg oc) o)[q].mu
              then tmSlack 1 P.beta P.kappa (prepared P le teams (lft_ranksOf neg oc) o)[i]
                (prepared P le teams (lft_ranksOf neg oc) o)[q] else 0)
          else 0 := by
  rw [C07_rate_weighted_change .TMF L P le neg teams oc o hoc hs]
  exact C07_TMF_bound L hL P _ hk (lft_prepared_pos P le teams (lft_ranksOf neg oc) o hs)

/-- **Thurstone–Mosteller partial pairing, general bound at the level of `rate`.** -/
theorem C07_rate_TMP_bound (L : Leaves ℝ) (hL : LeafFacts L) (P : Params ℝ) (hk : 0 ≤ P.kappa)
    (le : ρ → ρ → Bool) (neg : ρ → ρ) (teams : List (List (Rating ℝ))) (oc : Outcome ρ)
    (o : CallOpts ℝ) (hoc : oc.fits teams.length)
    (hs : ∀ team ∈ teams, teamVar (resolveTau P o) team ≠ 0) :
    |((teams.zip (rate .TMP L P le neg teams oc o)).map (fun tr =>
        ((tr.1.zip tr.2).map (fun pq => pq.2.mu - pq.1.mu)).sum
          / teamVar (resolveTau P o) tr.1)).sum|
      ≤ ∑ j ∈ Finset.range ((prepared P le teams (lft_ranksOf neg oc) o).length - 1),
          if hj : j + 1 < (prepared P le teams (lft_ranksOf neg oc) o).length then
            (if (prepared P le teams (lft_ranksOf neg oc) o)[j].rank
                  = (prepared P le teams (lft_ranksOf neg oc) o)[j + 1].rank ∧
                (prepared P le teams (lft_ranksOf neg oc) o)[j].mu
                  = (prepared P le teams (lft_ranksOf neg oc) o)[j + 1].mu
              then tmSlack 2 P.beta P.kappa (prepared P le teams (lft_ranksOf neg oc) o)[j]
                (prepared P le teams (lft_ranksOf neg oc) o)[j + 1] else 0)
          else 0 := by
  rw [C07_rate_weighted_change .TMP L P le neg teams oc o hoc hs]
  exact C07_TMP_bound L hL P _ hk (lft_prepared_pos P le teams (lft_ranksOf neg oc) o hs)

/-! ### Thurstone–Mosteller with the hypothesis on the caller's data -/

/-- **C07 at the level of `rate`, both Thurstone–Mosteller models, hypothesis on the caller's data.**
`le` total and transitive.  If no two DIFFERENT teams whose rank values are tied (`x ≤ y` and
`y ≤ x`; for scores: the negated scores) have exactly the same total mu, the precision-weighted mu
change is exactly zero.  (For partial pairing this asks a little more than necessary: only tied
teams that end up adjacent after the stable sort matter — `C07_rate_TMP`.) -/
theorem C07_rate_TM_caller (K : Kind) (hK : K = .TMF ∨ K = .TMP) (L : Leaves ℝ) (hL : LeafFacts L)
    (P : Params ℝ) (le : ρ → ρ → Bool) (neg : ρ → ρ)
    (total : ∀ a b, (le a b || le b a) = true)
    (trans : ∀ a b c, le a b = true → le b c = true → le a c = true)
    (teams : List (List (Rating ℝ))) (oc : Outcome ρ)
    (o : CallOpts ℝ) (hoc : oc.fits teams.length)
    (hs : ∀ team ∈ teams, teamVar (resolveTau P o) team ≠ 0)
    (hne : ∀ r, lft_ranksOf neg oc = some r →
      ∀ (a b : Nat) (ha : a < teams.length) (hb : b < teams.length) (x y : ρ), a ≠ b →
        r[a]? = some x → r[b]? = some y → le x y = true → le y x = true →
        (teams[a].map (·.mu)).sum ≠ (teams[b].map (·.mu)).sum) :
    ((teams.zip (rate K L P le neg teams oc o)).map (fun tr =>
        ((tr.1.zip tr.2).map (fun pq => pq.2.mu - pq.1.mu)).sum
          / teamVar (resolveTau P o) tr.1)).sum = 0 := by
  have key : ∀ (i q : Nat) (hi : i < (prepared P le teams (lft_ranksOf neg oc) o).length)
      (hq : q < (prepared P le teams (lft_ranksOf neg oc) o).length), i ≠ q →
      (prepared P le teams (lft_ranksOf neg oc) o)[i].rank
          = (prepared P le teams (lft_ranksOf neg oc) o)[q].rank →
      (prepared P le teams (lft_ranksOf neg oc) o)[i].mu
          ≠ (prepared P le teams (lft_ranksOf neg oc) o)[q].mu := by
    intro i q hi hq hiq hrank
    obtain ⟨r, hr, a, b, ha, hb, ha', hb', hab, h1, h2, e1, e2⟩ :=
      lft_prepared_tie P le total trans teams (lft_ranksOf neg oc) o (lft_fits neg oc _ hoc)
        i q hi hq hiq hrank
    rw [e1, e2]
    exact hne r hr a b ha hb r[a] r[b] hab (List.getElem?_eq_getElem ha')
      (List.getElem?_eq_getElem hb') h1 h2
  rcases hK with rfl | rfl
  · exact C07_rate_TMF L hL P le neg teams oc o hoc hs
      (fun i q hiq => key i.1 q.1 i.2 q.2 (fun h => hiq (Fin.ext h)))
  · exact C07_rate_TMP L hL P le neg teams oc o hoc hs
      (fun j hj => key j (j + 1) (by omega) hj (by omega))

/-- the same for `ranks = r`, hypothesis entry by entry -/
theorem C07_rate_TM_ranks (K : Kind) (hK : K = .TMF ∨ K = .TMP) (L : Leaves ℝ) (hL : LeafFacts L)
    (P : Params ℝ) (le : ρ → ρ → Bool) (neg : ρ → ρ)
    (total : ∀ a b, (le a b || le b a) = true)
    (trans : ∀ a b c, le a b = true → le b c = true → le a c = true)
    (teams : List (List (Rating ℝ))) (r : List ρ) (o : CallOpts ℝ)
    (hlen : r.length = teams.length)
    (hs : ∀ team ∈ teams, teamVar (resolveTau P o) team ≠ 0)
    (hne : ∀ (a b : Nat) (ha : a < teams.length) (hb : b < teams.length), a ≠ b →
        le (r[a]'(hlen ▸ ha)) (r[b]'(hlen ▸ hb)) = true →
        le (r[b]'(hlen ▸ hb)) (r[a]'(hlen ▸ ha)) = true →
        (teams[a].map (·.mu)).sum ≠ (teams[b].map (·.mu)).sum) :
    ((teams.zip (rate K L P le neg teams (.ranks r) o)).map (fun tr =>
        ((tr.1.zip tr.2).map (fun pq => pq.2.mu - pq.1.mu)).sum
          / teamVar (resolveTau P o) tr.1)).sum = 0 := by
  refine C07_rate_TM_caller K hK L hL P le neg total trans teams (.ranks r) o hlen hs ?_
  intro r' hr' a b ha hb x y hab hx hy h1 h2
  cases hr'
  have ha' : a < r.length := hlen ▸ ha
  have hb' : b < r.length := hlen ▸ hb
  rw [List.getElem?_eq_getElem ha'] at hx
  rw [List.getElem?_eq_getElem hb'] at hy
  cases hx; cases hy
  exact hne a b ha hb hab h1 h2

/-- **outcome omitted: Thurstone–Mosteller is exactly zero-sum too** — with the ranks omitted no two
teams are tied, so no hypothesis on the mu values is needed. -/
theorem C07_rate_TM_omitted (K : Kind) (hK : K = .TMF ∨ K = .TMP) (L : Leaves ℝ)
    (hL : LeafFacts L) (P : Params ℝ) (le : ρ → ρ → Bool) (neg : ρ → ρ)
    (teams : List (List (Rating ℝ))) (o : CallOpts ℝ)
    (hs : ∀ team ∈ teams, teamVar (resolveTau P o) team ≠ 0) :
    ((teams.zip (rate K L P le neg teams .omitted o)).map (fun tr =>
        ((tr.1.zip tr.2).map (fun pq => pq.2.mu - pq.1.mu)).sum
          / teamVar (resolveTau P o) tr.1)).sum = 0 := by
  -- the comparison is not consulted when the outcome is omitted
  have e : rate K L P le neg teams .omitted o
      = rate K L P (fun _ _ => true) neg teams .omitted o := rfl
  rw [e]
  exact C07_rate_TM_caller K hK L hL P (fun _ _ => true) neg (fun _ _ => rfl)
    (fun _ _ _ _ _ => rfl) teams .omitted o trivial hs (fun _ h => nomatch h)

/-! ### non-vacuity -/

/-- the positivity hypothesis holds as soon as every team has a member with `σ ≠ 0`, or `τ ≠ 0` and
no team is empty; e.g. for the default rating -/
example : ∀ team ∈ ([[⟨0, 25, 25 / 3⟩], [⟨1, 25, 25 / 3⟩, ⟨2, 30, 0⟩]] : List (List (Rating ℝ))),
    teamVar (25 / 300) team ≠ 0 := by
  intro team h
  rcases List.mem_pair.1 h with rfl | rfl
  · norm_num [teamVar]
  · norm_num [teamVar]

/-- `C07_rate` applies: three teams given in the order B, A, C, ranks `[2, 1, 2]` (B and C tied, the
sort is not the identity), any tau, clamp on or off -/
example (K : Kind) (hK : K = .PL ∨ K = .BTF ∨ K = .BTP) (L : Leaves ℝ) (P : Params ℝ)
    (o : CallOpts ℝ) (A B C : List (Rating ℝ))
    (hs : ∀ team ∈ [B, A, C], teamVar (resolveTau P o) team ≠ 0) :
    (([B, A, C].zip (rate K L P (fun a b : Int => decide (a ≤ b)) (fun a => -a) [B, A, C]
        (.ranks [2, 1, 2]) o)).map (fun tr =>
        ((tr.1.zip tr.2).map (fun pq => pq.2.mu - pq.1.mu)).sum
          / teamVar (resolveTau P o) tr.1)).sum = 0 :=
  C07_rate K hK L P _ _ [B, A, C] (.ranks [2, 1, 2]) o rfl hs

/-- the hypothesis of `C07_rate_TM_ranks` is satisfiable with a tie: B and C tied with different
total mu -/
example : ∀ (a b : Nat) (ha : a < 3) (hb : b < 3), a ≠ b →
    decide (([2, 1, 2] : List Int)[a]'(by simpa using ha) ≤ ([2, 1, 2] : List Int)[b]'(by simpa using hb)) = true →
    decide (([2, 1, 2] : List Int)[b]'(by simpa using hb) ≤ ([2, 1, 2] : List Int)[a]'(by simpa using ha)) = true →
    ((([[⟨0, 25, 8⟩], [⟨1, 30, 8⟩], [⟨2, 20, 8⟩, ⟨3, 4, 1⟩]] : List (List (Rating ℝ)))[a]'(by
        simpa using ha)).map (·.mu)).sum ≠
    ((([[⟨0, 25, 8⟩], [⟨1, 30, 8⟩], [⟨2, 20, 8⟩, ⟨3, 4, 1⟩]] : List (List (Rating ℝ)))[b]'(by
        simpa using hb)).map (·.mu)).sum := by
  intro a b ha hb hab h1 h2
  -- only the first and the last team are tied
  have key : ∀ (a : Nat) (ha : a < 3) (b : Nat) (hb : b < 3), a ≠ b →
      decide (([2, 1, 2] : List Int)[a] ≤ ([2, 1, 2] : List Int)[b]) = true →
      decide (([2, 1, 2] : List Int)[b] ≤ ([2, 1, 2] : List Int)[a]) = true →
      a = 0 ∧ b = 2 ∨ a = 2 ∧ b = 0 := by decide
  obtain ⟨rfl, rfl⟩ | ⟨rfl, rfl⟩ := key a ha b hb hab h1 h2
  · norm_num
  · norm_num

end OS
end
