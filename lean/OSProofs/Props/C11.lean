import OSProofs.Props.FL2
import OSProofs.MonoArithInst

/-!
# C11 — `predict_rank`: the integer ranks agree with the probabilities (rank part)

`predict_rank` computes one probability per team (`predictRankProbs`), then
`rankData probs` (competition ranking: 1 + number of strictly smaller entries), and returns for
team `a` the rank `max(rankData) − rankData[a] + 1` paired with its probability.
`finalRanks probs` is that list of integer ranks.  For ANY list of reals `probs`:
the ranks are integers in `1..n`; a strictly larger probability gets a strictly smaller
(better) rank; equal probabilities get equal ranks; a largest probability gets rank 1.
The same statements are then read off for the model function `predictRank`.
All of them are the statements of `OSProofs/RankLemmas.lean` and `Props/FL2.lean`, which hold over
every total preorder, read at ℝ (`OrderLaws.real`, `MonoArith.real`), where values equivalent in the
order are equal (the two `_eq_iff`).
-/

noncomputable section
namespace OS

/-! ### any list of reals -/

/-- one rank per entry -/
theorem C11_ranks_length (probs : List ℝ) : (finalRanks probs).length = probs.length :=
  finalRanks_length probs

/-- `rankData` values lie in `1..n` -/
theorem C11_rankData_range (probs : List ℝ) (a : ℕ) (ha : a < probs.length) :
    1 ≤ (rankData probs)[a]'(by rw [rankData_length]; exact ha)
      ∧ (rankData probs)[a]'(by rw [rankData_length]; exact ha) ≤ probs.length :=
  OrderLaws.real.rankData_range probs a ha

/-- `rankData` is strictly monotone in the value … -/
theorem C11_rankData_strict (probs : List ℝ) (a b : ℕ) (ha : a < probs.length)
    (hb : b < probs.length) (h : probs[b] < probs[a]) :
    (rankData probs)[b]'(by rw [rankData_length]; exact hb)
      < (rankData probs)[a]'(by rw [rankData_length]; exact ha) :=
  OrderLaws.real.rankData_strict probs a b ha hb h

/-- every returned rank is an integer in `1..n` -/
theorem C11_rank_range (probs : List ℝ) (a : ℕ) (ha : a < probs.length) :
    1 ≤ (finalRanks probs)[a]'(by rw [finalRanks_length]; exact ha)
      ∧ (finalRanks probs)[a]'(by rw [finalRanks_length]; exact ha) ≤ probs.length :=
  OrderLaws.real.rank_range probs a ha

/-- a strictly larger probability gets a strictly smaller (better) rank -/
theorem C11_rank_strict (probs : List ℝ) (a b : ℕ) (ha : a < probs.length)
    (hb : b < probs.length) (h : probs[b] < probs[a]) :
    (finalRanks probs)[a]'(by rw [finalRanks_length]; exact ha)
      < (finalRanks probs)[b]'(by rw [finalRanks_length]; exact hb) :=
  OrderLaws.real.rank_strict probs a b ha hb h

/-- equal probabilities get equal ranks -/
theorem C11_rank_tie (probs : List ℝ) (a b : ℕ) (ha : a < probs.length)
    (hb : b < probs.length) (h : probs[a] = probs[b]) :
    (finalRanks probs)[a]'(by rw [finalRanks_length]; exact ha)
      = (finalRanks probs)[b]'(by rw [finalRanks_length]; exact hb) :=
  OrderLaws.real.rank_tie probs a b ha hb h.le h.ge

/-- the ranks order the teams exactly as the probabilities do (converse of the two above) -/
theorem C11_rank_lt_iff (probs : List ℝ) (a b : ℕ) (ha : a < probs.length)
    (hb : b < probs.length) :
    (finalRanks probs)[a]'(by rw [finalRanks_length]; exact ha)
      < (finalRanks probs)[b]'(by rw [finalRanks_length]; exact hb) ↔ probs[b] < probs[a] :=
  OrderLaws.real.rank_lt_iff probs a b ha hb

theorem C11_rank_eq_iff (probs : List ℝ) (a b : ℕ) (ha : a < probs.length)
    (hb : b < probs.length) :
    (finalRanks probs)[a]'(by rw [finalRanks_length]; exact ha)
      = (finalRanks probs)[b]'(by rw [finalRanks_length]; exact hb) ↔ probs[a] = probs[b] :=
  (OrderLaws.real.rank_eq_iff probs a b ha hb).trans (by rw [not_lt, not_lt, le_antisymm_iff])

/-- a largest probability gets rank 1 -/
theorem C11_rank_max_one (probs : List ℝ) (a : ℕ) (ha : a < probs.length)
    (hmax : ∀ y ∈ probs, y ≤ probs[a]) :
    (finalRanks probs)[a]'(by rw [finalRanks_length]; exact ha) = 1 :=
  OrderLaws.real.rank_max_one probs a ha hmax

/-- rank 1 is always awarded when there is at least one team -/
theorem C11_rank_one_exists (probs : List ℝ) (hn : 1 ≤ probs.length) :
    1 ∈ finalRanks probs :=
  one_mem_finalRanks hn

/-! ### the model function -/

/-- the second components are the probabilities, in order -/
theorem C11_predictRank_probs (β : ℝ) (teams : List (List (Rating ℝ))) :
    (predictRank β teams).map (·.2) = predictRankProbs β teams :=
  predictRank_map_snd β teams

/-- the first components are the ranks `max(rankData) − rankData + 1` of those probabilities -/
theorem C11_predictRank_ranks (β : ℝ) (teams : List (List (Rating ℝ))) :
    (predictRank β teams).map (·.1) = finalRanks (predictRankProbs β teams) :=
  predictRank_map_fst β teams

theorem C11_predictRank_length (β : ℝ) (teams : List (List (Rating ℝ))) :
    (predictRank β teams).length = (predictRankProbs β teams).length :=
  predictRank_length β teams

/-- every rank returned by `predictRank` is in `1..(number of results)` -/
theorem C11_predictRank_range (β : ℝ) (teams : List (List (Rating ℝ))) (a : ℕ)
    (ha : a < (predictRank β teams).length) :
    1 ≤ (predictRank β teams)[a].1
      ∧ (predictRank β teams)[a].1 ≤ (predictRank β teams).length :=
  FL_C11_ranks_range MonoArith.real β teams a ha

/-- `predictRank`: a strictly larger probability gets a strictly smaller rank, and conversely -/
theorem C11_predictRank_lt_iff (β : ℝ) (teams : List (List (Rating ℝ))) (a b : ℕ)
    (ha : a < (predictRank β teams).length) (hb : b < (predictRank β teams).length) :
    (predictRank β teams)[a].1 < (predictRank β teams)[b].1
      ↔ (predictRank β teams)[b].2 < (predictRank β teams)[a].2 :=
  FL_C11_ranks_lt_iff MonoArith.real β teams b a hb ha

/-- `predictRank`: a strictly larger probability gets a strictly smaller (better) rank -/
theorem C11_predictRank_strict (β : ℝ) (teams : List (List (Rating ℝ))) (a b : ℕ)
    (ha : a < (predictRank β teams).length) (hb : b < (predictRank β teams).length)
    (h : (predictRank β teams)[b].2 < (predictRank β teams)[a].2) :
    (predictRank β teams)[a].1 < (predictRank β teams)[b].1 :=
  (C11_predictRank_lt_iff β teams a b ha hb).mpr h

/-- `predictRank`: equal probabilities get equal ranks, and conversely -/
theorem C11_predictRank_eq_iff (β : ℝ) (teams : List (List (Rating ℝ))) (a b : ℕ)
    (ha : a < (predictRank β teams).length) (hb : b < (predictRank β teams).length) :
    (predictRank β teams)[a].1 = (predictRank β teams)[b].1
      ↔ (predictRank β teams)[a].2 = (predictRank β teams)[b].2 := by
  rw [predictRank_getElem β teams a ha, predictRank_getElem β teams b hb]
  exact C11_rank_eq_iff _ a b _ _

/-- `predictRank`: equal probabilities get equal ranks -/
theorem C11_predictRank_tie (β : ℝ) (teams : List (List (Rating ℝ))) (a b : ℕ)
    (ha : a < (predictRank β teams).length) (hb : b < (predictRank β teams).length)
    (h : (predictRank β teams)[a].2 = (predictRank β teams)[b].2) :
    (predictRank β teams)[a].1 = (predictRank β teams)[b].1 :=
  (C11_predictRank_eq_iff β teams a b ha hb).mpr h

/-- `predictRank`: a team whose probability is largest gets rank 1 -/
theorem C11_predictRank_max_one (β : ℝ) (teams : List (List (Rating ℝ))) (a : ℕ)
    (ha : a < (predictRank β teams).length)
    (hmax : ∀ q ∈ predictRank β teams, q.2 ≤ (predictRank β teams)[a].2) :
    (predictRank β teams)[a].1 = 1 :=
  FL_C11_ranks_max_one MonoArith.real β teams a ha hmax

/-- a concrete instance: values 2, 5, 2, 1 have `rankData` 2, 4, 2, 1 (ties share the smallest
ascending rank) and final ranks 3, 1, 3, 4 — so in the returned (descending) ranking tied teams
share the LARGEST rank of their group ("1334", not "1224"); this is what the Python code does
(`_rank_data` then `max − r + 1`), and it satisfies all the statements above. -/
example : finalRanks ([2, 5, 2, 1] : List ℝ) = [3, 1, 3, 4] := by
  have e : rankData ([2, 5, 2, 1] : List ℝ) = [2, 4, 2, 1] := by
    simp only [rankData, List.map_cons, List.map_nil, List.filter_cons, List.filter_nil]
    norm_num
  rw [finalRanks, e]
  rfl

end OS
end
