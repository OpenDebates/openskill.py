import OSModel
/-!
# C15 — per-call tau / limit_sigma mean exactly what the model-level setting means

Generic over the scalar type: these hold for the `Float` instantiation the driver runs as
well as for ℝ.  (Before the repairs F2/F3 the code resolved `tau` by truthiness and wrote
`limit_sigma` into the model; the model mirrors the repaired code.)
-/
namespace OS
variable {α ρ : Type} [Scalar α]

/-- `rate` reads the model object and the per-call options only through beta, kappa, gamma and the resolved tau and limit_sigma -/
theorem rate_congr (K : Kind) (L : Leaves α) {P P' : Params α} {o o' : CallOpts α} (le : ρ → ρ → Bool) (neg : ρ → ρ)
    (teams : List (List (Rating α))) (oc : Outcome ρ)
    (hb : P'.beta = P.beta) (hk : P'.kappa = P.kappa) (hg : P'.gamma = P.gamma)
    (ht : resolveTau P' o' = resolveTau P o) (hl : resolveLimit P' o' = resolveLimit P o) :
    rate K L P le neg teams oc o = rate K L P' le neg teams oc o' := by
  have hc : compute K L P' = compute K L P := by
    funext teams dense
    unfold compute omegaDelta
    rw [hb, hk, hg]
  cases oc <;> simp only [rate, rateCore, hc, ht, hl]

/-- rate(..., tau = t) on any model = the model constructed with tau = t, for EVERY t (0 included) -/
theorem C15_tau (K : Kind) (L : Leaves α) (P : Params α) (le : ρ → ρ → Bool) (neg : ρ → ρ)
    (teams : List (List (Rating α))) (oc : Outcome ρ) (t : α) (ls : Option Bool) :
    rate K L P le neg teams oc { tau := some t, limitSigma := ls }
      = rate K L { P with tau := t } le neg teams oc { tau := none, limitSigma := ls } :=
  rate_congr K L le neg teams oc rfl rfl rfl rfl rfl

/-- rate(..., limit_sigma = b) = the model constructed with limit_sigma = b, for both Booleans -/
theorem C15_limit_sigma (K : Kind) (L : Leaves α) (P : Params α) (le : ρ → ρ → Bool) (neg : ρ → ρ)
    (teams : List (List (Rating α))) (oc : Outcome ρ) (b : Bool) (t : Option α) :
    rate K L P le neg teams oc { tau := t, limitSigma := some b }
      = rate K L { P with limitSigma := b } le neg teams oc { tau := t, limitSigma := none } :=
  rate_congr K L le neg teams oc rfl rfl rfl rfl rfl

/-- omitting both arguments uses the model's own settings -/
theorem C15_omitted (K : Kind) (L : Leaves α) (P : Params α) (le : ρ → ρ → Bool) (neg : ρ → ρ)
    (teams : List (List (Rating α))) (oc : Outcome ρ) :
    rate K L P le neg teams oc { tau := none, limitSigma := none }
      = rate K L P le neg teams oc { tau := some P.tau, limitSigma := some P.limitSigma } :=
  rate_congr K L le neg teams oc rfl rfl rfl rfl rfl

theorem C15_both (K : Kind) (L : Leaves α) (P : Params α) (le : ρ → ρ → Bool) (neg : ρ → ρ)
    (teams : List (List (Rating α))) (oc : Outcome ρ) (t : α) (b : Bool) :
    rate K L P le neg teams oc { tau := some t, limitSigma := some b }
      = rate K L { P with tau := t, limitSigma := b } le neg teams oc { tau := none, limitSigma := none } :=
  rate_congr K L le neg teams oc rfl rfl rfl rfl rfl

omit [Scalar α] in
/-- the resolution itself: "is not None" semantics — a present value is used whatever it is -/
theorem resolveTau_some (P : Params α) (t : α) (ls : Option Bool) :
    resolveTau P { tau := some t, limitSigma := ls } = t := rfl

omit [Scalar α] in
theorem resolveLimit_some (P : Params α) (b : Bool) (t : Option α) :
    resolveLimit P { tau := t, limitSigma := some b } = b := rfl

end OS
