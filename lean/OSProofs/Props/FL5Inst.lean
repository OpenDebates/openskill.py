import OSProofs.Props.FL5
import OSProofs.MonoArithInst

/-!
# FL5 — instances: `PhiMono` holds in ℝ and in every rounded arithmetic; C09 monotonicity at both

* `PhiMono.real` — the exact `Φ` is strictly increasing (`Gauss.Phi_strictMono`);
* `PhiMono.rn r` — `rnd ∘ Φ` is monotone for every monotone rounding `rnd`: a *correctly rounded* `Φ` is
  monotone on any float format.  (The libm `erfc` behind Python's `NormalDist.cdf` is not correctly rounded;
  for IEEE doubles `PhiMono` stays a hypothesis.)
* the headline theorems of `Props/FL5.lean` at `MonoArith.real` and at `MonoArith.rn r`; in the rounded
  arithmetic the inequalities are between the *rounded* results, exactly;
* `FL5_PhiMono_independent` — `PhiMono` is not a consequence of `MonoArith` (last section).
-/

noncomputable section
namespace OS
open Scalar

theorem PhiMono.real : PhiMono ℝ := by
  intro a b h
  simp only [sc_Phi]
  exact Gauss.Phi_strictMono.monotone h

theorem PhiMono.rn (r : Rounding) : PhiMono (RN r) :=
  fun a b h => r.mono (PhiMono.real a.1 b.1 h)

/-- `PhiMono` at the genuinely lossy rounding of `MonoArithInst` -/
example : PhiMono (RN (truncRounding 10)) := PhiMono.rn _

/-! ### ℝ (re-proves `C09_monotone_own/other` for three or more teams through the order laws alone) -/

theorem FL_C09_two_monotone_real (β : ℝ) (a b : List (Rating ℝ)) (j : Nat) (hj : j < a.length) (m : ℝ)
    (hm : a[j].mu ≤ m)
    (hd : Scalar.ofNat 0 < pairDenom (playerCount [a, b]) β (teamAgg a 0) (teamAgg b 0)) :
    FL5_winR β a b ≤ FL5_winR β (fl5_setMu a j m) b
      ∧ Scalar.ofNat 1 - FL5_winR β (fl5_setMu a j m) b ≤ Scalar.ofNat 1 - FL5_winR β a b :=
  FL_C09_two_monotone MonoArith.real PhiMono.real β a b j hj m hm hd

theorem FL_C09_many_monotone_own_real (β : ℝ) (teams : List (List (Rating ℝ)))
    (hn : 3 ≤ teams.length) (i : Nat) (hi : i < teams.length) (j : Nat) (hj : j < teams[i].length)
    (m : ℝ) (hm : teams[i][j].mu ≤ m)
    (hd : ∀ b ∈ aggs teams, Scalar.ofNat 0 < pairDenom teams.length β (teamAgg teams[i] 0) b)
    (h1 : i < (predictWin β teams).length)
    (h2 : i < (predictWin β (teams.set i (fl5_setMu teams[i] j m))).length) :
    (predictWin β teams)[i] ≤ (predictWin β (teams.set i (fl5_setMu teams[i] j m)))[i] :=
  FL_C09_many_monotone_own MonoArith.real PhiMono.real β teams hn i hi j hj m hm hd h1 h2

theorem FL_C09_many_monotone_other_real (β : ℝ) (teams : List (List (Rating ℝ)))
    (hn : 3 ≤ teams.length) (i : Nat) (hi : i < teams.length) (j : Nat) (hj : j < teams[i].length)
    (m : ℝ) (hm : teams[i][j].mu ≤ m) (k : Nat) (hk : k < teams.length) (hki : k ≠ i)
    (hd : ∀ b ∈ aggs teams, Scalar.ofNat 0 < pairDenom teams.length β (teamAgg teams[k] 0) b)
    (h1 : k < (predictWin β teams).length)
    (h2 : k < (predictWin β (teams.set i (fl5_setMu teams[i] j m))).length) :
    (predictWin β (teams.set i (fl5_setMu teams[i] j m)))[k] ≤ (predictWin β teams)[k] :=
  FL_C09_many_monotone_other MonoArith.real PhiMono.real β teams hn i hi j hj m hm k hk hki hd h1 h2

/-! ### every rounded arithmetic `RN r` -/

variable (r : Rounding)

/-- a team's summed mu, rounded after every addition, is monotone in each member's mu -/
theorem FL_teamAgg_mu_mono_rn (t : List (Rating (RN r))) (j : Nat) (hj : j < t.length) (m : RN r)
    (h : t[j].mu ≤ m) (rk : Nat) :
    (teamAgg t rk).mu ≤ (teamAgg (fl5_setMu t j m) rk).mu
      ∧ (teamAgg (fl5_setMu t j m) rk).sig2 = (teamAgg t rk).sig2 :=
  FL_teamAgg_mu_mono (MonoArith.rn r) t j hj m h rk

/-- two teams, rounded arithmetic; the divisor hypothesis is discharged from "team a's rounded variance is
`> 0`" -/
theorem FL_C09_two_monotone_rn (β : RN r) (a b : List (Rating (RN r))) (j : Nat) (hj : j < a.length)
    (m : RN r) (hm : a[j].mu ≤ m) (hv : Scalar.ofNat 0 < (teamAgg a 0).sig2) :
    FL5_winR β a b ≤ FL5_winR β (fl5_setMu a j m) b
      ∧ Scalar.ofNat 1 - FL5_winR β (fl5_setMu a j m) b ≤ Scalar.ofNat 1 - FL5_winR β a b :=
  FL_C09_two_monotone (MonoArith.rn r) (PhiMono.rn r) β a b j hj m hm
    (FL_pairDenom_pos (MonoArith.rn r) _ β a b hv)

theorem FL_C09_two_monotone_b_rn (β : RN r) (a b : List (Rating (RN r))) (j : Nat) (hj : j < b.length)
    (m : RN r) (hm : b[j].mu ≤ m) (hv : Scalar.ofNat 0 < (teamAgg a 0).sig2) :
    FL5_winR β a (fl5_setMu b j m) ≤ FL5_winR β a b
      ∧ Scalar.ofNat 1 - FL5_winR β a b ≤ Scalar.ofNat 1 - FL5_winR β a (fl5_setMu b j m) :=
  FL_C09_two_monotone_b (MonoArith.rn r) (PhiMono.rn r) β a b j hj m hm
    (FL_pairDenom_pos (MonoArith.rn r) _ β a b hv)

/-- three or more teams, rounded arithmetic, own entry; hypothesis: team `i`'s rounded variance is `> 0` -/
theorem FL_C09_many_monotone_own_rn (β : RN r) (teams : List (List (Rating (RN r))))
    (hn : 3 ≤ teams.length) (i : Nat) (hi : i < teams.length) (j : Nat) (hj : j < teams[i].length)
    (m : RN r) (hm : teams[i][j].mu ≤ m) (hv : Scalar.ofNat 0 < (teamAgg teams[i] 0).sig2)
    (h1 : i < (predictWin β teams).length)
    (h2 : i < (predictWin β (teams.set i (fl5_setMu teams[i] j m))).length) :
    (predictWin β teams)[i] ≤ (predictWin β (teams.set i (fl5_setMu teams[i] j m)))[i] :=
  FL_C09_many_monotone_own (MonoArith.rn r) (PhiMono.rn r) β teams hn i hi j hj m hm
    (FL_C09_divisors_pos_of_var_pos (MonoArith.rn r) β teams i hi hv _) h1 h2

/-- three or more teams, rounded arithmetic, other entries; hypothesis: team `k`'s rounded variance is `> 0` -/
theorem FL_C09_many_monotone_other_rn (β : RN r) (teams : List (List (Rating (RN r))))
    (hn : 3 ≤ teams.length) (i : Nat) (hi : i < teams.length) (j : Nat) (hj : j < teams[i].length)
    (m : RN r) (hm : teams[i][j].mu ≤ m) (k : Nat) (hk : k < teams.length) (hki : k ≠ i)
    (hv : Scalar.ofNat 0 < (teamAgg teams[k] 0).sig2)
    (h1 : k < (predictWin β teams).length)
    (h2 : k < (predictWin β (teams.set i (fl5_setMu teams[i] j m))).length) :
    (predictWin β (teams.set i (fl5_setMu teams[i] j m)))[k] ≤ (predictWin β teams)[k] :=
  FL_C09_many_monotone_other (MonoArith.rn r) (PhiMono.rn r) β teams hn i hi j hj m hm k hk hki
    (FL_C09_divisors_pos_of_var_pos (MonoArith.rn r) β teams k hk hv _) h1 h2

/-- `predict_rank` probabilities, rounded arithmetic, own and other entries -/
theorem FL_C11_probs_monotone_own_rn (β : RN r) (teams : List (List (Rating (RN r))))
    (hn : 2 ≤ teams.length) (i : Nat) (hi : i < teams.length) (j : Nat) (hj : j < teams[i].length)
    (m : RN r) (hm : teams[i][j].mu ≤ m) (hv : Scalar.ofNat 0 < (teamAgg teams[i] 0).sig2)
    (h1 : i < (predictRankProbs β teams).length)
    (h2 : i < (predictRankProbs β (teams.set i (fl5_setMu teams[i] j m))).length) :
    (predictRankProbs β teams)[i]
      ≤ (predictRankProbs β (teams.set i (fl5_setMu teams[i] j m)))[i] :=
  FL_C11_probs_monotone_own (MonoArith.rn r) (PhiMono.rn r) β teams hn i hi j hj m hm
    (FL_C09_divisors_pos_of_var_pos (MonoArith.rn r) β teams i hi hv _) h1 h2

theorem FL_C11_probs_monotone_other_rn (β : RN r) (teams : List (List (Rating (RN r))))
    (hn : 2 ≤ teams.length) (i : Nat) (hi : i < teams.length) (j : Nat) (hj : j < teams[i].length)
    (m : RN r) (hm : teams[i][j].mu ≤ m) (k : Nat) (hk : k < teams.length) (hki : k ≠ i)
    (hv : Scalar.ofNat 0 < (teamAgg teams[k] 0).sig2)
    (h1 : k < (predictRankProbs β teams).length)
    (h2 : k < (predictRankProbs β (teams.set i (fl5_setMu teams[i] j m))).length) :
    (predictRankProbs β (teams.set i (fl5_setMu teams[i] j m)))[k]
      ≤ (predictRankProbs β teams)[k] :=
  FL_C11_probs_monotone_other (MonoArith.rn r) (PhiMono.rn r) β teams hn i hi j hj m hm k hk hki
    (FL_C09_divisors_pos_of_var_pos (MonoArith.rn r) β teams k hk hv _) h1 h2

/-! ### `PhiMono` is independent of `MonoArith`

`FL5Wob` is ℝ with the exact arithmetic and a *decreasing* `Φ` with values in `{0, 1}`.  It satisfies every
law of `MonoArith` (those only ask `0 ≤ Φ ≤ 1`) and it does not satisfy `PhiMono`: the hypothesis `PhiMono`
of the theorems of `Props/FL5.lean` is not a consequence of the order laws. -/

/-- a decreasing step function with values 1 and 0 -/
def fl5_wobPhi (x : ℝ) : ℝ := if x ≤ 0 then 1 else 0

/-- ℝ with a wobbling `Φ` -/
def FL5Wob : Type := ℝ

instance instScalarWob : Scalar FL5Wob where
  add := fun a b : ℝ => a + b
  sub := fun a b : ℝ => a - b
  mul := fun a b : ℝ => a * b
  div := fun a b : ℝ => a / b
  neg := fun a : ℝ => -a
  lt := fun a b : ℝ => a < b
  le := fun a b : ℝ => a ≤ b
  ofNat n := (n : ℝ)
  sqrt := Real.sqrt
  exp := Real.exp
  Phi := fl5_wobPhi
  phi := Gauss.phi
  PhiInv := Gauss.PhiInv
  decLt _ _ := Classical.propDecidable _
  decLe _ _ := Classical.propDecidable _

/-- every law of `MonoArith` is the law of ℝ, except the two about `Φ` -/
theorem MonoArith.wob : MonoArith FL5Wob :=
  { MonoArith.real with
    Phi_nonneg' := fun a : ℝ => by
      show ((0 : ℕ) : ℝ) ≤ fl5_wobPhi a
      rw [Nat.cast_zero]
      unfold fl5_wobPhi
      split
      · exact _root_.zero_le_one
      · exact le_rfl
    Phi_le_one' := fun a : ℝ => by
      show fl5_wobPhi a ≤ ((1 : ℕ) : ℝ)
      rw [Nat.cast_one]
      unfold fl5_wobPhi
      split
      · exact le_rfl
      · exact _root_.zero_le_one }

/-- `MonoArith` does not imply `PhiMono`: `Φ 0 = 1 > 0 = Φ 1` -/
theorem FL5_PhiMono_independent : MonoArith FL5Wob ∧ ¬ PhiMono FL5Wob := by
  refine ⟨MonoArith.wob, fun h => ?_⟩
  have h1 := h (ofNat 0) (ofNat 1) (MonoArith.wob.ofNat_le' (Nat.zero_le 1))
  change fl5_wobPhi ((0 : ℕ) : ℝ) ≤ fl5_wobPhi ((1 : ℕ) : ℝ) at h1
  rw [Nat.cast_zero, Nat.cast_one] at h1
  unfold fl5_wobPhi at h1
  rw [if_pos le_rfl, if_neg (not_le.2 zero_lt_one)] at h1
  exact not_le.2 zero_lt_one h1

end OS
end
