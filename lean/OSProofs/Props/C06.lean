import OSProofs.C06Lemmas
import OSProofs.Props.FL1
import OSProofs.MonoArithInst
import Mathlib.Algebra.BigOperators.Group.Finset.Basic

/-!
# C06 — sigma stays positive, grows by at most tau per game, and limit_sigma caps it

All statements are about the model of `OSModel` instantiated at `ℝ`.

* `delta_nonneg` — in all five models the variance component `δ_t` of every team is `≥ 0`.
* `applyTeam_sigma_le` — the per-player tail of `_compute` multiplies sigma by a factor in `(0,1]`.
* `C06_game_membership` — every returned team is the `applyTeam` image (with some `δ ≥ 0`) of
  one of the tau-inflated input teams; needs no hypothesis on the ranks.
* `C06_game`, `C06_rate` — slot by slot: `σ' ≤ √(σ² + τ²)`, positivity, and `σ' ≤ σ` under limit_sigma.
* `C06_clamp` — the limit_sigma clamp returns `min(σ_new, σ_old)` in every slot.
* `C06_history`, `C06_history_limit` — the league-level consequences, over an abstract step.

The hypotheses:

* on gamma, `GammaOK g`: `0 ≤ gamma(c, …, σ², …)` whenever `0 ≤ c` and `0 ≤ σ²`.  Asked of every `c` it
  would exclude the library default `√σ²/c`, which is negative for `c < 0`;
* neither `β > 0` nor "all prior `σ ≥ 0`" is asked: over ℝ `√` and `x/0 = 0` keep every quantity
  involved non-negative; `LeafFacts L` is asked for TMF/TMP only.

Positivity: "`σ ≠ 0 ∨ τ ≠ 0 → 0 < σ'`" fails when limit_sigma is in force, `σ = 0` and `τ ≠ 0`, because the
clamp puts `σ' = min(σ_new, 0) = 0` (`C06_limit_zero_stays_zero`).  `C06_game` states `0 < σ → 0 < σ'`
always, and `(σ ≠ 0 ∨ τ ≠ 0) → 0 < σ'` when limit_sigma is off.
-/

noncomputable section
namespace OS
open Scalar

/-- **δ ≥ 0.**  For each of the five models, any list of team aggregates with non-negative
team variances, `κ > 0` and a gamma callback that is non-negative on non-negative arguments
(and, for the two Thurstone–Mosteller models only, the leaf facts `W ≥ 0`, `W̃ ≥ 0`): the second
component of every `(ω, δ)` pair `_compute` produces is non-negative. -/
theorem delta_nonneg (K : Kind) (L : Leaves ℝ) (P : Params ℝ)
    (hL : K = .TMF ∨ K = .TMP → LeafFacts L) (hk0 : 0 < P.kappa) (hg : GammaOK P.gamma)
    (ts : List (TeamAgg ℝ)) (hts : ∀ t ∈ ts, 0 ≤ t.sig2) :
    ∀ od ∈ omegaDelta K L P ts, 0 ≤ od.2 :=
  omegaDelta_snd_nonneg K L hL P hk0.le hg ts hts

/-- **applyTeam can only shrink sigma.**  With `δ ≥ 0`, `0 < κ ≤ 1` and a non-negative team
variance, `applyTeam κ t ω δ` is `t.players.map (updPlayer κ t.sig2 ω δ)` and, slot by slot,
the new rating keeps the id, has `σ' ≤ σ` and `0 ≤ σ'` when `0 ≤ σ`, and `0 < σ'` when `0 < σ`. -/
theorem applyTeam_sigma_le {kappa omega delta : ℝ} (t : TeamAgg ℝ) (hd : 0 ≤ delta)
    (hk0 : 0 < kappa) (hk1 : kappa ≤ 1) (hs : 0 ≤ t.sig2) :
    applyTeam kappa t omega delta = t.players.map (updPlayer kappa t.sig2 omega delta) ∧
    List.Forall₂ (fun p p' => p'.id = p.id ∧ (0 ≤ p.sigma → p'.sigma ≤ p.sigma ∧ 0 ≤ p'.sigma)
        ∧ (0 < p.sigma → 0 < p'.sigma))
      t.players (applyTeam kappa t omega delta) := by
  exact ⟨rfl, applyTeam_forall₂ t fun p _ =>
    ⟨rfl, fun hp => ⟨updPlayer_sigma_le hd hk1 hs p hp, updPlayer_sigma_nonneg p hp⟩,
      fun hp => updPlayer_sigma_pos hk0 p hp⟩⟩

/-- membership form of `applyTeam_sigma_le` -/
theorem applyTeam_sigma_le_mem {kappa omega delta : ℝ} (t : TeamAgg ℝ) (hd : 0 ≤ delta)
    (hk0 : 0 < kappa) (hk1 : kappa ≤ 1) (hs : 0 ≤ t.sig2) :
    ∀ p' ∈ applyTeam kappa t omega delta, ∃ p ∈ t.players, p'.id = p.id ∧
      (0 ≤ p.sigma → p'.sigma ≤ p.sigma) ∧ (0 < p.sigma → 0 < p'.sigma) := by
  intro p' hp'
  obtain ⟨p, hp, h1, h2, h3⟩ :=
    forall₂_mem_right (applyTeam_sigma_le (omega := omega) t hd hk0 hk1 hs).2 hp'
  exact ⟨p, hp, h1, fun h => (h2 h).1, h3⟩

/-- what C06 says about one slot before the limit_sigma clamp: `p` the rating passed in,
`p'` the rating returned, `τ` the additive dynamics factor of the call -/
def SlotRaw (tau : ℝ) (p p' : Rating ℝ) : Prop :=
  p'.id = p.id ∧ 0 ≤ p'.sigma ∧ p'.sigma ≤ √(p.sigma ^ 2 + tau ^ 2)
    ∧ ((p.sigma ≠ 0 ∨ tau ≠ 0) → 0 < p'.sigma)

theorem isUpdateOf_slots {kappa tau : ℝ} (hk0 : 0 < kappa) (hk1 : kappa ≤ 1)
    {S T : List (Rating ℝ)} (h : IsUpdateOf kappa (S.map (inflPlayer tau)) T) :
    List.Forall₂ (SlotRaw tau) S T := by
  obtain ⟨rank, ω, δ, hδ, rfl⟩ := h
  -- the players of `teamAgg (S.map (inflPlayer tau)) rank` are `S.map (inflPlayer tau)`
  refine (List.forall₂_map_left_iff.1 (applyTeam_sigma_le (omega := ω)
    (teamAgg (S.map (inflPlayer tau)) rank) hδ hk0 hk1 (teamAgg_sig2_nonneg _ rank)).2).imp ?_
  intro p p' ⟨hid, hle, hpos⟩
  obtain ⟨h1, h0⟩ := hle (inflPlayer_sigma_nonneg tau p)
  exact ⟨hid, h0, h1.trans_eq (inflPlayer_sigma tau p), fun hp => hpos (inflPlayer_sigma_pos tau p hp)⟩

/-- the result of `rate` before the limit_sigma clamp -/
def rawResult {ρ : Type} (K : Kind) (L : Leaves ℝ) (P : Params ℝ) (le : ρ → ρ → Bool)
    (teams : List (List (Rating ℝ))) (ranks : Option (List ρ)) (o : CallOpts ℝ) :
    List (List (Rating ℝ)) :=
  rateCore K L P le teams ranks { o with limitSigma := some false }

theorem rawResult_eq_rateRaw {ρ : Type} (K : Kind) (L : Leaves ℝ) (P : Params ℝ)
    (le : ρ → ρ → Bool) (teams : List (List (Rating ℝ))) (ranks : Option (List ρ)) (o : CallOpts ℝ) :
    rawResult K L P le teams ranks o = rateRaw K L P le (resolveTau P o) teams ranks := by
  cases ranks <;> rfl

theorem rateCore_eq_clamp {ρ : Type} (K : Kind) (L : Leaves ℝ) (P : Params ℝ) (le : ρ → ρ → Bool)
    (teams : List (List (Rating ℝ))) (ranks : Option (List ρ)) (o : CallOpts ℝ) :
    rateCore K L P le teams ranks o =
      if resolveLimit P o then clampTeams teams (rawResult K L P le teams ranks o)
      else rawResult K L P le teams ranks o := by
  rw [rawResult_eq_rateRaw]
  exact rateCore_eq_clamp_rateRaw K L P le teams ranks o

/-- **C06, membership form.**  For every model, every parameter set with `κ ≥ 0` and a gamma
callback that is non-negative on non-negative arguments, every list of teams, every `ranks`
(no hypothesis on their number or order) and every call options: each team returned before the
clamp is `applyTeam κ (teamAgg S rank) ω δ` for one of the tau-inflated input teams `S`, some
`rank`, some `ω` and some `δ ≥ 0`. -/
theorem C06_game_membership {ρ : Type} (K : Kind) (L : Leaves ℝ) (P : Params ℝ)
    (le : ρ → ρ → Bool) (teams : List (List (Rating ℝ))) (ranks : Option (List ρ))
    (o : CallOpts ℝ) (hL : K = .TMF ∨ K = .TMP → LeafFacts L) (hk : 0 ≤ P.kappa)
    (hg : GammaOK P.gamma) :
    ∀ T ∈ rawResult K L P le teams ranks o,
      ∃ S ∈ inflate (resolveTau P o) teams, ∃ (rank : Nat) (omega delta : ℝ),
        0 ≤ delta ∧ T = applyTeam P.kappa (teamAgg S rank) omega delta := by
  intro T hT
  rw [rawResult_eq_rateRaw] at hT
  cases ranks with
  | none => exact compute_isUpdateOf K L hL P hk hg _ _ T hT
  | some r =>
    obtain ⟨S, hS, hU⟩ := compute_isUpdateOf K L hL P hk hg _ _ T (mem_unwind_fst _ _ _ hT)
    exact ⟨S, mem_unwind_fst _ _ _ hS, hU⟩

/-- per-player reading of the membership form: every player of every returned team is the
update of a player `q` (same id) of a tau-inflated input team with `0 ≤ σ' ≤ σ̂_q`, and
`0 < σ'` when `σ̂_q > 0` -/
theorem C06_game_membership_players {ρ : Type} (K : Kind) (L : Leaves ℝ) (P : Params ℝ)
    (le : ρ → ρ → Bool) (teams : List (List (Rating ℝ))) (ranks : Option (List ρ))
    (o : CallOpts ℝ) (hL : K = .TMF ∨ K = .TMP → LeafFacts L) (hk0 : 0 < P.kappa)
    (hk1 : P.kappa ≤ 1) (hg : GammaOK P.gamma) :
    ∀ T ∈ rawResult K L P le teams ranks o, ∀ p' ∈ T,
      ∃ S ∈ teams, ∃ p ∈ S, p'.id = p.id ∧ 0 ≤ p'.sigma
        ∧ p'.sigma ≤ √(p.sigma ^ 2 + resolveTau P o ^ 2)
        ∧ ((p.sigma ≠ 0 ∨ resolveTau P o ≠ 0) → 0 < p'.sigma) := by
  intro T hT p' hp'
  obtain ⟨S, hS, rank, ω, δ, hδ, rfl⟩ := C06_game_membership K L P le teams ranks o hL hk0.le hg T hT
  obtain ⟨S₀, hS₀, rfl⟩ := mem_inflate hS
  have hsl := isUpdateOf_slots (tau := resolveTau P o) hk0 hk1 (S := S₀) ⟨rank, ω, δ, hδ, rfl⟩
  obtain ⟨p, hp, h⟩ := forall₂_mem_right hsl hp'
  exact ⟨S₀, hS₀, p, hp, h⟩

/-- slot form before the clamp: team `i` of the result is an `applyTeam` image, with `δ ≥ 0`,
of team `i` of the tau-inflated input -/
theorem rawResult_forall₂ {ρ : Type} (K : Kind) (L : Leaves ℝ) (P : Params ℝ)
    (le : ρ → ρ → Bool) (teams : List (List (Rating ℝ))) (ranks : Option (List ρ))
    (o : CallOpts ℝ) (hL : K = .TMF ∨ K = .TMP → LeafFacts L) (hk : 0 ≤ P.kappa)
    (hg : GammaOK P.gamma) (hr : ∀ r, ranks = some r → teams.length ≤ r.length) :
    List.Forall₂ (IsUpdateOf P.kappa) (inflate (resolveTau P o) teams)
      (rawResult K L P le teams ranks o) := by
  rw [rawResult_eq_rateRaw, rateRaw_eq_zipWith _ _ _ _ _ _ _ hr]
  refine forall₂_zipWith_left (by rw [rateData_length _ _ _ _ _ _ _ hr, inflate_length])
    fun S _ w hw => ⟨w.1, w.2.1, w.2.2, ?_, rfl⟩
  refine omegaDelta_snd_nonneg K L hL P hk hg _ (fun t ht => ?_) _
    (rateData_snd_mem K L P le teams ranks o w hw)
  obtain ⟨S, -, r, rfl⟩ := mem_prepared ht
  exact teamAgg_sig2_nonneg S r

/-- the clamp on lists of the same shape, as a slot-wise relation -/
theorem C06_clamp_forall₂ {A : Rating ℝ → Rating ℝ → Prop} {orig res : List (List (Rating ℝ))}
    (h : List.Forall₂ (List.Forall₂ A) orig res) :
    List.Forall₂ (List.Forall₂ (fun p r => ∃ q, A p q ∧ r.id = q.id ∧ r.mu = q.mu
        ∧ r.sigma = min q.sigma p.sigma)) orig (clampTeams orig res) := by
  refine (clampTeams_forall₂ h).imp fun S T hST => hST.imp ?_
  rintro p r ⟨q, hpq, rfl⟩
  exact ⟨q, hpq, clampPlayer_id q p, clampPlayer_mu q p, clampPlayer_sigma q p⟩

/-- what C06 says about one slot of `rate`: `p` the rating passed in, `p'` the rating returned -/
def SlotC06 (tau : ℝ) (limit : Bool) (p p' : Rating ℝ) : Prop :=
  p'.id = p.id
  ∧ p'.sigma ≤ √(p.sigma ^ 2 + tau ^ 2)
  ∧ (0 < p.sigma → 0 < p'.sigma)
  ∧ (limit = false → (p.sigma ≠ 0 ∨ tau ≠ 0) → 0 < p'.sigma)
  ∧ (0 ≤ p.sigma → 0 ≤ p'.sigma)
  ∧ (limit = true → p'.sigma ≤ p.sigma)

/-- **C06 for one game, slot by slot.**  For every model, every parameter set with
`0 < κ ≤ 1` and a gamma callback non-negative on non-negative arguments (leaf facts for the two
Thurstone–Mosteller models), every list of teams, ranks omitted or as many ranks as teams,
every call options, with `τ` and `limit_sigma` as resolved for the call: the result has the
shape of the input and the rating `p'` returned in slot `[i][j]` for the rating `p` passed in
that slot has the same id and

* `σ' ≤ √(σ² + τ²)`;
* `0 < σ'` if `0 < σ`; also if merely `σ ≠ 0 ∨ τ ≠ 0` provided limit_sigma is off;
* `0 ≤ σ'` if `0 ≤ σ`;
* `σ' ≤ σ` if limit_sigma is on. -/
theorem C06_game {ρ : Type} (K : Kind) (L : Leaves ℝ) (P : Params ℝ)
    (le : ρ → ρ → Bool) (teams : List (List (Rating ℝ))) (ranks : Option (List ρ))
    (o : CallOpts ℝ) (hL : K = .TMF ∨ K = .TMP → LeafFacts L) (hk0 : 0 < P.kappa)
    (hk1 : P.kappa ≤ 1) (hg : GammaOK P.gamma)
    (hr : ∀ r, ranks = some r → r.length = teams.length) :
    List.Forall₂ (List.Forall₂ (SlotC06 (resolveTau P o) (resolveLimit P o)))
      teams (rateCore K L P le teams ranks o) := by
  have hraw := rawResult_forall₂ K L P le teams ranks o hL hk0.le hg
    (fun r h => (hr r h).ge)
  rw [inflate_eq_map_inflPlayer, List.forall₂_map_left_iff] at hraw
  have hraw' : List.Forall₂ (List.Forall₂ (SlotRaw (resolveTau P o))) teams
      (rawResult K L P le teams ranks o) :=
    hraw.imp (fun S T h => isUpdateOf_slots hk0 hk1 h)
  rw [rateCore_eq_clamp]
  cases hlim : resolveLimit P o with
  | false =>
    simp only [Bool.false_eq_true, if_false]
    refine hraw'.imp (fun S T h => h.imp ?_)
    rintro p p' ⟨h1, h2, h3, h4⟩
    exact ⟨h1, h3, fun hp => h4 (Or.inl hp.ne'), fun _ hp => h4 hp, fun _ => h2,
      fun h => Bool.noConfusion h⟩
  | true =>
    simp only [if_true]
    refine (C06_clamp_forall₂ hraw').imp fun S T h => h.imp ?_
    rintro p p'' ⟨p', ⟨h1, h2, h3, h4⟩, hid, -, hσ⟩
    rw [SlotC06, hσ]
    exact ⟨hid.trans h1, (min_le_left _ _).trans h3, fun hp => lt_min (h4 (Or.inl hp.ne')) hp,
      fun h => Bool.noConfusion h, fun hp => le_min h2 hp, fun _ => min_le_right _ _⟩

/-- `C06_game` read at one slot `[i][j]` with `getElem` -/
theorem C06_game_slot {ρ : Type} (K : Kind) (L : Leaves ℝ) (P : Params ℝ)
    (le : ρ → ρ → Bool) (teams : List (List (Rating ℝ))) (ranks : Option (List ρ))
    (o : CallOpts ℝ) (hL : K = .TMF ∨ K = .TMP → LeafFacts L) (hk0 : 0 < P.kappa)
    (hk1 : P.kappa ≤ 1) (hg : GammaOK P.gamma)
    (hr : ∀ r, ranks = some r → r.length = teams.length)
    (i j : Nat) (hi : i < teams.length) (hj : j < teams[i].length) :
    ∃ (hi' : i < (rateCore K L P le teams ranks o).length)
      (hj' : j < ((rateCore K L P le teams ranks o)[i]).length),
      SlotC06 (resolveTau P o) (resolveLimit P o) (teams[i][j])
        ((rateCore K L P le teams ranks o)[i][j]) := by
  have h := C06_game K L P le teams ranks o hL hk0 hk1 hg hr
  have hi' : i < (rateCore K L P le teams ranks o).length := h.length_eq ▸ hi
  have h2 := h.get hi hi'
  exact ⟨hi', h2.length_eq ▸ hj, h2.get hj _⟩

/-- **C06 for `rate`** (ranks, scores or neither): the same slot-wise statement as `C06_game` -/
theorem C06_rate {ρ : Type} (K : Kind) (L : Leaves ℝ) (P : Params ℝ)
    (le : ρ → ρ → Bool) (neg : ρ → ρ) (teams : List (List (Rating ℝ))) (oc : Outcome ρ)
    (o : CallOpts ℝ) (hL : K = .TMF ∨ K = .TMP → LeafFacts L) (hk0 : 0 < P.kappa)
    (hk1 : P.kappa ≤ 1) (hg : GammaOK P.gamma)
    (hr : ∀ r, (oc = .ranks r ∨ oc = .scores r) → r.length = teams.length) :
    List.Forall₂ (List.Forall₂ (SlotC06 (resolveTau P o) (resolveLimit P o)))
      teams (rate K L P le neg teams oc o) := by
  rw [rate_eq_rateCore]
  exact C06_game K L P le teams _ o hL hk0 hk1 hg (lft_ranksOf_length neg hr)

/-- the corner that makes "`σ > 0 ∨ τ ≠ 0 → 0 < σ'`" false under limit_sigma: a rating that
enters with `σ = 0` while limit_sigma is in force leaves with `σ' = 0`, whatever `τ` is -/
theorem C06_limit_zero_stays_zero {tau : ℝ} {p p' : Rating ℝ} (h : SlotC06 tau true p p')
    (hp : p.sigma = 0) : p'.sigma = 0 := by
  obtain ⟨_, _, _, _, h5, h6⟩ := h
  exact le_antisymm (hp ▸ h6 rfl) (h5 hp.ge)

/-- **The limit_sigma clamp.**  `clampTeams orig res` is the slot-wise `clampP` of `res` against
`orig`; whenever slot `[i][j]` of it exists, so do slots `[i][j]` of `orig` (rating `p`) and of
`res` (rating `q`), and the clamped rating has the id and mu of `q` and
`σ = min(σ_q, σ_p)` — in particular `≤ σ_p` and `≤ σ_q`. -/
theorem C06_clamp (orig res : List (List (Rating ℝ))) :
    clampTeams orig res = List.zipWith (List.zipWith clampP) res orig ∧
    ∀ (i j : Nat) (r : Rating ℝ), ((clampTeams orig res)[i]?).bind (·[j]?) = some r →
      ∃ p q, (orig[i]?).bind (·[j]?) = some p ∧ (res[i]?).bind (·[j]?) = some q ∧
        r.id = q.id ∧ r.mu = q.mu ∧ r.sigma = min q.sigma p.sigma ∧
        r.sigma ≤ p.sigma ∧ r.sigma ≤ q.sigma := by
  refine ⟨clampP_eq_clampPlayer ▸ clampTeams_eq_zipWith_clampPlayer orig res, fun i j r h => ?_⟩
  -- `FL_C06_clamp` at ℝ: `r.σ` is `≤` both and is one of the two, hence the smaller one
  obtain ⟨p, q, hp, hq, h1, h2, h3, h4, h5⟩ := FL_C06_clamp MonoArith.real orig res i j r h
  refine ⟨p, q, hp, hq, h1, h2, ?_, h3, h4⟩
  rcases h5 with e | e
  · rw [e, min_eq_left (e ▸ h3)]
  · rw [e, min_eq_right (e ▸ h4)]

/-- one game of a league seen from the players' sigmas: the `τ` of the call, who takes part,
and the sigma of every player after the game -/
structure GameStep where
  tau : ℝ
  plays : Nat → Prop
  post : Nat → ℝ

/-- `g` is a step the rating system can take from the state `sig`: participants end with
`0 ≤ σ' ≤ √(σ² + τ²)` (what `C06_game` gives), everybody else is untouched -/
def GameStep.Adm (g : GameStep) (sig : Nat → ℝ) : Prop :=
  ∀ p, (g.plays p → 0 ≤ g.post p ∧ g.post p ≤ √(sig p ^ 2 + g.tau ^ 2))
    ∧ (¬ g.plays p → g.post p = sig p)

open Classical in
/-- what game `g` adds to the variance budget of player `p`: `τ_g²` if `p` takes part, else `0` -/
def stepBudget (g : GameStep) (p : Nat) : ℝ := if g.plays p then g.tau ^ 2 else 0

theorem stepBudget_pos {g : GameStep} {p : Nat} (h : g.plays p) : stepBudget g p = g.tau ^ 2 :=
  if_pos h

theorem stepBudget_neg {g : GameStep} {p : Nat} (h : ¬ g.plays p) : stepBudget g p = 0 :=
  if_neg h

/-- `Σ τ_g²` over the first `k` games in which player `p` took part -/
def tauBudget (g : Nat → GameStep) (p k : Nat) : ℝ :=
  ∑ i ∈ Finset.range k, stepBudget (g i) p

theorem tauBudget_zero (g : Nat → GameStep) (p : Nat) : tauBudget g p 0 = 0 :=
  Finset.sum_range_zero _

theorem tauBudget_succ (g : Nat → GameStep) (p k : Nat) :
    tauBudget g p (k + 1) = tauBudget g p k + stepBudget (g k) p :=
  Finset.sum_range_succ _ k

/-- a slot of `C06_game` is an admissible participant step -/
theorem SlotC06.adm {tau : ℝ} {limit : Bool} {p p' : Rating ℝ} (h : SlotC06 tau limit p p')
    (hp : 0 ≤ p.sigma) : 0 ≤ p'.sigma ∧ p'.sigma ≤ √(p.sigma ^ 2 + tau ^ 2) :=
  ⟨h.2.2.2.2.1 hp, h.2.1⟩

/-- **Variance budget of a league.**  Let `sig k` be the sigmas after `k` games and suppose each
of the first `N` games is an admissible step.  Then for every `k ≤ N` and every player,
`σ_k² ≤ σ_0² + Σ_{g < k, p plays in g} τ_g²`. -/
theorem C06_history (g : Nat → GameStep) (sig : Nat → Nat → ℝ) (N : Nat)
    (hstep : ∀ k < N, (g k).Adm (sig k) ∧ sig (k + 1) = (g k).post) :
    ∀ k ≤ N, ∀ p, sig k p ^ 2 ≤ sig 0 p ^ 2 + tauBudget g p k := by
  intro k
  induction k with
  | zero => intro _ p; rw [tauBudget_zero, add_zero]
  | succ k ih =>
    intro hk p
    have ih' := ih (Nat.le_of_succ_le hk) p
    obtain ⟨hadm, hnext⟩ := hstep k hk
    obtain ⟨hplay, hrest⟩ := hadm p
    rw [tauBudget_succ, hnext, ← add_assoc]
    by_cases hpl : (g k).plays p
    · obtain ⟨h0, h1⟩ := hplay hpl
      rw [stepBudget_pos hpl]
      exact ((Real.le_sqrt h0 (add_nonneg (sq_nonneg _) (sq_nonneg _))).1 h1).trans
        (add_le_add ih' le_rfl)
    · rw [stepBudget_neg hpl, hrest hpl, add_zero]
      exact ih'

/-- **limit_sigma makes sigma non-increasing along a league.**  If in each of the first `N`
games every player's sigma after the game is at most the one before (participants by
`C06_game` with limit_sigma on, the others untouched), then `k ≤ l ≤ N → σ_l ≤ σ_k`. -/
theorem C06_history_limit (g : Nat → GameStep) (sig : Nat → Nat → ℝ) (N : Nat)
    (hstep : ∀ k < N, sig (k + 1) = (g k).post ∧ ∀ p, (g k).post p ≤ sig k p) :
    ∀ k l, k ≤ l → l ≤ N → ∀ p, sig l p ≤ sig k p := by
  intro k l hkl
  induction l, hkl using Nat.le_induction with
  | base => intro _ p; exact le_refl _
  | succ l hkl ih =>
    intro hl p
    obtain ⟨hnext, hle⟩ := hstep l hl
    rw [hnext]
    exact (hle p).trans (ih (Nat.le_of_succ_le hl) p)

/-! ### the hypotheses are satisfiable -/

/-- the library defaults `κ = 0.0001`, `β = 25/6` -/
example : (0 : ℝ) < 1 / 10000 ∧ (1 / 10000 : ℝ) ≤ 1 ∧ (0 : ℝ) < 25 / 6 := by norm_num

/-- the default gamma `√σ² / c` is admissible -/
example : GammaOK (GammaFn.dflt : GammaFn ℝ) := gammaOK_dflt

/-- so are `1/k`, `1/(rank+1)`, `σ²/c²`, `0` and every non-negative constant -/
example : GammaOK (GammaFn.invK : GammaFn ℝ) ∧ GammaOK (GammaFn.rankDep : GammaFn ℝ)
    ∧ GammaOK (GammaFn.sq : GammaFn ℝ) ∧ GammaOK (GammaFn.zero : GammaFn ℝ)
    ∧ GammaOK (GammaFn.const (3 / 2) : GammaFn ℝ) :=
  ⟨Gamma_tagged_nonneg _ trivial (by intro x h; cases h), Gamma_tagged_nonneg _ trivial (by intro x h; cases h),
   Gamma_tagged_nonneg _ trivial (by intro x h; cases h), Gamma_tagged_nonneg _ trivial (by intro x h; cases h),
   Gamma_tagged_nonneg _ trivial (by intro x h; cases h; norm_num)⟩

/-- `gammaVal .dflt` is `≥ 0` for `c ≥ 0` -/
example (c : ℝ) (k : Nat) (mu s2 : ℝ) (team : List (Rating ℝ)) (r : Nat) (hc : 0 ≤ c) :
    0 ≤ gammaVal GammaFn.dflt c k mu s2 team r := by
  simp only [gammaVal, sc_sqrt]; exact div_nonneg (Real.sqrt_nonneg _) hc

/-- an arbitrary callback is admissible as soon as it is non-negative for `c, σ² ≥ 0`; e.g. the
team-reading callback `√(Σ_team σ²)/c`, or "mean variance of the roster" -/
example : GammaOK gammaTeamSigma ∧
    GammaOK (.fn (fun _ _ _ s2 team _ => s2 / (team.length + 1)) : GammaFn ℝ) :=
  ⟨gam_teamSigma_gammaOK, fun _ _ _ _ team _ _ hs => div_nonneg hs (by positivity)⟩

/-- the unrestricted hypothesis "`0 ≤ gamma` for all `c`" would exclude the default callback -/
example : ¬ ∀ (c : ℝ) (k : Nat) (mu s2 : ℝ) (team : List (Rating ℝ)) (r : Nat),
    0 ≤ gammaVal GammaFn.dflt c k mu s2 team r := by
  intro h
  have := h (-1) 0 0 1 [] 0
  simp only [gammaVal, sc_sqrt, Real.sqrt_one] at this
  norm_num at this

/-- leaves that meet `LeafFacts` and are simple enough to write down, so the TMF/TMP statements are not
vacuous: the concrete games and histories that show the hypotheses satisfiable are played with them -/
theorem leafFacts_abs :
    LeafFacts ⟨fun x t => |t - x|, fun _ _ => 0, fun x _ => -x, fun _ _ => 0⟩ where
  v_nonneg x t := abs_nonneg _
  v_ge x t := le_abs_self _
  w_nonneg _ _ := le_refl _
  wt_nonneg _ _ _ := le_refl _
  vt_mem x t ht := ⟨by linarith, by linarith⟩
  vt_odd x t _ := rfl

example : LeafFacts ⟨fun x t => |t - x|, fun _ _ => 0, fun x _ => -x, fun _ _ => 0⟩ :=
  leafFacts_abs

/-- `C06_game` instantiated: Plackett–Luce with the library defaults, any teams, no ranks -/
example (L : Leaves ℝ) (teams : List (List (Rating ℝ))) (o : CallOpts ℝ) :
    List.Forall₂ (List.Forall₂ (SlotC06
        (resolveTau ⟨25 / 6, 1 / 10000, 25 / 300, false, .dflt⟩ o)
        (resolveLimit ⟨25 / 6, 1 / 10000, 25 / 300, false, .dflt⟩ o)))
      teams
      (rateCore .PL L ⟨25 / 6, 1 / 10000, 25 / 300, false, .dflt⟩ leNat teams none o) :=
  C06_game .PL L _ leNat teams none o (by intro h; rcases h with h | h <;> cases h)
    (by norm_num) (by norm_num) gammaOK_dflt
    (by intro r h; cases h)

/-- `C06_rate` instantiated for all five models at once, with leaves that satisfy `LeafFacts`,
ranks given for a three-team game -/
example (K : Kind) (t1 t2 t3 : List (Rating ℝ)) (o : CallOpts ℝ) :
    List.Forall₂ (List.Forall₂ (SlotC06
        (resolveTau ⟨25 / 6, 1 / 10000, 25 / 300, true, .dflt⟩ o)
        (resolveLimit ⟨25 / 6, 1 / 10000, 25 / 300, true, .dflt⟩ o)))
      [t1, t2, t3]
      (rate K ⟨fun x t => |t - x|, fun _ _ => 0, fun x _ => -x, fun _ _ => 0⟩
        ⟨25 / 6, 1 / 10000, 25 / 300, true, .dflt⟩ leNat id [t1, t2, t3] (.ranks [2, 1, 2]) o) :=
  C06_rate K _ _ leNat id _ _ o (fun _ => leafFacts_abs)
    (by norm_num) (by norm_num) gammaOK_dflt
    (by intro r h; rcases h with h | h <;> cases h; rfl)

/-- an admissible step exists from any non-negative state (nobody plays) -/
example (sig : Nat → ℝ) : (⟨0, fun _ => False, sig⟩ : GameStep).Adm sig :=
  fun _ => ⟨fun h => h.elim, fun _ => rfl⟩

end OS
end
