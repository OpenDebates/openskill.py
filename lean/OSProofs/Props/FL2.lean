import OSProofs.FL2Lemmas
import OSProofs.RankLemmas
import OSProofs.Props.GenC12
/-!
# FL2 — the prediction ranges (C09, C10, C11) hold exactly in every arithmetic with monotone rounding

The theorems of `Props/C09.lean`, `C10.lean`, `C11.lean` are about the model at `α := ℝ`.  Here the
*range* statements (a probability is never outside [0, 1]; an integer rank is in `1..n` and agrees
with the order of the probabilities) are proved for **every** scalar type `α` that satisfies the
order laws `MonoArith α` — for ℝ, for every "compute exactly, then round monotonically" arithmetic
and hence for IEEE doubles without NaN / overflow.  No field axiom, no analytic fact about Φ beyond
`0 ≤ Φ ≤ 1` is used; the functions are the model functions themselves (`predictWin`, `predictDraw`,
`predictRankProbs`, `predictRank`), evaluated in `α`.

`FL_C10_le_one_many'` is the bound `predict_draw ≤ 1`; `FL_C10_le_one_many` states it with two
sign-symmetry facts as explicit hypotheses `hna`, `hn1`, which are laws of `MonoArith` (`neg_add_le'`,
`neg_sub_le'`).
-/
namespace OS
open Scalar

/-- the value `Φ((θa − θb) / √(N β² + s²a + s²b))` computed on the two-team path of `predict_win`
(`FL5_winR` of `Props/FL5.lean` is the same term) -/
def fl2_winTwo {α : Type} [Scalar α] (β : α) (a b : List (Rating α)) : α :=
  Phi (((teamAgg a 0).mu - (teamAgg b 0).mu)
    / pairDenom (playerCount [a, b]) β (teamAgg a 0) (teamAgg b 0))

variable {α : Type} [Scalar α] (M : MonoArith α)
include M

/-! ## C09 — `predict_win` -/

/-- **Two teams.**  `predict_win` returns `[r, 1 − r]` with `r` one value of Φ; both entries, as
computed (the second one by a rounded subtraction), lie in [0, 1]. -/
theorem FL_C09_two (β : α) (a b : List (Rating α)) :
    predictWin β [a, b] = [fl2_winTwo β a b, ofNat 1 - fl2_winTwo β a b]
      ∧ (ofNat 0 ≤ fl2_winTwo β a b ∧ fl2_winTwo β a b ≤ ofNat 1)
      ∧ (ofNat 0 ≤ ofNat 1 - fl2_winTwo β a b ∧ ofNat 1 - fl2_winTwo β a b ≤ ofNat 1) :=
  ⟨rfl, ⟨M.Phi_nonneg' _, M.Phi_le_one' _⟩,
    ⟨M.sub_nonneg' (M.Phi_le_one' _), M.sub_le_self' (M.Phi_nonneg' _)⟩⟩

/-- **Any number of teams** (also 0 or 1, where the result is empty): every entry of
`predict_win`, as computed, lies in [0, 1]. -/
theorem FL_C09_range_all (β : α) (teams : List (List (Rating α))) :
    ∀ p ∈ predictWin β teams, ofNat 0 ≤ p ∧ p ≤ ofNat 1 := by
  by_cases h2 : teams.length = 2
  · obtain ⟨a, b, rfl, -⟩ := GEN_C12_win_two' β teams h2
    intro p hp
    rw [(FL_C09_two M β a b).1] at hp
    rcases List.mem_cons.1 hp with rfl | hp
    · exact (FL_C09_two M β a b).2.1
    · rw [List.mem_singleton.1 hp]
      exact (FL_C09_two M β a b).2.2
  · rw [predictWin_of_length_ne_two β teams h2]
    exact chunk_avg_range M teams.length (orderedPairs (aggs teams)) _
      fun ab => ⟨M.Phi_nonneg' _, M.Phi_le_one' _⟩

/-- **Three or more teams**: every entry of `predict_win` (a sum of `n − 1` values of Φ divided
by `n (n − 1) / 2`), as computed, lies in [0, 1].  Restates `FL_C09_range_all` for the case the library
documents; `_hn` names that case and is not needed. -/
theorem FL_C09_range (β : α) (teams : List (List (Rating α))) (_hn : 3 ≤ teams.length) :
    ∀ p ∈ predictWin β teams, ofNat 0 ≤ p ∧ p ≤ ofNat 1 :=
  FL_C09_range_all M β teams

/-- **Two or more teams** (both code paths): every entry of `predict_win` lies in [0, 1].  Restates
`FL_C09_range_all` on the library's domain; `_hn` names it and is not needed. -/
theorem FL_C09_range_two_or_more (β : α) (teams : List (List (Rating α)))
    (_hn : 2 ≤ teams.length) : ∀ p ∈ predictWin β teams, ofNat 0 ≤ p ∧ p ≤ ofNat 1 :=
  FL_C09_range_all M β teams

omit M in
/-- `predict_win` returns one entry per team (two or more teams; scalar-free). -/
theorem FL_C09_length (β : α) (teams : List (List (Rating α))) (hn : 2 ≤ teams.length) :
    (predictWin β teams).length = teams.length :=
  (GEN_C12_length β teams (by omega)).1

/-! ## C11 — `predict_rank` -/

/-- every probability of `predict_rank` (before it is paired with its rank), as computed, lies in
[0, 1] — for any number of teams -/
theorem FL_C11_probs_range_all (β : α) (teams : List (List (Rating α))) :
    ∀ p ∈ predictRankProbs β teams, ofNat 0 ≤ p ∧ p ≤ ofNat 1 := by
  unfold predictRankProbs
  dsimp only
  intro p hp
  obtain ⟨q, hq, rfl⟩ := List.mem_map.mp hp
  have hq' := chunk_avg_range M teams.length (orderedPairs (aggs teams))
    (fun ab => Phi ((ab.1.mu - ab.2.mu - drawMargin β (playerCount teams))
      / pairDenom teams.length β ab.1 ab.2))
    (fun ab => ⟨M.Phi_nonneg' _, M.Phi_le_one' _⟩) q hq
  rw [M.orderLaws.sabs_of_nonneg hq'.1]
  exact hq'

/-- **Two or more teams**: every probability returned by `predict_rank`, as computed, lies in [0, 1].
Restates `FL_C11_probs_range_all` on the library's domain; `_hn` names it and is not needed. -/
theorem FL_C11_probs_range (β : α) (teams : List (List (Rating α))) (_hn : 2 ≤ teams.length) :
    ∀ p ∈ predictRankProbs β teams, ofNat 0 ≤ p ∧ p ≤ ofNat 1 :=
  FL_C11_probs_range_all M β teams

omit M in
/-- one probability per team (two or more teams; scalar-free) -/
theorem FL_C11_probs_length (β : α) (teams : List (List (Rating α))) (hn : 2 ≤ teams.length) :
    (predictRankProbs β teams).length = teams.length :=
  (GEN_C12_length β teams (by omega)).2.1

omit M in
/-- `predict_rank` returns one (rank, probability) pair per team (two or more teams; scalar-free) -/
theorem FL_C11_length (β : α) (teams : List (List (Rating α))) (hn : 2 ≤ teams.length) :
    (predictRank β teams).length = teams.length :=
  (GEN_C12_length β teams (by omega)).2.2

/-- every probability paired with a rank lies in [0, 1] -/
theorem FL_C11_paired_probs_range (β : α) (teams : List (List (Rating α))) :
    ∀ q ∈ predictRank β teams, ofNat 0 ≤ q.2 ∧ q.2 ≤ ofNat 1 := by
  intro q hq
  apply FL_C11_probs_range_all M β teams
  rw [← predictRank_map_snd]
  exact List.mem_map.mpr ⟨q, hq, rfl⟩

/-- every rank returned by `predict_rank` is an integer in `1..(number of results)` -/
theorem FL_C11_ranks_range (β : α) (teams : List (List (Rating α))) (a : Nat)
    (ha : a < (predictRank β teams).length) :
    1 ≤ (predictRank β teams)[a].1
      ∧ (predictRank β teams)[a].1 ≤ (predictRank β teams).length := by
  have ha' : a < (predictRankProbs β teams).length := by
    rw [← predictRank_length]; exact ha
  have h := M.orderLaws.rank_range _ a ha'
  rw [predictRank_getElem β teams a ha]
  exact ⟨h.1, Nat.le_trans h.2 (Nat.le_of_eq (predictRank_length β teams).symm)⟩

/-- a strictly larger computed probability gets a strictly smaller (better) rank number -/
theorem FL_C11_ranks_strict (β : α) (teams : List (List (Rating α))) (a b : Nat)
    (ha : a < (predictRank β teams).length) (hb : b < (predictRank β teams).length)
    (h : (predictRank β teams)[a].2 < (predictRank β teams)[b].2) :
    (predictRank β teams)[b].1 < (predictRank β teams)[a].1 := by
  rw [predictRank_getElem β teams a ha, predictRank_getElem β teams b hb] at h ⊢
  exact M.orderLaws.rank_strict _ b a _ _ h

/-- computed probabilities that are `≤` each other (in particular: equal ones) get the same rank -/
theorem FL_C11_ranks_tie (β : α) (teams : List (List (Rating α))) (a b : Nat)
    (ha : a < (predictRank β teams).length) (hb : b < (predictRank β teams).length)
    (h1 : (predictRank β teams)[a].2 ≤ (predictRank β teams)[b].2)
    (h2 : (predictRank β teams)[b].2 ≤ (predictRank β teams)[a].2) :
    (predictRank β teams)[a].1 = (predictRank β teams)[b].1 := by
  rw [predictRank_getElem β teams a ha, predictRank_getElem β teams b hb] at h1 h2 ⊢
  exact M.orderLaws.rank_tie _ a b _ _ h1 h2

/-- the converse directions: the rank numbers order the teams exactly as the probabilities do -/
theorem FL_C11_ranks_lt_iff (β : α) (teams : List (List (Rating α))) (a b : Nat)
    (ha : a < (predictRank β teams).length) (hb : b < (predictRank β teams).length) :
    (predictRank β teams)[b].1 < (predictRank β teams)[a].1
      ↔ (predictRank β teams)[a].2 < (predictRank β teams)[b].2 := by
  rw [predictRank_getElem β teams a ha, predictRank_getElem β teams b hb]
  exact M.orderLaws.rank_lt_iff _ b a _ _

/-- a team whose computed probability is `≥` all others gets rank 1 -/
theorem FL_C11_ranks_max_one (β : α) (teams : List (List (Rating α))) (a : Nat)
    (ha : a < (predictRank β teams).length)
    (hmax : ∀ q ∈ predictRank β teams, q.2 ≤ (predictRank β teams)[a].2) :
    (predictRank β teams)[a].1 = 1 := by
  have ha' : a < (predictRankProbs β teams).length := by
    rw [← predictRank_length]; exact ha
  have hmax' : ∀ y ∈ predictRankProbs β teams, y ≤ (predictRankProbs β teams)[a] := by
    intro y hy
    rw [← predictRank_map_snd] at hy
    obtain ⟨q, hq, rfl⟩ := List.mem_map.mp hy
    have := hmax q hq
    rwa [predictRank_getElem β teams a ha] at this
  rw [predictRank_getElem β teams a ha]
  exact M.orderLaws.rank_max_one _ a ha' hmax'

/-- **`predict_rank`, all rank statements together**: for the list of (rank, probability) pairs
returned, (1) every rank is in `1..n`; (2) a strictly larger probability has a strictly smaller rank
number; (3) probabilities that are `≤` each other have the same rank; (4) a team whose probability
is `≥` all others has rank 1.  Comparisons are those of the arithmetic `α` itself. -/
theorem FL_C11_ranks (β : α) (teams : List (List (Rating α))) :
    (∀ (a : Nat) (ha : a < (predictRank β teams).length),
        1 ≤ (predictRank β teams)[a].1
          ∧ (predictRank β teams)[a].1 ≤ (predictRank β teams).length)
    ∧ (∀ (a b : Nat) (ha : a < (predictRank β teams).length)
        (hb : b < (predictRank β teams).length),
        (predictRank β teams)[a].2 < (predictRank β teams)[b].2 →
          (predictRank β teams)[b].1 < (predictRank β teams)[a].1)
    ∧ (∀ (a b : Nat) (ha : a < (predictRank β teams).length)
        (hb : b < (predictRank β teams).length),
        (predictRank β teams)[a].2 ≤ (predictRank β teams)[b].2 →
        (predictRank β teams)[b].2 ≤ (predictRank β teams)[a].2 →
          (predictRank β teams)[a].1 = (predictRank β teams)[b].1)
    ∧ (∀ (a : Nat) (ha : a < (predictRank β teams).length),
        (∀ q ∈ predictRank β teams, q.2 ≤ (predictRank β teams)[a].2) →
          (predictRank β teams)[a].1 = 1) :=
  ⟨fun a ha => FL_C11_ranks_range M β teams a ha,
   fun a b ha hb h => FL_C11_ranks_strict M β teams a b ha hb h,
   fun a b ha hb h1 h2 => FL_C11_ranks_tie M β teams a b ha hb h1 h2,
   fun a ha h => FL_C11_ranks_max_one M β teams a ha h⟩

/-! ## C10 — `predict_draw` -/

/-- `predict_draw`, as computed, is never negative (any number of teams; the divisor is `n (n − 1)`
or `1`, an exact positive integer). -/
theorem FL_C10_nonneg (β : α) (teams : List (List (Rating α))) :
    ofNat 0 ≤ predictDraw β teams := by
  unfold predictDraw
  dsimp only
  refine M.div_nonneg' (M.sabs_nonneg _) ?_
  split
  · next h => exact M.zero_lt_ofNat (Nat.mul_pos (by omega) (by omega))
  · exact M.zero_lt_one

/-- **Three or more teams**: `predict_draw`, as computed, is at most 1, in every monotone arithmetic:
`|Σ (Φ(·) − Φ(·))| ≤ n (n − 1)` term by term, the divisor is the exact integer `n (n − 1)`.  The two
sign-symmetry laws `neg_add_le'` (the computed sum) and `neg_sub_le'` (`−(0 − 1) ≤ 1`) are what bounds the
negated sum. -/
theorem FL_C10_le_one_many' (β : α) (teams : List (List (Rating α))) (hn : 3 ≤ teams.length) :
    predictDraw β teams ≤ ofNat 1 := by
  have hpos : (ofNat 0 : α) < ofNat (teams.length * (teams.length - 1)) :=
    M.zero_lt_ofNat (Nat.mul_pos (by omega) (by omega))
  have key := fl2_draw_sum_le M (aggs teams)
    (fun ab => (drawMargin β (playerCount teams) - ab.1.mu + ab.2.mu)
      / pairDenom teams.length β ab.1 ab.2)
    (fun ab => (ab.1.mu - ab.2.mu - drawMargin β (playerCount teams))
      / pairDenom teams.length β ab.1 ab.2)
  rw [length_aggs] at key
  unfold predictDraw
  dsimp only
  rw [if_pos (by omega : teams.length > 2)]
  exact M.div_le_one' key hpos

theorem FL_C10_range_many' (β : α) (teams : List (List (Rating α))) (hn : 3 ≤ teams.length) :
    ofNat 0 ≤ predictDraw β teams ∧ predictDraw β teams ≤ ofNat 1 :=
  ⟨FL_C10_nonneg M β teams, FL_C10_le_one_many' M β teams hn⟩

/-- Restates `FL_C10_le_one_many'` with the two sign-symmetry facts the bound rests on in the signature.
In a `MonoArith` both are laws (`neg_add_le'`, and `−(0 − 1) ≤ 1` from `neg_sub_le'`), and that is where the
proof takes them from. -/
theorem FL_C10_le_one_many (hna : ∀ a b : α, -(a + b) ≤ -a + -b)
    (hn1 : -(ofNat 0 - ofNat 1 : α) ≤ ofNat 1)
    (β : α) (teams : List (List (Rating α))) (hn : 3 ≤ teams.length) :
    predictDraw β teams ≤ ofNat 1 :=
  FL_C10_le_one_many' M β teams hn

/-- `predict_draw` for three or more teams is in [0, 1]: `FL_C10_range_many'` with `hna`, `hn1` in the
signature as in `FL_C10_le_one_many` -/
theorem FL_C10_range_many (hna : ∀ a b : α, -(a + b) ≤ -a + -b)
    (hn1 : -(ofNat 0 - ofNat 1 : α) ≤ ofNat 1)
    (β : α) (teams : List (List (Rating α))) (hn : 3 ≤ teams.length) :
    ofNat 0 ≤ predictDraw β teams ∧ predictDraw β teams ≤ ofNat 1 :=
  ⟨FL_C10_nonneg M β teams, FL_C10_le_one_many M hna hn1 β teams hn⟩

/-! ## the hypotheses are satisfiable: concrete game shapes (`M` stays abstract) -/

example (β : α) (a b : List (Rating α)) :
    ofNat 0 ≤ ofNat 1 - fl2_winTwo β a b ∧ ofNat 1 - fl2_winTwo β a b ≤ ofNat 1 :=
  (FL_C09_two M β a b).2.2

example (β : α) (t1 t2 t3 : List (Rating α)) :
    ∀ p ∈ predictWin β [t1, t2, t3], ofNat 0 ≤ p ∧ p ≤ ofNat 1 :=
  FL_C09_range M β [t1, t2, t3] (by simp)

example (β : α) (t1 t2 : List (Rating α)) :
    ∀ p ∈ predictWin β [t1, t2], ofNat 0 ≤ p ∧ p ≤ ofNat 1 :=
  FL_C09_range_two_or_more M β [t1, t2] (by simp)

omit M in
example (β : α) (t1 t2 t3 : List (Rating α)) : (predictWin β [t1, t2, t3]).length = 3 :=
  FL_C09_length β [t1, t2, t3] (by simp)

example (β : α) (t1 t2 : List (Rating α)) :
    ∀ p ∈ predictRankProbs β [t1, t2], ofNat 0 ≤ p ∧ p ≤ ofNat 1 :=
  FL_C11_probs_range M β [t1, t2] (by simp)

omit M in
example (β : α) (t1 t2 t3 : List (Rating α)) : (predictRank β [t1, t2, t3]).length = 3 :=
  FL_C11_length β [t1, t2, t3] (by simp)

/-- three teams: team 0 has rank 1 as soon as its computed probability is `≥` the other two -/
example (β : α) (t1 t2 t3 : List (Rating α))
    (h0 : 0 < (predictRank β [t1, t2, t3]).length)
    (hmax : ∀ q ∈ predictRank β [t1, t2, t3], q.2 ≤ (predictRank β [t1, t2, t3])[0].2) :
    (predictRank β [t1, t2, t3])[0].1 = 1 :=
  (FL_C11_ranks M β [t1, t2, t3]).2.2.2 0 h0 hmax

example (β : α) (t1 t2 : List (Rating α)) : ofNat 0 ≤ predictDraw β [t1, t2] :=
  FL_C10_nonneg M β [t1, t2]

example (hna : ∀ a b : α, -(a + b) ≤ -a + -b) (hns : ∀ a b : α, -(a - b) ≤ b - a)
    (β : α) (t1 t2 t3 : List (Rating α)) : predictDraw β [t1, t2, t3] ≤ ofNat 1 :=
  FL_C10_le_one_many M hna (M.le_trans' (hns _ _) (fl2_one_sub_zero_le M)) β [t1, t2, t3] (by simp)

end OS
