import OSProofs.C01dLemmas
/-!
# C01d — replacing the code's truncated-Gaussian corrections by the exact ones moves the
# Thurstone–Mosteller update by at most the per-pair leaf errors, propagated linearly

Property C01 demands agreement of the code with the paper's formulas "except where the model
itself substitutes a documented asymptotic form for the truncated-Gaussian corrections, where it
is within that form's stated error".  The code's leaves `codeLeaves = ⟨vCode, wCode, vtCode,
wtCode⟩` (with guard branches) and the paper's `exactLeaves = ⟨vExact, wExact, vtExact, wtExact⟩`
enter the two Thurstone–Mosteller models only through `tmPair`, linearly.  Hence:

* `LeafGap L L' εv εw εvt εwt` (in `C01dLemmas`): the interface "for every positive margin `t`,
  `|L.f x t − L'.f x t| ≤ εf x t`" for the four leaves;
* `tmPair_gap`: one pair term moves by at most `σ_i²/c · e₁` (Ω part) and `|γ|·σ_i²/c/c · e₂`
  (Δ part), where `e₁,e₂` is the ε of the leaf the rank comparison selects (`pairLeafErr`);
* `C01_leaf_gap_TMF`, `C01_leaf_gap_TMP`: a team's `(Ω, Δ)` moves by at most the list sum of these
  over its opponents (`othersOf`, resp. `neighboursOf` with `cmul = 2`);
* `C01_leaf_gap_player`: a change `(dω, dδ)` of a team's `(Ω, Δ)` moves a player's new mean by
  exactly `share·dω` and the square of the new sigma by at most `σ̂²·share·|dδ|`
  (`C01_leaf_gap_player_sigma`: the new sigma itself by at most `σ̂·share·|dδ| / (2√κ)`);
* `C01_leaf_gap_compute_TMF/TMP`, `C01_leaf_gap_rating_TMF/TMP`: the same end to end through
  `compute`, player by player;
* `leafGap_code_exact`: the instance for the code's leaves against the exact ones, with the errors
  `codeGapV` (0 off the guard, `V/64` on it), `codeGapW` (0 off the guard, `1/50` on it — and `1` in
  the corner `x ≥ 0`, which needs a margin `t > 8`, see `C17_w_asym_nonneg_x`), `codeGapVt = 2t`,
  `codeGapWt = 4t²` (the last bound enters `leafGap_code_exact` and the two `C01_code_vs_exact_*` as the
  hypothesis `hwt`; `C17_wt_code_error` proves it, and `C01_leafGap_code_exact` is the instance without it).

All statements are over ℝ.
-/
noncomputable section
namespace OS
open Scalar Gauss

variable {L L' : Leaves ℝ} {εv εw εvt εwt : ℝ → ℝ → ℝ}

/-- **Pair level.**  With `c = cmul·√(σ_i² + σ_q² + 2β²) > 0`, `κ > 0` and `σ_i² ≥ 0`: swapping the
leaf record `L` for `L'` changes the Ω term of the pair `(i, q)` by at most `σ_i²/c · e₁` and the Δ
term by at most `|γ|·(σ_i²/c)/c · e₂`, where `(e₁, e₂)` are the leaf errors of the branch the ranks
select: `(εv x t, εw x t)` for a win, `(εv (−x) t, εw (−x) t)` for a loss, `(εvt x t, εwt x t)` for
a tie, at `x = (μ_i − μ_q)/c`, `t = κ/c`.  (`pairGapΩ`, `pairGapΔ`, `pairLeafErr` spell this out.) -/
theorem tmPair_gap (h : LeafGap L L' εv εw εvt εwt) (cmul beta kappa : ℝ) (g : GammaFn ℝ) (n : Nat)
    (ti tq : TeamAgg ℝ) (hc : 0 < cmul * √(ti.sig2 + tq.sig2 + 2 * (beta * beta)))
    (hk : 0 < kappa) (hs : 0 ≤ ti.sig2) :
    |(tmPair L cmul beta kappa g n ti tq).1 - (tmPair L' cmul beta kappa g n ti tq).1|
        ≤ pairGapΩ εv εvt cmul beta kappa ti tq ∧
    |(tmPair L cmul beta kappa g n ti tq).2 - (tmPair L' cmul beta kappa g n ti tq).2|
        ≤ pairGapΔ εw εwt cmul beta kappa g n ti tq := by
  rw [← pairC] at hc
  have ht : 0 < kappa / (cmul * pairC beta ti tq) := div_pos hk hc
  have hs2c : 0 ≤ ti.sig2 / (cmul * pairC beta ti tq) := div_nonneg hs hc.le
  constructor
  · rw [tmPair_fst, tmPair_fst, ← mul_sub, abs_mul, abs_of_nonneg hs2c]
    -- `pairGapΩ` unfolds to this factor times `byOutcome` of the three leaf errors (`lgp_tmC` is `cmul * pairC`)
    exact mul_le_mul_of_nonneg_left (byOutcome_abs_sub_le (h.v _ _ ht) (h.vt _ _ ht)
      (by rw [neg_sub_neg, abs_sub_comm]; exact h.v _ _ ht)) hs2c
  · rw [tmPair_snd, tmPair_snd, ← mul_sub, abs_mul]
    refine mul_le_mul (le_of_eq ?_)
      (byOutcome_abs_sub_le (h.w _ _ ht) (h.wt _ _ ht) (h.w _ _ ht)) (abs_nonneg _) (by positivity)
    rw [abs_div, abs_mul, abs_of_nonneg hs2c, abs_of_pos hc]; rfl

/-- **Team level, any pairing.**  Summed over any list `opps` of opponents, for any `cmul > 0`. -/
theorem leaf_gap_sumPairs (h : LeafGap L L' εv εw εvt εwt) {cmul : ℝ} (hm : 0 < cmul)
    (beta kappa : ℝ) (g : GammaFn ℝ) (n : Nat) (ti : TeamAgg ℝ) (opps : List (TeamAgg ℝ))
    (hk : 0 < kappa) (hs : 0 ≤ ti.sig2)
    (hpos : ∀ q ∈ opps, 0 < ti.sig2 + q.sig2 + 2 * (beta * beta)) :
    |(sumPairs (opps.map (tmPair L cmul beta kappa g n ti))).1
        - (sumPairs (opps.map (tmPair L' cmul beta kappa g n ti))).1|
      ≤ (opps.map (pairGapΩ εv εvt cmul beta kappa ti)).sum ∧
    |(sumPairs (opps.map (tmPair L cmul beta kappa g n ti))).2
        - (sumPairs (opps.map (tmPair L' cmul beta kappa g n ti))).2|
      ≤ (opps.map (pairGapΔ εw εwt cmul beta kappa g n ti)).sum := by
  have hp := fun q hq =>
    tmPair_gap h cmul beta kappa g n ti q (mul_pos hm (Real.sqrt_pos.mpr (hpos q hq))) hk hs
  rw [sumPairs_map, sumPairs_map]
  exact ⟨abs_sum_map_sub_le _ _ _ _ fun q hq => (hp q hq).1,
    abs_sum_map_sub_le _ _ _ _ fun q hq => (hp q hq).2⟩

/-- **Team level, full pairing.**  For every position `i`, swapping the leaves changes `Ω_i` by at
most `Σ_{q ≠ i} σ_i²/c_iq · e₁(i,q)` and `Δ_i` by at most `Σ_{q ≠ i} |γ|·σ_i²/c_iq² · e₂(i,q)`
(explicit list sums over `othersOf ts i`). -/
theorem C01_leaf_gap_TMF (h : LeafGap L L' εv εw εvt εwt) (P : Params ℝ) (ts : List (TeamAgg ℝ))
    (hk : 0 < P.kappa) (hs : ∀ a ∈ ts, 0 ≤ a.sig2)
    (hpos : ∀ a ∈ ts, ∀ b ∈ ts, 0 < a.sig2 + b.sig2 + 2 * (P.beta * P.beta))
    (i : Nat) (hi : i < ts.length) :
    |((omegaDelta .TMF L P ts)[i]'(omegaDelta_lt L P ts hi)).1
        - ((omegaDelta .TMF L' P ts)[i]'(omegaDelta_lt L' P ts hi)).1|
      ≤ ((othersOf ts i).map (pairGapΩ εv εvt 1 P.beta P.kappa ts[i])).sum ∧
    |((omegaDelta .TMF L P ts)[i]'(omegaDelta_lt L P ts hi)).2
        - ((omegaDelta .TMF L' P ts)[i]'(omegaDelta_lt L' P ts hi)).2|
      ≤ ((othersOf ts i).map (pairGapΔ εw εwt 1 P.beta P.kappa P.gamma ts.length ts[i])).sum := by
  rw [omegaDelta_getElem L P ts .TMF i hi, omegaDelta_getElem L' P ts .TMF i hi]
  simp only [fl1_od, sc_one]
  have him : ts[i] ∈ ts := List.getElem_mem hi
  exact leaf_gap_sumPairs h one_pos _ _ _ _ _ _ hk (hs _ him)
    fun q hq => hpos _ him _ (mem_of_mem_othersOf hq)

/-- **Team level, partial pairing.**  The same with the (at most two) ladder neighbours and
`c_iq = 2·√(σ_i² + σ_q² + 2β²)`. -/
theorem C01_leaf_gap_TMP (h : LeafGap L L' εv εw εvt εwt) (P : Params ℝ) (ts : List (TeamAgg ℝ))
    (hk : 0 < P.kappa) (hs : ∀ a ∈ ts, 0 ≤ a.sig2)
    (hpos : ∀ a ∈ ts, ∀ b ∈ ts, 0 < a.sig2 + b.sig2 + 2 * (P.beta * P.beta))
    (i : Nat) (hi : i < ts.length) :
    |((omegaDelta .TMP L P ts)[i]'(omegaDelta_lt L P ts hi)).1
        - ((omegaDelta .TMP L' P ts)[i]'(omegaDelta_lt L' P ts hi)).1|
      ≤ ((neighboursOf ts i).map (pairGapΩ εv εvt 2 P.beta P.kappa ts[i])).sum ∧
    |((omegaDelta .TMP L P ts)[i]'(omegaDelta_lt L P ts hi)).2
        - ((omegaDelta .TMP L' P ts)[i]'(omegaDelta_lt L' P ts hi)).2|
      ≤ ((neighboursOf ts i).map
          (pairGapΔ εw εwt 2 P.beta P.kappa P.gamma ts.length ts[i])).sum := by
  rw [omegaDelta_getElem L P ts .TMP i hi, omegaDelta_getElem L' P ts .TMP i hi]
  simp only [fl1_od, sc_ofNat, Nat.cast_ofNat]
  have him : ts[i] ∈ ts := List.getElem_mem hi
  exact leaf_gap_sumPairs h two_pos _ _ _ _ _ _ hk (hs _ him)
    fun q hq => hpos _ him _ (mem_of_mem_neighboursOf hq)

/-- the positivity hypothesis of the two team-level theorems holds whenever `β ≠ 0` -/
theorem C01_leaf_gap_pos_of_beta (P : Params ℝ) (ts : List (TeamAgg ℝ)) (hb : P.beta ≠ 0)
    (hs : ∀ a ∈ ts, 0 ≤ a.sig2) :
    ∀ a ∈ ts, ∀ b ∈ ts, 0 < a.sig2 + b.sig2 + 2 * (P.beta * P.beta) :=
  fun a ha b hb' => ciq_arg_pos hb (hs a ha) (hs b hb')

/-- **Player level.**  If a team's `(Ω, Δ)` is `(ω, δ)` in one computation and `(ω', δ')` in the
other, then for a player with prior `σ̂` and `share = σ̂²/σ_team²`:
* the new means differ by exactly `share·(ω − ω')`, so (`σ_team² ≥ 0`) in absolute value by
  `share·|ω − ω'|`;
* with `f(δ) = σ̂·√max(1 − share·δ, κ)` the new sigma, `|f(δ)² − f(δ')²| ≤ σ̂²·share·|δ − δ'|`
  (the floor `max(·, κ)` is 1-Lipschitz, `κ > 0`). -/
theorem C01_leaf_gap_player {kappa sig2 : ℝ} (hk : 0 < kappa) (hs : 0 ≤ sig2)
    (omega delta omega' delta' : ℝ) (p : Rating ℝ) :
    (updPlayer kappa sig2 omega delta p).mu - (updPlayer kappa sig2 omega' delta' p).mu
        = p.sigma * p.sigma / sig2 * (omega - omega') ∧
    |(updPlayer kappa sig2 omega delta p).mu - (updPlayer kappa sig2 omega' delta' p).mu|
        = p.sigma * p.sigma / sig2 * |omega - omega'| ∧
    |(updPlayer kappa sig2 omega delta p).sigma ^ 2 - (updPlayer kappa sig2 omega' delta' p).sigma ^ 2|
        ≤ p.sigma ^ 2 * (p.sigma * p.sigma / sig2) * |delta - delta'| ∧
    (updPlayer kappa sig2 omega delta p).id = (updPlayer kappa sig2 omega' delta' p).id := by
  have hshare := share_nonneg p hs
  have hmu : (updPlayer kappa sig2 omega delta p).mu - (updPlayer kappa sig2 omega' delta' p).mu
      = p.sigma * p.sigma / sig2 * (omega - omega') := by
    rw [updPlayer_mu, updPlayer_mu, add_sub_add_left_eq_sub, mul_sub]
  refine ⟨hmu, ?_, ?_, rfl⟩
  · rw [hmu, abs_mul, abs_of_nonneg hshare]
  · rw [updPlayer_sigma_sq hk, updPlayer_sigma_sq hk, ← mul_sub, abs_mul,
      abs_of_nonneg (sq_nonneg _), mul_assoc]
    exact mul_le_mul_of_nonneg_left (abs_floor_sub_le hshare _ _ _) (sq_nonneg _)

theorem leaf_gap_player_le {kappa sig2 : ℝ} (hk : 0 < kappa) (hs : 0 ≤ sig2)
    {ω δ ω' δ' BΩ BΔ : ℝ} (hΩ : |ω - ω'| ≤ BΩ) (hΔ : |δ - δ'| ≤ BΔ) (p : Rating ℝ) :
    |(updPlayer kappa sig2 ω δ p).mu - (updPlayer kappa sig2 ω' δ' p).mu|
        ≤ p.sigma * p.sigma / sig2 * BΩ ∧
    |(updPlayer kappa sig2 ω δ p).sigma ^ 2 - (updPlayer kappa sig2 ω' δ' p).sigma ^ 2|
        ≤ p.sigma ^ 2 * (p.sigma * p.sigma / sig2) * BΔ := by
  obtain ⟨_, e2, e3, _⟩ := C01_leaf_gap_player hk hs ω δ ω' δ' p
  have hshare := share_nonneg p hs
  exact ⟨e2 ▸ mul_le_mul_of_nonneg_left hΩ hshare,
    e3.trans (mul_le_mul_of_nonneg_left hΔ (mul_nonneg (sq_nonneg _) hshare))⟩

/-- the new sigma itself (not squared): `|f(δ) − f(δ')| ≤ |σ̂|·share·|δ − δ'| / (2√κ)`, because `√` is
`1/(2√κ)`-Lipschitz above the floor `κ > 0` -/
theorem C01_leaf_gap_player_sigma {kappa sig2 : ℝ} (hk : 0 < kappa) (hs : 0 ≤ sig2)
    (omega delta omega' delta' : ℝ) (p : Rating ℝ) :
    |(updPlayer kappa sig2 omega delta p).sigma - (updPlayer kappa sig2 omega' delta' p).sigma|
      ≤ |p.sigma| * (p.sigma * p.sigma / sig2) * |delta - delta'| / (2 * √kappa) := by
  have hshare := share_nonneg p hs
  rw [updPlayer_sigma, updPlayer_sigma, ← mul_sub, abs_mul]
  refine (mul_le_mul_of_nonneg_left (le_trans
    (abs_sqrt_sub_sqrt_le hk (le_max_right _ _) (le_max_right _ _))
    (div_le_div_of_nonneg_right (abs_floor_sub_le hshare _ _ _)
      (mul_pos two_pos (Real.sqrt_pos.mpr hk)).le)) (abs_nonneg _)).trans_eq ?_
  ring

/-- `applyTeam` form: the two updated teams correspond player by player (same length, same ids),
means `share·|ω − ω'|` apart, squared sigmas at most `σ̂²·share·|δ − δ'|` apart, where `σ̂`, `share`
are read off the common input player. -/
theorem C01_leaf_gap_applyTeam {kappa : ℝ} (hk : 0 < kappa) (t : TeamAgg ℝ) (hs : 0 ≤ t.sig2)
    (omega delta omega' delta' : ℝ) :
    (applyTeam kappa t omega delta).length = t.players.length ∧
    (applyTeam kappa t omega' delta').length = t.players.length ∧
    ∀ (j : Nat) (hj : j < t.players.length) (h1 : j < (applyTeam kappa t omega delta).length)
      (h2 : j < (applyTeam kappa t omega' delta').length),
      ((applyTeam kappa t omega delta)[j]).id = ((applyTeam kappa t omega' delta')[j]).id ∧
      |((applyTeam kappa t omega delta)[j]).mu - ((applyTeam kappa t omega' delta')[j]).mu|
        = t.players[j].sigma * t.players[j].sigma / t.sig2 * |omega - omega'| ∧
      |((applyTeam kappa t omega delta)[j]).sigma ^ 2
          - ((applyTeam kappa t omega' delta')[j]).sigma ^ 2|
        ≤ t.players[j].sigma ^ 2 * (t.players[j].sigma * t.players[j].sigma / t.sig2)
            * |delta - delta'| := by
  refine ⟨by simp [applyTeam_eq_map], by simp [applyTeam_eq_map], ?_⟩
  intro j hj h1 h2
  simp only [applyTeam_eq_map, List.getElem_map]
  obtain ⟨_, hb, hc, hd⟩ :=
    C01_leaf_gap_player hk hs omega delta omega' delta' t.players[j]
  exact ⟨hd, hb, hc⟩

theorem teamAggs_gap_ok (P : Params ℝ) (hb : P.beta ≠ 0) (teams : List (List (Rating ℝ)))
    (dense : List Nat) :
    (∀ a ∈ teamAggs teams dense, 0 ≤ a.sig2) ∧
    ∀ a ∈ teamAggs teams dense, ∀ b ∈ teamAggs teams dense,
      0 < a.sig2 + b.sig2 + 2 * (P.beta * P.beta) :=
  ⟨fun _ ha => teamAggs_sig2_nonneg ha,
   C01_leaf_gap_pos_of_beta P _ hb fun _ ha => teamAggs_sig2_nonneg ha⟩

/-- **End to end, full pairing.**  Team `i` of `compute .TMF L …` and of `compute .TMF L' …` are the
per-player updates of the same input team with `(Ω, Δ)` pairs that differ by at most the summed
per-pair leaf errors. -/
theorem C01_leaf_gap_compute_TMF (h : LeafGap L L' εv εw εvt εwt) (P : Params ℝ)
    (hk : 0 < P.kappa) (hb : P.beta ≠ 0) (teams : List (List (Rating ℝ))) (dense : List Nat)
    (i : Nat) (h1 : i < teams.length) (h2 : i < dense.length) :
    ∃ ω δ ω' δ' : ℝ,
      (compute .TMF L P teams dense)[i]'(compute_lt h1 h2)
        = teams[i].map (updPlayer P.kappa
            ((teamAggs teams dense)[i]'(lgp_teamAggs_lt h1 h2)).sig2 ω δ) ∧
      (compute .TMF L' P teams dense)[i]'(compute_lt h1 h2)
        = teams[i].map (updPlayer P.kappa
            ((teamAggs teams dense)[i]'(lgp_teamAggs_lt h1 h2)).sig2 ω' δ') ∧
      |ω - ω'| ≤ ((othersOf (teamAggs teams dense) i).map (pairGapΩ εv εvt 1 P.beta P.kappa
          ((teamAggs teams dense)[i]'(lgp_teamAggs_lt h1 h2)))).sum ∧
      |δ - δ'| ≤ ((othersOf (teamAggs teams dense) i).map (pairGapΔ εw εwt 1 P.beta P.kappa P.gamma
          (teamAggs teams dense).length
          ((teamAggs teams dense)[i]'(lgp_teamAggs_lt h1 h2)))).sum := by
  obtain ⟨hs, hpos⟩ := teamAggs_gap_ok P hb teams dense
  obtain ⟨g1, g2⟩ := C01_leaf_gap_TMF h P _ hk hs hpos i (lgp_teamAggs_lt h1 h2)
  exact ⟨_, _, _, _, lgp_compute_team .TMF L P teams dense i h1 h2,
    lgp_compute_team .TMF L' P teams dense i h1 h2, g1, g2⟩

/-- **End to end, partial pairing.** -/
theorem C01_leaf_gap_compute_TMP (h : LeafGap L L' εv εw εvt εwt) (P : Params ℝ)
    (hk : 0 < P.kappa) (hb : P.beta ≠ 0) (teams : List (List (Rating ℝ))) (dense : List Nat)
    (i : Nat) (h1 : i < teams.length) (h2 : i < dense.length) :
    ∃ ω δ ω' δ' : ℝ,
      (compute .TMP L P teams dense)[i]'(compute_lt h1 h2)
        = teams[i].map (updPlayer P.kappa
            ((teamAggs teams dense)[i]'(lgp_teamAggs_lt h1 h2)).sig2 ω δ) ∧
      (compute .TMP L' P teams dense)[i]'(compute_lt h1 h2)
        = teams[i].map (updPlayer P.kappa
            ((teamAggs teams dense)[i]'(lgp_teamAggs_lt h1 h2)).sig2 ω' δ') ∧
      |ω - ω'| ≤ ((neighboursOf (teamAggs teams dense) i).map (pairGapΩ εv εvt 2 P.beta P.kappa
          ((teamAggs teams dense)[i]'(lgp_teamAggs_lt h1 h2)))).sum ∧
      |δ - δ'| ≤ ((neighboursOf (teamAggs teams dense) i).map (pairGapΔ εw εwt 2 P.beta P.kappa
          P.gamma (teamAggs teams dense).length
          ((teamAggs teams dense)[i]'(lgp_teamAggs_lt h1 h2)))).sum := by
  obtain ⟨hs, hpos⟩ := teamAggs_gap_ok P hb teams dense
  obtain ⟨g1, g2⟩ := C01_leaf_gap_TMP h P _ hk hs hpos i (lgp_teamAggs_lt h1 h2)
  exact ⟨_, _, _, _, lgp_compute_team .TMP L P teams dense i h1 h2,
    lgp_compute_team .TMP L' P teams dense i h1 h2, g1, g2⟩

/-- **End to end, per rating, full pairing.**  Player `j` of team `i`: the two new means differ by
at most `share · Σ_q pairGapΩ`, the squares of the two new sigmas by at most
`σ̂² · share · Σ_q pairGapΔ`, with `share = σ̂²/σ_team²`. -/
theorem C01_leaf_gap_rating_TMF (h : LeafGap L L' εv εw εvt εwt) (P : Params ℝ)
    (hk : 0 < P.kappa) (hb : P.beta ≠ 0) (teams : List (List (Rating ℝ))) (dense : List Nat)
    (i : Nat) (h1 : i < teams.length) (h2 : i < dense.length) (j : Nat) (hj : j < teams[i].length) :
    |(((compute .TMF L P teams dense)[i]'(compute_lt h1 h2))[j]'(by
          rw [lgp_compute_team_length .TMF L P teams dense i h1 h2]; exact hj)).mu
      - (((compute .TMF L' P teams dense)[i]'(compute_lt h1 h2))[j]'(by
          rw [lgp_compute_team_length .TMF L' P teams dense i h1 h2]; exact hj)).mu|
      ≤ teams[i][j].sigma * teams[i][j].sigma
          / ((teamAggs teams dense)[i]'(lgp_teamAggs_lt h1 h2)).sig2
        * ((othersOf (teamAggs teams dense) i).map (pairGapΩ εv εvt 1 P.beta P.kappa
            ((teamAggs teams dense)[i]'(lgp_teamAggs_lt h1 h2)))).sum ∧
    |(((compute .TMF L P teams dense)[i]'(compute_lt h1 h2))[j]'(by
          rw [lgp_compute_team_length .TMF L P teams dense i h1 h2]; exact hj)).sigma ^ 2
      - (((compute .TMF L' P teams dense)[i]'(compute_lt h1 h2))[j]'(by
          rw [lgp_compute_team_length .TMF L' P teams dense i h1 h2]; exact hj)).sigma ^ 2|
      ≤ teams[i][j].sigma ^ 2 * (teams[i][j].sigma * teams[i][j].sigma
          / ((teamAggs teams dense)[i]'(lgp_teamAggs_lt h1 h2)).sig2)
        * ((othersOf (teamAggs teams dense) i).map (pairGapΔ εw εwt 1 P.beta P.kappa P.gamma
            (teamAggs teams dense).length
            ((teamAggs teams dense)[i]'(lgp_teamAggs_lt h1 h2)))).sum := by
  obtain ⟨hs, hpos⟩ := teamAggs_gap_ok P hb teams dense
  obtain ⟨g1, g2⟩ := C01_leaf_gap_TMF h P _ hk hs hpos i (lgp_teamAggs_lt h1 h2)
  simp only [lgp_compute_team .TMF _ P teams dense i h1 h2, List.getElem_map]
  exact leaf_gap_player_le hk (hs _ (List.getElem_mem _)) g1 g2 _

/-- **End to end, per rating, partial pairing.** -/
theorem C01_leaf_gap_rating_TMP (h : LeafGap L L' εv εw εvt εwt) (P : Params ℝ)
    (hk : 0 < P.kappa) (hb : P.beta ≠ 0) (teams : List (List (Rating ℝ))) (dense : List Nat)
    (i : Nat) (h1 : i < teams.length) (h2 : i < dense.length) (j : Nat) (hj : j < teams[i].length) :
    |(((compute .TMP L P teams dense)[i]'(compute_lt h1 h2))[j]'(by
          rw [lgp_compute_team_length .TMP L P teams dense i h1 h2]; exact hj)).mu
      - (((compute .TMP L' P teams dense)[i]'(compute_lt h1 h2))[j]'(by
          rw [lgp_compute_team_length .TMP L' P teams dense i h1 h2]; exact hj)).mu|
      ≤ teams[i][j].sigma * teams[i][j].sigma
          / ((teamAggs teams dense)[i]'(lgp_teamAggs_lt h1 h2)).sig2
        * ((neighboursOf (teamAggs teams dense) i).map (pairGapΩ εv εvt 2 P.beta P.kappa
            ((teamAggs teams dense)[i]'(lgp_teamAggs_lt h1 h2)))).sum ∧
    |(((compute .TMP L P teams dense)[i]'(compute_lt h1 h2))[j]'(by
          rw [lgp_compute_team_length .TMP L P teams dense i h1 h2]; exact hj)).sigma ^ 2
      - (((compute .TMP L' P teams dense)[i]'(compute_lt h1 h2))[j]'(by
          rw [lgp_compute_team_length .TMP L' P teams dense i h1 h2]; exact hj)).sigma ^ 2|
      ≤ teams[i][j].sigma ^ 2 * (teams[i][j].sigma * teams[i][j].sigma
          / ((teamAggs teams dense)[i]'(lgp_teamAggs_lt h1 h2)).sig2)
        * ((neighboursOf (teamAggs teams dense) i).map (pairGapΔ εw εwt 2 P.beta P.kappa P.gamma
            (teamAggs teams dense).length
            ((teamAggs teams dense)[i]'(lgp_teamAggs_lt h1 h2)))).sum := by
  obtain ⟨hs, hpos⟩ := teamAggs_gap_ok P hb teams dense
  obtain ⟨g1, g2⟩ := C01_leaf_gap_TMP h P _ hk hs hpos i (lgp_teamAggs_lt h1 h2)
  simp only [lgp_compute_team .TMP _ P teams dense i h1 h2, List.getElem_map]
  exact leaf_gap_player_le hk (hs _ (List.getElem_mem _)) g1 g2 _

/-- **The code's leaves are within their documented errors of the exact ones**, for every `x` and
every positive margin `t` (no upper restriction on `t`):
* `v`: equal off the guard `Φ(x−t) < 2⁻⁵²`; on it within `V/64` (`C17_v_asym_error`);
* `w`: equal off the guard; on it within `1/50` when `x < 0` (`C17_w_asym_error`); in the corner
  `x ≥ 0` on the guard — only reachable with a margin `t > 8` — the code returns 0 where the exact
  value lies in `(0.98, 1)`, so there the error bound is the trivial 1 (`C17_w_asym_nonneg_x`);
  `codeGapW_of_le_eight` states that for `t ≤ 8` the error is the plain "1/50 on the guard, else 0";
* `vt`: within `2t` (`C17_vt_within_2t`);
* `wt`: within `4t²` — the hypothesis `hwt`, which `C17_wt_code_error` proves (`C01_leafGap_code_exact`). -/
theorem leafGap_code_exact
    (hwt : ∀ x t : ℝ, 0 < t → |wtCode x t - wtExact x t| ≤ 4 * t ^ 2) :
    LeafGap (codeLeaves : Leaves ℝ) exactLeaves codeGapV codeGapW codeGapVt codeGapWt where
  v x t _ := vCode_gap x t
  w x t _ := wCode_gap x t
  vt x t ht := C17_vt_within_2t x t ht
  wt x t ht := hwt x t ht

/-- the code's `v, w, vt, wt` are within the documented errors of the exact `V, W, Ṽ, W̃`
(`V/64` resp. `1/50` on the asymptotic branch of `v, w`, `2t` for `vt`, `4t²` for `wt`; 0 elsewhere) -/
theorem C01_leafGap_code_exact :
    LeafGap codeLeaves exactLeaves codeGapV codeGapW codeGapVt codeGapWt :=
  leafGap_code_exact (fun _ _ ht => C17_wt_code_error ht)

/-- for margins `t ≤ 8` (every sensible configuration: `t = κ/c_iq` with `κ = 10⁻⁴`) the `w` error
is `1/50` on the guard and `0` off it -/
theorem codeGapW_of_le_eight {x t : ℝ} (ht : t ≤ 8) :
    codeGapW x t = if Gauss.Phi (x - t) < epsF then 1 / 50 else 0 := by
  unfold codeGapW
  split_ifs with h hx
  · rfl
  · have := C17_asymptote_below_minus_8 h
    exact absurd (by linarith : x < 0) hx
  · rfl

/-- off the guard of `v`/`w` (that is, unless `x − t < −8`, `C17_asymptote_below_minus_8`) the `v`
and `w` errors vanish: the only leaf errors left in a game whose scaled mean differences stay
above `−8` are those of the tie leaves, `2t` and `4t²` -/
theorem codeGapVW_eq_zero {x t : ℝ} (hx : -8 ≤ x - t) : codeGapV x t = 0 ∧ codeGapW x t = 0 := by
  have hn : ¬ Gauss.Phi (x - t) < epsF := fun hg => by
    have := C17_asymptote_below_minus_8 hg
    linarith
  simp only [codeGapV, codeGapW, if_neg hn, and_self]

/-- **Headline, full pairing**: the code's Thurstone–Mosteller `(Ω_i, Δ_i)` against the ones
computed with the paper's exact `V, W, Ṽ, W̃`: they differ by at most the summed per-pair errors
of the code's leaves (`codeGapV/W/Vt/Wt`). -/
theorem C01_code_vs_exact_TMF
    (hwt : ∀ x t : ℝ, 0 < t → |wtCode x t - wtExact x t| ≤ 4 * t ^ 2)
    (P : Params ℝ) (ts : List (TeamAgg ℝ))
    (hk : 0 < P.kappa) (hs : ∀ a ∈ ts, 0 ≤ a.sig2)
    (hpos : ∀ a ∈ ts, ∀ b ∈ ts, 0 < a.sig2 + b.sig2 + 2 * (P.beta * P.beta))
    (i : Nat) (hi : i < ts.length) :
    |((omegaDelta .TMF codeLeaves P ts)[i]'(omegaDelta_lt _ P ts hi)).1
        - ((omegaDelta .TMF exactLeaves P ts)[i]'(omegaDelta_lt _ P ts hi)).1|
      ≤ ((othersOf ts i).map (pairGapΩ codeGapV codeGapVt 1 P.beta P.kappa ts[i])).sum ∧
    |((omegaDelta .TMF codeLeaves P ts)[i]'(omegaDelta_lt _ P ts hi)).2
        - ((omegaDelta .TMF exactLeaves P ts)[i]'(omegaDelta_lt _ P ts hi)).2|
      ≤ ((othersOf ts i).map
          (pairGapΔ codeGapW codeGapWt 1 P.beta P.kappa P.gamma ts.length ts[i])).sum :=
  C01_leaf_gap_TMF (leafGap_code_exact hwt) P ts hk hs hpos i hi

/-- **Headline, partial pairing.** -/
theorem C01_code_vs_exact_TMP
    (hwt : ∀ x t : ℝ, 0 < t → |wtCode x t - wtExact x t| ≤ 4 * t ^ 2)
    (P : Params ℝ) (ts : List (TeamAgg ℝ))
    (hk : 0 < P.kappa) (hs : ∀ a ∈ ts, 0 ≤ a.sig2)
    (hpos : ∀ a ∈ ts, ∀ b ∈ ts, 0 < a.sig2 + b.sig2 + 2 * (P.beta * P.beta))
    (i : Nat) (hi : i < ts.length) :
    |((omegaDelta .TMP codeLeaves P ts)[i]'(omegaDelta_lt _ P ts hi)).1
        - ((omegaDelta .TMP exactLeaves P ts)[i]'(omegaDelta_lt _ P ts hi)).1|
      ≤ ((neighboursOf ts i).map (pairGapΩ codeGapV codeGapVt 2 P.beta P.kappa ts[i])).sum ∧
    |((omegaDelta .TMP codeLeaves P ts)[i]'(omegaDelta_lt _ P ts hi)).2
        - ((omegaDelta .TMP exactLeaves P ts)[i]'(omegaDelta_lt _ P ts hi)).2|
      ≤ ((neighboursOf ts i).map
          (pairGapΔ codeGapW codeGapWt 2 P.beta P.kappa P.gamma ts.length ts[i])).sum :=
  C01_leaf_gap_TMP (leafGap_code_exact hwt) P ts hk hs hpos i hi

/-- the hypotheses of the team-level theorems are satisfiable, and the right-hand side evaluates:
two tied teams with `σ² = 1`, `β = 1`, `κ = 10⁻⁴` give `c = 2`, `t = κ/2`, and the Ω bound
for team 0 under `(εvt x t = 2t)` is `σ²/c · 2t = 1/20000`. -/
example :
    let P : Params ℝ := ⟨1, 1 / 10000, 0, false, .dflt⟩
    let ts : List (TeamAgg ℝ) := [⟨25, 1, 0, []⟩, ⟨30, 1, 0, []⟩]
    0 < P.kappa ∧ (∀ a ∈ ts, 0 ≤ a.sig2) ∧
    (∀ a ∈ ts, ∀ b ∈ ts, 0 < a.sig2 + b.sig2 + 2 * (P.beta * P.beta)) ∧
    ((othersOf ts 0).map (pairGapΩ codeGapV codeGapVt 1 P.beta P.kappa ts[0])).sum = 1 / 20000 := by
  intro P ts
  have h1 : ∀ a ∈ ts, a.sig2 = 1 := by simp [ts]
  have h4 : √(1 + 1 + 2 * (1 * 1) : ℝ) = 2 := by
    rw [show (1 + 1 + 2 * (1 * 1) : ℝ) = 2 ^ 2 by norm_num]
    exact Real.sqrt_sq (by norm_num)
  refine ⟨by norm_num [P], fun a ha => by rw [h1 a ha]; exact zero_le_one,
    fun a ha b hb => by rw [h1 a ha, h1 b hb]; norm_num [P], ?_⟩
  show pairGapΩ codeGapV codeGapVt 1 1 (1 / 10000) ⟨25, 1, 0, []⟩ ⟨30, 1, 0, []⟩ + 0 = 1 / 20000
  simp only [pairGapΩ, pairLeafErr, lgp_tmC, codeGapVt, h4, lt_irrefl, if_false]
  norm_num

/-- the leaf-gap interface is inhabited: any leaf record against itself (`C01_leafGap_code_exact` is the
instance that matters) -/
example (L : Leaves ℝ) : LeafGap L L (fun _ _ => 0) (fun _ _ => 0) (fun _ _ => 0) (fun _ _ => 0) :=
  LeafGap.refl L

end OS
end
