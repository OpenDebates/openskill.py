import OSProofs.RealInst
import OSProofs.RealBounds
import OSProofs.DrawLemmas
/-!
# C08 — totality: the guards behind "no arithmetic exception escapes" (partial)

Python raises on a zero float denominator, a negative `math.sqrt` argument, an overflowing
`math.exp` and an `inv_cdf` argument outside (0,1).  Over ℝ the corresponding guards are proved
for every game in the stated domain.  Overflow/underflow of IEEE doubles inside sums and products
cannot be exhibited by a model over the reals: that part is sampled at the domain corners by the
correspondence, not proved.
-/
noncomputable section
namespace OS

/-- every square-root argument of the update is strictly positive (kappa floor) -/
theorem C08_sqrt_arg_nonneg (x κ : ℝ) (hκ : 0 < κ) : 0 < smax x κ := by
  rw [smax_eq_max]; exact lt_max_of_lt_right hκ

theorem ciq_arg_pos {β si sq : ℝ} (hβ : β ≠ 0) (hi : 0 ≤ si) (hq : 0 ≤ sq) :
    0 < si + sq + 2 * (β * β) :=
  add_pos_of_nonneg_of_pos (add_nonneg hi hq) (mul_pos two_pos (mul_self_pos.mpr hβ))

/-- the Bradley–Terry / Thurstone–Mosteller pair denominator `c_iq ≥ √2·β > 0` -/
theorem C08_ciq_pos (β si sq : ℝ) (hβ : 0 < β) (hi : 0 ≤ si) (hq : 0 ≤ sq) :
    0 < Real.sqrt (si + sq + 2 * (β * β)) ∧ Real.sqrt 2 * β ≤ Real.sqrt (si + sq + 2 * (β * β)) := by
  have h : Real.sqrt 2 * β ≤ Real.sqrt (si + sq + 2 * (β * β)) :=
    sqrt_mul_le_sqrt hβ.le (le_add_of_nonneg_left (add_nonneg hi hq))
  exact ⟨pos_of_sqrt_two_mul_le hβ h, h⟩

theorem plC_ge_sqrt_length (β : ℝ) (hβ : 0 ≤ β) (ts : List (TeamAgg ℝ))
    (hs : ∀ t ∈ ts, 0 ≤ t.sig2) : Real.sqrt ts.length * β ≤ plC β ts := by
  unfold plC
  rw [sc_sqrt, sumL_eq_sum]
  have h1 := List.card_nsmul_le_sum (ts.map (fun t => t.sig2 + β * β)) (β * β) fun x hx => by
    obtain ⟨t, ht, rfl⟩ := List.mem_map.mp hx
    exact le_add_of_nonneg_left (hs t ht)
  rw [List.length_map, nsmul_eq_mul] at h1
  exact sqrt_mul_le_sqrt hβ h1

/-- the Plackett–Luce normaliser `c > 0` for a non-empty game -/
theorem C08_plC_pos (β : ℝ) (hβ : 0 < β) (ts : List (TeamAgg ℝ)) (hne : ts ≠ [])
    (hs : ∀ t ∈ ts, 0 ≤ t.sig2) : 0 < plC β ts :=
  (mul_pos (Real.sqrt_pos.mpr (Nat.cast_pos.mpr (List.length_pos_iff.mpr hne))) hβ).trans_le
    (plC_ge_sqrt_length β hβ.le ts hs)

theorem sq_sigma_le_teamAgg_sig2 (team : List (Rating ℝ)) (rk : Nat) {p : Rating ℝ} (hp : p ∈ team) :
    p.sigma * p.sigma ≤ (teamAgg team rk).sig2 := by
  simp only [teamAgg, sumL_eq_sum]
  exact le_sum_map_of_mem team (fun p => p.sigma * p.sigma) (fun x _ => mul_self_nonneg _) hp

/-- the team variance is strictly positive as soon as one inflated sigma is (sigma > 0 or tau > 0) -/
theorem C08_team_var_pos (team : List (Rating ℝ)) (rk : Nat) (h : ∃ p ∈ team, p.sigma ≠ 0) :
    0 < (teamAgg team rk).sig2 := by
  obtain ⟨p, hp, hne⟩ := h
  exact (mul_self_pos.mpr hne).trans_le (sq_sigma_le_teamAgg_sig2 team rk hp)

/-- the inflated sigma is positive when sigma > 0 or tau ≠ 0 -/
theorem C08_inflate_pos (σ τ : ℝ) (h : σ ≠ 0 ∨ τ ≠ 0) : 0 < Real.sqrt (σ * σ + τ * τ) := by
  apply Real.sqrt_pos.mpr
  rcases h with h | h
  · exact add_pos_of_pos_of_nonneg (mul_self_pos.mpr h) (mul_self_nonneg τ)
  · exact add_pos_of_nonneg_of_pos (mul_self_nonneg σ) (mul_self_pos.mpr h)

/-- the inverse-CDF argument `(1 + 1/N)/2` lies in (1/2, 1) for `N ≥ 2` players (a game has ≥ 2 teams
of ≥ 1 player; at `N = 1` it would be 1, outside the domain of `inv_cdf`) -/
theorem C08_invcdf_arg (N : ℕ) (hN : 2 ≤ N) :
    (1:ℝ) / 2 < (1 + 1 / (N:ℝ)) / 2 ∧ (1 + 1 / (N:ℝ)) / 2 < 1 := by
  have h2 : (2:ℝ) ≤ N := by exact_mod_cast hN
  exact ⟨div_lt_div_of_pos_right (lt_add_of_pos_right 1 (one_div_pos.mpr (two_pos.trans_le h2)))
    two_pos, marginArg_lt_one h2⟩

/-- Bradley–Terry: the `exp` argument is bounded on the stated domain: |θ_q − θ_i| ≤ 640 β
(16 players, |mu| ≤ 20 β) and c_iq ≥ √2 β give |arg| ≤ 640/√2 < 453 < 709.78 (no overflow).  The same
quotient bounds `θ_i/c` of Plackett–Luce, the leaf argument of Thurstone–Mosteller and the Φ arguments of
`predict_win`. -/
theorem C08_bt_exp_arg_bound (β d c : ℝ) (hβ : 0 < β) (hd : |d| ≤ 640 * β) (hc : Real.sqrt 2 * β ≤ c) :
    |d / c| ≤ 453 :=
  abs_div_le_of_sqrt_two hβ (by norm_num) hd hc (by norm_num)

end OS
end
