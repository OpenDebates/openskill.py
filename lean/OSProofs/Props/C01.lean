import OSProofs.SpecLemmas

/-!
# C01 — `rate` computes the published Weng–Lin posterior for each of the five models

Refinement theorems over ℝ: the code-shaped `omegaDelta` / `compute` of `OSModel/Compute.lean`
(left folds in the Python code's iteration order, dict/list bookkeeping of `_sum_q`, `_a`,
`enumerate`/`zip`) equal the closed forms of `OSProofs/Spec.lean` (plain `Finset` sums over the team
index).  No hypothesis on the ranks is needed: `S_q` and `A_q` are defined through rank
comparisons, both in the code and in the closed form.
-/

noncomputable section
namespace OS
open Finset

/-- **Plackett–Luce.**  For EVERY list of team aggregates (any ranks, sorted or not) the code's
loops return, for each team `i`, exactly the published
`Ω_i = (s2_i/c) Σ_{q : r_q ≤ r_i} ([q=i] − e_i/S_q)/A_q` and
`Δ_i = (Σ_{q : r_q ≤ r_i} (e_i/S_q)(1 − e_i/S_q)/A_q)(s2_i/c²) γ_i`. -/
theorem C01_PL (L : Leaves ℝ) (P : Params ℝ) (ts : List (TeamAgg ℝ)) :
    omegaDelta .PL L P ts = List.ofFn (fun i : Fin ts.length =>
      (SpecPL.Ω (gameOf ts) P.beta i, SpecPL.Δ (gameOf ts) P.beta (gammaOf P.gamma ts) i)) := by
  simp only [omegaDelta]
  rw [zipIdx_map_eq_ofFn]
  congr 1
  funext i
  exact plOmegaDelta_eq P.gamma P.beta ts i

/-- **Bradley–Terry, full pairing.**  `Ω_i`, `Δ_i` are the sums of the published pair terms over
all opponents `q ≠ i`. -/
theorem C01_BTF (L : Leaves ℝ) (P : Params ℝ) (ts : List (TeamAgg ℝ)) :
    omegaDelta .BTF L P ts = List.ofFn (fun i : Fin ts.length =>
      (SpecBT.ΩF (gameOf ts) P.beta i, SpecBT.ΔF (gameOf ts) P.beta (gammaOf P.gamma ts) i)) :=
  (pairing_full_eq ts _).trans <| congrArg List.ofFn <| funext fun i => by
    simp only [btPair_eq]
    rfl

/-- **Bradley–Terry, partial pairing.**  `Ω_i`, `Δ_i` are the sums of the same pair terms over
the neighbours `i − 1`, `i + 1` (those that exist) in the given list order. -/
theorem C01_BTP (L : Leaves ℝ) (P : Params ℝ) (ts : List (TeamAgg ℝ)) :
    omegaDelta .BTP L P ts = List.ofFn (fun i : Fin ts.length =>
      (SpecBT.ΩP (gameOf ts) P.beta i, SpecBT.ΔP (gameOf ts) P.beta (gammaOf P.gamma ts) i)) :=
  (pairing_part_eq ts _).trans <| congrArg List.ofFn <| funext fun i => by
    simp only [btPair_eq]
    rfl

/-- **Thurstone–Mosteller, full pairing.**  Sums over `q ≠ i` of the published pair terms
(`v`, `w` on a win, `−v(−x)`, `w(−x)` on a loss, `ṽ`, `w̃` on a tie; `c_iq = √(s2_i + s2_q + 2β²)`). -/
theorem C01_TMF (L : Leaves ℝ) (P : Params ℝ) (ts : List (TeamAgg ℝ)) :
    omegaDelta .TMF L P ts = List.ofFn (fun i : Fin ts.length =>
      (SpecTM.ΩF (gameOf ts) L P.beta P.kappa i,
       SpecTM.ΔF (gameOf ts) L P.beta P.kappa (gammaOf P.gamma ts) i)) :=
  (pairing_full_eq ts _).trans <| congrArg List.ofFn <| funext fun i => by
    simp only [tmPair_eq, sc_one]
    rfl

/-- **Thurstone–Mosteller, partial pairing.**  Sums over the ladder neighbours of the same pair
terms with `c_iq = 2·√(s2_i + s2_q + 2β²)`. -/
theorem C01_TMP (L : Leaves ℝ) (P : Params ℝ) (ts : List (TeamAgg ℝ)) :
    omegaDelta .TMP L P ts = List.ofFn (fun i : Fin ts.length =>
      (SpecTM.ΩP (gameOf ts) L P.beta P.kappa i,
       SpecTM.ΔP (gameOf ts) L P.beta P.kappa (gammaOf P.gamma ts) i)) :=
  (pairing_part_eq ts _).trans <| congrArg List.ofFn <| funext fun i => by
    simp only [tmPair_eq, sc_ofNat, Nat.cast_ofNat]
    rfl

/-- all five at once -/
theorem C01_omegaDelta (K : Kind) (L : Leaves ℝ) (P : Params ℝ) (ts : List (TeamAgg ℝ)) :
    omegaDelta K L P ts = List.ofFn (specOmegaDelta K L P ts) := by
  cases K
  · exact C01_PL L P ts
  · exact C01_BTF L P ts
  · exact C01_BTP L P ts
  · exact C01_TMF L P ts
  · exact C01_TMP L P ts

/-- **Per-player tail.**  Every player of a team gets `μ' = μ + (σ²/s2)·ω` and
`σ' = σ·√(max(1 − (σ²/s2)·δ, κ))`; Python's `max` is the real maximum.  The function mapped over
the roster is `specPlayer κ t.sig2 ω δ`, written out. -/
theorem C01_player (κ : ℝ) (t : TeamAgg ℝ) (ω δ : ℝ) :
    applyTeam κ t ω δ = t.players.map (fun p =>
      { p with mu := p.mu + (p.sigma ^ 2 / t.sig2) * ω,
               sigma := p.sigma * Real.sqrt (max (1 - (p.sigma ^ 2 / t.sig2) * δ) κ) }) := by
  unfold applyTeam
  simp only [smax_eq_max, sc_sqrt, sc_one, sq]

/-- **Team aggregation.**  The team mean is the sum of the player means, the team variance the
sum of the squared player sigmas; rank and roster are carried along. -/
theorem C01_teamAgg (team : List (Rating ℝ)) (rk : Nat) :
    teamAgg team rk =
      { mu := (team.map (·.mu)).sum, sig2 := (team.map (fun p => p.sigma ^ 2)).sum,
        rank := rk, players := team } := by
  unfold teamAgg
  simp only [sumL_eq_sum, sq]

/-- the tau inflation replaces `σ²` by `σ² + τ²` (no sign condition: `σ² + τ² ≥ 0`) -/
theorem C01_inflate_sq (τ σ : ℝ) : Real.sqrt (σ * σ + τ * τ) ^ 2 = σ ^ 2 + τ ^ 2 := by
  rw [Real.sq_sqrt (add_nonneg (mul_self_nonneg _) (mul_self_nonneg _))]; ring

/-- one team after the tau inflation: mean `Σ_j μ_j`, variance `Σ_j (σ_j² + τ²)` -/
theorem teamAgg_inflPlayer (τ : ℝ) (S : List (Rating ℝ)) (r : Nat) :
    teamAgg (S.map (inflPlayer τ)) r =
      { mu := (S.map (·.mu)).sum,
        sig2 := (S.map (fun p => p.sigma ^ 2 + τ ^ 2)).sum,
        rank := r,
        players := S.map (fun p => { p with sigma := Real.sqrt (p.sigma ^ 2 + τ ^ 2) }) } := by
  rw [C01_teamAgg, List.map_map, List.map_map]
  congr 1
  · exact congrArg List.sum (List.map_congr_left fun p _ => C01_inflate_sq τ p.sigma)
  · exact List.map_congr_left fun p _ => by simp only [inflPlayer, sc_sqrt, sq]

/-- **Team aggregation after the tau inflation.**  Team `i` of `teamAggs (inflate τ teams) dense`
has mean `Σ_j μ_j`, variance `Σ_j (σ_j² + τ²)`, rank `dense[i]`, and the inflated roster. -/
theorem C01_teamAgg_inflate (τ : ℝ) (teams : List (List (Rating ℝ))) (dense : List Nat) (i : Nat)
    (h1 : i < teams.length) (h2 : i < dense.length) :
    (teamAggs (inflate τ teams) dense)[i]'(by
        rw [teamAggs_length_real]; simp only [inflate, List.length_map]; omega) =
      { mu := (teams[i].map (·.mu)).sum,
        sig2 := (teams[i].map (fun p => p.sigma ^ 2 + τ ^ 2)).sum,
        rank := dense[i],
        players := teams[i].map (fun p =>
          { p with sigma := Real.sqrt (p.sigma ^ 2 + τ ^ 2) }) } := by
  rw [teamAggs_getElem _ _ i (by rw [inflate_length]; exact h1) h2]
  simp only [inflate, List.getElem_map]
  exact teamAgg_inflPlayer τ teams[i] dense[i]

/-- **`_compute`.**  The result of `_compute` is, for each team `i` of `ts = teamAggs teams dense`
and each of its players, the published per-player update with the published `(Ω_i, Δ_i)` of the
model `K`. -/
theorem C01_compute (K : Kind) (L : Leaves ℝ) (P : Params ℝ) (teams : List (List (Rating ℝ)))
    (dense : List Nat) :
    compute K L P teams dense = specCompute K L P (teamAggs teams dense) := by
  unfold compute specCompute
  simp only [C01_omegaDelta, zip_ofFn_map, C01_player]
  rfl

/-- **`rate` without ranks or scores** (teams in the given order, ranks `0, 1, …`) and without the
`limit_sigma` clamp: the published posterior of the tau-inflated teams. -/
theorem C01_rate_omitted {ρ : Type} (K : Kind) (L : Leaves ℝ) (P : Params ℝ) (le : ρ → ρ → Bool)
    (neg : ρ → ρ) (teams : List (List (Rating ℝ))) (o : CallOpts ℝ)
    (hl : resolveLimit P o = false) :
    rate K L P le neg teams .omitted o
      = specCompute K L P
          (teamAggs (inflate (resolveTau P o) teams) (List.range teams.length)) := by
  simp only [rate, rateCore, hl, C01_compute]
  simp [inflate]

/-- sanity check of the closed form (the statements above are not about a degenerate spec): two
teams, team 0 wins — the textbook two-team Plackett–Luce `Ω` -/
example (G : Game 2) (β : ℝ) (h0 : G.r 0 = 0) (h1 : G.r 1 = 1) :
    SpecPL.Ω G β 0
        = (G.s2 0 / SpecPL.c G β) * (1 - SpecPL.e G β 0 / (SpecPL.e G β 0 + SpecPL.e G β 1))
    ∧ SpecPL.Ω G β 1
        = (G.s2 1 / SpecPL.c G β) * (-(SpecPL.e G β 1 / (SpecPL.e G β 0 + SpecPL.e G β 1))) := by
  have hne : SpecPL.e G β 1 ≠ 0 := (Real.exp_pos _).ne'
  -- the sums over the two positions, written out; then the rank comparisons `0 ≤ 0`, `0 ≤ 1`, `1 ≤ 0`, …
  -- are decided and what is left is `x + 0`, `x / 1`, `e₁ / e₁`
  simp only [SpecPL.Ω, SpecPL.p, SpecPL.S, SpecPL.A, Fin.sum_univ_two, Finset.sum_filter,
    Finset.card_filter, h0, h1, le_refl, Nat.zero_le, (by decide : ¬ (1 : ℕ) ≤ 0), one_ne_zero,
    zero_ne_one, if_true, if_false, Nat.cast_add, Nat.cast_one, Nat.cast_zero, add_zero, zero_add,
    div_one, div_self hne, sub_self, zero_sub, and_self]

end OS
end
