import OSProofs.DrawLemmas
import OSProofs.PredictSumLemmas
import OSProofs.Props.C12
import OSProofs.RealSums

/-!
# C10 — `predict_draw` is a probability, largest for evenly matched teams (analytic core)

`predict_draw` adds, for every ORDERED pair (a,b) of teams, the term
`band m s d = Φ((m − d)/s) − Φ((d − m)/s)` with gap `d = θa − θb`, margin
`m = √N·β·Φ⁻¹((1 + 1/N)/2)` (N = total number of players) and scale
`s = √(n β² + σa² + σb²)` (n = number of teams).  A single term is `1 − 2Φ((d−m)/s)`, which is
negative for `d > m` (`band_neg_of_gt`); the two ordered pairs of one unordered pair together give
`pairBand m s d = 2·[Φ((d+m)/s) − Φ((d−m)/s)]`, twice the probability that a N(d, s²) variable
falls in [−m, m].  All statements below are over ℝ.

`predictDraw_eq_unordered` regroups the list of ordered pairs produced by `orderedPairs`
(= `itertools.permutations(·, 2)`) into unordered pairs (`sum_orderedPairs_eq_unordered`).  Here the
n > 2 case is stated for an arbitrary list of unordered-pair terms (`C10_many_teams_mem`) and the
two-team case is proved end to end for the model function `predictDraw`
(`C10_predictDraw_two_teams`); `Props/C10Teams.lean` has the end-to-end statements for any number
of teams.
-/

noncomputable section
namespace OS
open Gauss

/-! ### the pair terms of the model -/

/-- The term `predictDraw` computes for an ordered pair of team aggregates is `band` at the gap
`a.mu − b.mu`. -/
theorem C10_term_eq_band (m s : ℝ) (a b : TeamAgg ℝ) :
    Scalar.Phi ((m - a.mu + b.mu) / s) - Scalar.Phi ((a.mu - b.mu - m) / s)
      = band m s (a.mu - b.mu) := by
  simp only [sc_Phi, band]
  have h : m - a.mu + b.mu = m - (a.mu - b.mu) := by ring
  rw [h]

/-- The two ordered pairs (a,b), (b,a) of the model together contribute `pairBand`. -/
theorem C10_terms_eq_pairBand (n : ℕ) (β m : ℝ) (a b : TeamAgg ℝ) :
    (Scalar.Phi ((m - a.mu + b.mu) / pairDenom n β a b)
        - Scalar.Phi ((a.mu - b.mu - m) / pairDenom n β a b))
      + (Scalar.Phi ((m - b.mu + a.mu) / pairDenom n β b a)
        - Scalar.Phi ((b.mu - a.mu - m) / pairDenom n β b a))
      = pairBand m (pairDenom n β a b) (a.mu - b.mu) := by
  rw [C10_term_eq_band, C10_term_eq_band, pairDenom_symm n β a b]
  unfold pairBand
  rw [neg_sub]

/-- contribution of the unordered pair `p` of team aggregates -/
def drawPair (n : ℕ) (β m : ℝ) (p : TeamAgg ℝ × TeamAgg ℝ) : ℝ :=
  pairBand m (pairDenom n β p.1 p.2) (p.1.mu - p.2.mu)

/-- **`predictDraw` in terms of unordered pairs** (any number of teams): the sum over the ordered
pairs is the sum over the unordered pairs {a,b} of `pairBand m s_ab (θa − θb)`. -/
theorem predictDraw_eq_unordered (β : ℝ) (teams : List (List (Rating ℝ))) :
    predictDraw β teams
      = |((unorderedPairs (aggs teams)).map
            (drawPair teams.length β (drawMargin β (playerCount teams)))).sum|
        / (if teams.length > 2 then ((teams.length * (teams.length - 1) : ℕ) : ℝ) else 1) := by
  unfold predictDraw
  dsimp only
  rw [sumL_eq_sum, sabs_eq_abs, sum_orderedPairs_eq_unordered]
  simp only [Prod.fst_swap, Prod.snd_swap, C10_terms_eq_pairBand, sc_one]
  rfl

/-! ### more than two teams: the mean of the pair contributions -/

/-- `C10_avg_bound` with the contributions spelled out: any list of `k > 0` (scale, gap) data with
positive scales and a common nonnegative margin. -/
theorem C10_many_teams_mem {m : ℝ} (hm : 0 ≤ m) (sd : List (ℝ × ℝ)) (hpos : ∀ p ∈ sd, 0 < p.1)
    (hne : sd ≠ []) :
    0 ≤ (sd.map (fun p => pairBand m p.1 p.2)).sum / (2 * sd.length)
      ∧ (sd.map (fun p => pairBand m p.1 p.2)).sum / (2 * sd.length) ≤ 1 := by
  apply C10_avg_bound _ sd.length (List.length_pos_iff.mpr hne) (by simp)
  intro x hx
  obtain ⟨p, hp, rfl⟩ := List.mem_map.mp hx
  exact C10_pairBand_mem hm (hpos p hp) p.2

/-- Restates `C10_pairBand_max_at_zero`.  Equalising: replacing every gap by 0 (all teams equally strong;
margins and scales are not affected, they depend on β, the team sizes and the σ only) lowers no term … -/
theorem C10_equalise {m s : ℝ} (hm : 0 ≤ m) (hs : 0 < s) (d : ℝ) :
    pairBand m s d ≤ pairBand m s 0 :=
  C10_pairBand_max_at_zero hm hs d

/-- … and hence does not lower the sum (or the mean) of the pair contributions. -/
theorem C10_equalise_sum {m : ℝ} (hm : 0 ≤ m) (sd : List (ℝ × ℝ)) (hpos : ∀ p ∈ sd, 0 < p.1) :
    (sd.map (fun p => pairBand m p.1 p.2)).sum ≤ (sd.map (fun p => pairBand m p.1 0)).sum :=
  List.sum_le_sum fun p hp => C10_pairBand_max_at_zero hm (hpos p hp) p.2

/-! ### two teams -/

theorem twoTeam_margin_nonneg {N β : ℝ} (hN : 2 ≤ N) (hβ : 0 < β) :
    0 ≤ Real.sqrt N * β * PhiInv ((1 + 1 / N) / 2) :=
  mul_nonneg (mul_nonneg (Real.sqrt_nonneg _) hβ.le) (zN_nonneg (zero_le_two.trans hN))

theorem twoTeam_scale_pos {β v : ℝ} (hβ : 0 < β) (hv : 0 ≤ v) : 0 < Real.sqrt (2 * β ^ 2 + v) :=
  Real.sqrt_pos.mpr (by positivity)

/-- Two teams: `predict_draw = pairBand m s d` with `m = √N·β·Φ⁻¹((1+1/N)/2)` and
`s = √(2β² + v)`, `v = σa² + σb² ≥ 0`.  It is nonnegative … -/
theorem C10_two_team_nonneg {N β v : ℝ} (hN : 2 ≤ N) (hβ : 0 < β) (hv : 0 ≤ v) (d : ℝ) :
    0 ≤ pairBand (Real.sqrt N * β * PhiInv ((1 + 1 / N) / 2)) (Real.sqrt (2 * β ^ 2 + v)) d :=
  pairBand_nonneg (twoTeam_margin_nonneg hN hβ) (twoTeam_scale_pos hβ hv).le d

/-- … and at most 1, for every real `N ≥ 2` (so for every total player count), every β > 0,
every σ and every gap.  This is the inequality `Φ(√(N/2)·z_N) ≤ ¾` over all team sizes, proved
from the concavity of Φ on [0,∞). -/
theorem C10_two_team_le_one {N β v : ℝ} (hN : 2 ≤ N) (hβ : 0 < β) (hv : 0 ≤ v) (d : ℝ) :
    pairBand (Real.sqrt N * β * PhiInv ((1 + 1 / N) / 2)) (Real.sqrt (2 * β ^ 2 + v)) d ≤ 1 := by
  have hm := twoTeam_margin_nonneg hN hβ
  have hs := twoTeam_scale_pos hβ hv
  refine le_trans (C10_pairBand_max_at_zero hm hs d) ?_
  rw [pairBand_zero_gap]
  have hratio := two_team_ratio_le hN hβ hv (zN_nonneg (zero_le_two.trans hN))
  have h1 := Phi_strictMono.monotone hratio
  have h2 := size_ineq_inst hN
  linarith

/-- Two teams: the value never increases when the absolute gap grows. -/
theorem C10_two_team_antitone_gap {N β v : ℝ} (hN : 2 ≤ N) (hβ : 0 < β) (hv : 0 ≤ v)
    {d₁ d₂ : ℝ} (h : |d₁| ≤ |d₂|) :
    pairBand (Real.sqrt N * β * PhiInv ((1 + 1 / N) / 2)) (Real.sqrt (2 * β ^ 2 + v)) d₂
      ≤ pairBand (Real.sqrt N * β * PhiInv ((1 + 1 / N) / 2)) (Real.sqrt (2 * β ^ 2 + v)) d₁ :=
  C10_pairBand_antitone (twoTeam_margin_nonneg hN hβ) (twoTeam_scale_pos hβ hv) h

/-- The bound 1 is sharp: with N = 2 and σ = 0 (v = 0) and zero gap the value is exactly 1. -/
theorem C10_two_team_sharp {β : ℝ} (hβ : 0 < β) :
    pairBand (Real.sqrt 2 * β * PhiInv ((1 + 1 / 2) / 2)) (Real.sqrt (2 * β ^ 2 + 0)) 0 = 1 := by
  have hs : Real.sqrt (2 * β ^ 2 + 0) = Real.sqrt 2 * β := by
    rw [add_zero, Real.sqrt_mul zero_le_two, Real.sqrt_sq hβ.le]
  have h2 : Real.sqrt 2 * β ≠ 0 := (mul_pos (Real.sqrt_pos.mpr two_pos) hβ).ne'
  rw [pairBand_zero_gap, hs, mul_div_cancel_left₀ _ h2, Phi_PhiInv (by norm_num) (by norm_num)]
  norm_num

/-! ### two teams, end to end for the model function -/

/-- For two teams the model's `predictDraw` is the absolute value of the pair contribution. -/
theorem predictDraw_two_eq (β : ℝ) (ta tb : List (Rating ℝ)) :
    predictDraw β [ta, tb]
      = |pairBand (drawMargin β (ta.length + tb.length))
          (pairDenom 2 β (teamAgg ta 0) (teamAgg tb 0))
          ((teamAgg ta 0).mu - (teamAgg tb 0).mu)| := by
  rw [predictDraw_eq_unordered, playerCount_pair]
  -- one unordered pair, and the divisor is 1
  show |drawPair 2 β _ (teamAgg ta 0, teamAgg tb 0) + 0| / 1 = _
  rw [add_zero, div_one]
  rfl

/-- for β ≥ 0 the absolute value is vacuous, whatever the teams (margin and scale are ≥ 0) -/
theorem predictDraw_two_eq_pairBand (β : ℝ) (hβ : 0 ≤ β) (ta tb : List (Rating ℝ)) :
    predictDraw β [ta, tb]
      = pairBand (drawMargin β (ta.length + tb.length))
          (pairDenom 2 β (teamAgg ta 0) (teamAgg tb 0))
          ((teamAgg ta 0).mu - (teamAgg tb 0).mu) := by
  rw [predictDraw_two_eq]
  exact abs_of_nonneg (pairBand_nonneg (drawMargin_nonneg β hβ _) (pairDenom_nonneg _ _ _ _) _)

/-- C10 for two teams, end to end: for β > 0 and two non-empty teams, the model's
`predictDraw` equals the pair contribution (no absolute value needed) and lies in [0, 1]. -/
theorem C10_predictDraw_two_teams (β : ℝ) (hβ : 0 < β) (ta tb : List (Rating ℝ))
    (ha : ta ≠ []) (hb : tb ≠ []) :
    predictDraw β [ta, tb]
        = pairBand (drawMargin β (ta.length + tb.length))
            (pairDenom 2 β (teamAgg ta 0) (teamAgg tb 0))
            ((teamAgg ta 0).mu - (teamAgg tb 0).mu)
      ∧ 0 ≤ predictDraw β [ta, tb] ∧ predictDraw β [ta, tb] ≤ 1 := by
  have he := predictDraw_two_eq_pairBand β hβ.le ta tb
  refine ⟨he, ?_, ?_⟩
  · rw [predictDraw_two_eq]
    exact abs_nonneg _
  · -- the upper bound is the size inequality; it needs the two players
    have hN : (2:ℝ) ≤ ((ta.length + tb.length : ℕ) : ℝ) := by
      exact_mod_cast two_le_players ha hb
    rw [he, C12_drawMargin, pairDenom_eq, Nat.cast_ofNat, add_assoc]
    exact C10_two_team_le_one hN hβ
      (add_nonneg (teamAgg_sig2_nonneg ta 0) (teamAgg_sig2_nonneg tb 0)) _

/-- C10 for two teams, end to end: a larger absolute gap between the team means (same team
sizes and σ's, hence the same margin and scale) never gives a larger `predictDraw`.  `ha`, `hb` state the
library's domain (no empty team); the inequality holds without them. -/
theorem C10_predictDraw_two_teams_antitone (β : ℝ) (hβ : 0 < β)
    (ta tb ta' tb' : List (Rating ℝ)) (ha : ta ≠ []) (hb : tb ≠ [])
    (hla : ta'.length = ta.length) (hlb : tb'.length = tb.length)
    (hsa : (teamAgg ta' 0).sig2 = (teamAgg ta 0).sig2)
    (hsb : (teamAgg tb' 0).sig2 = (teamAgg tb 0).sig2)
    (hgap : |(teamAgg ta 0).mu - (teamAgg tb 0).mu| ≤ |(teamAgg ta' 0).mu - (teamAgg tb' 0).mu|) :
    predictDraw β [ta', tb'] ≤ predictDraw β [ta, tb] := by
  rw [predictDraw_two_eq_pairBand β hβ.le, predictDraw_two_eq_pairBand β hβ.le, hla, hlb,
    pairDenom_congr 2 β hsa hsb]
  exact C10_pairBand_antitone (drawMargin_nonneg β hβ.le _)
    (pairDenom_pos two_pos hβ (teamAgg_sig2_nonneg ta 0) (teamAgg_sig2_nonneg tb 0)) hgap

/-- the hypotheses of the two-team theorems are satisfiable -/
example : ∃ (β : ℝ) (ta tb : List (Rating ℝ)), 0 < β ∧ ta ≠ [] ∧ tb ≠ [] :=
  ⟨1, [⟨0, 25, 8⟩], [⟨1, 25, 8⟩], by norm_num, by simp, by simp⟩

end OS
end
