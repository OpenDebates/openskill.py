import OSModel
import OSProofs.WrapBasics
/-!
# C19 — the five models differ only in their update rule

In the model `predictWin`, `predictDraw`, `predictRank`, `cmpOp`, `eqOp`, `ordinal`, `mkRating`,
`createRating`, `deepcopyRating` do not take the `Kind` at all and `validateRate` / `validatePredict`
use it only for "a rating of this model's own class": equality across the five kinds is by
construction, and the substance of C19 is the correspondence of each of the five Python classes
with that single kind-free model.  What needs a proof is the last clause.
-/
namespace OS
variable {α : Type} [Scalar α]

theorem omegaDelta_btp_eq_btf (L : Leaves α) (P : Params α) (ts : List (TeamAgg α))
    (h : ts.length ≤ 2) : omegaDelta .BTP L P ts = omegaDelta .BTF L P ts := by
  match ts, h with
  | [], _ => rfl
  | [a], _ => rfl
  | [a, b], _ => rfl

theorem compute_btp_eq_btf (L : Leaves α) (P : Params α) (teams : List (List (Rating α)))
    (dense : List Nat) (h : teams.length ≤ 2) :
    compute .BTP L P teams dense = compute .BTF L P teams dense := by
  simp only [compute, omegaDelta_btp_eq_btf L P (teamAggs teams dense) (by rw [teamAggs_length]; omega)]

/-- On two-team games Bradley–Terry partial pairing returns exactly what full pairing returns:
every outcome encoding, every option combination (also at `Float`: the equality is syntactic). -/
theorem C19_btp_eq_btf_two {ρ : Type} (L : Leaves α) (P : Params α) (le : ρ → ρ → Bool) (neg : ρ → ρ)
    (teams : List (List (Rating α))) (oc : Outcome ρ) (o : CallOpts α) (h : teams.length = 2) :
    rate .BTP L P le neg teams oc o = rate .BTF L P le neg teams oc o := by
  rw [rate_eq_rateCore, rate_eq_rateCore]
  unfold rateCore
  cases lft_ranksOf neg oc with
  | none => simp only [compute_btp_eq_btf L P (inflate (resolveTau P o) teams) _ (by rw [inflate_length]; omega)]
  | some r =>
    simp only [compute_btp_eq_btf L P (unwind le r (inflate (resolveTau P o) teams)).1 _
      (by rw [unwind_fst_length, inflate_length]; omega)]

end OS
