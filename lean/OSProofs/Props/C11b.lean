import OSProofs.Props.C10Teams
import OSProofs.Props.C11
import OSProofs.Props.C12
import Mathlib.Tactic.NormNum

/-!
# C11, last clause — rank probabilities plus draw probability sum to 1 (three or more teams)

`predict_rank` returns one probability per team: for team `i` the sum over its opponents `b` of
`Φ((θi − θb − m)/s_ib)`, divided by `n(n−1)/2`.  `predict_draw` adds, over all ordered pairs,
`Φ((m − θa + θb)/s_ab) − Φ((θa − θb − m)/s_ab)`, takes the absolute value and divides by
`n(n−1)` when `n > 2` (by 1 when `n ≤ 2`).  Here `m = drawMargin β N` is the draw margin and
`s_ab = pairDenom n β a b = √(n β² + σa² + σb²)` the (symmetric) scale of the pair.

For one unordered pair {a,b} with gap `d = θa − θb`:
`Φ((d − m)/s)`  (a beats b by more than the margin) `+ Φ((−d − m)/s)` (b beats a by more than the
margin) `+ pairBand m s d / 2` (the difference falls inside the margin) `= 1`
(`C11_pair_identity`).  Summing over the `n(n−1)/2` unordered pairs and dividing by `n(n−1)/2`
gives: the probabilities of `predict_rank` plus `predict_draw` of the same teams sum to 1
(`C11_sum_one`), for every game with at least three teams and β ≥ 0.  No other hypothesis is
needed (teams may even be empty; the scale may be 0).  For two teams the divisor of
`predict_draw` is 1 instead of 2, so the total is `1 + pairBand/2`, which exceeds 1 for a real
game (`C11_two_team_sum`, `C11_two_team_sum_gt_one`); this is why the clause is restricted to
three or more teams.  All statements are over ℝ.
-/

noncomputable section
namespace OS
open Gauss

/-! ### one unordered pair -/

/-- **Pair identity.**  For every gap `d`, margin `m` and scale `s` (no sign condition at all):
"a wins by more than m" + "b wins by more than m" + half of the pair's draw contribution = 1. -/
theorem C11_pair_identity (m s d : ℝ) :
    Phi ((d - m) / s) + Phi ((-d - m) / s) + pairBand m s d / 2 = 1 := by
  rw [C10_pairBand_eq]
  have h : (-d - m) / s = -((d + m) / s) := by ring
  rw [h, Phi_neg]
  ring

/-- what the unordered pair `p = (a, b)` of team aggregates contributes to the sum of the
`predict_rank` probabilities: the term of the ordered pair (a,b) plus that of (b,a) -/
def rks_rankPair (n : ℕ) (β m : ℝ) (p : TeamAgg ℝ × TeamAgg ℝ) : ℝ :=
  Phi ((p.1.mu - p.2.mu - m) / pairDenom n β p.1 p.2)
    + Phi ((p.2.mu - p.1.mu - m) / pairDenom n β p.2 p.1)

/-- the pair identity for the model's terms: rank contribution + half the draw contribution of
an unordered pair of teams is 1 -/
theorem C11_rankPair_add_drawPair (n : ℕ) (β m : ℝ) (p : TeamAgg ℝ × TeamAgg ℝ) :
    rks_rankPair n β m p + drawPair n β m p / 2 = 1 := by
  unfold rks_rankPair drawPair
  rw [pairDenom_symm n β p.1 p.2, show p.2.mu - p.1.mu - m = -(p.1.mu - p.2.mu) - m by ring]
  exact C11_pair_identity m _ _

/-! ### the sum of the rank probabilities -/

/-- **Sum of the `predict_rank` probabilities** (two or more teams): it is the sum over the
unordered pairs of teams of `Φ((θa − θb − m)/s_ab) + Φ((θb − θa − m)/s_ab)`, divided by
`n(n−1)/2`. -/
theorem C11_sum_rank_probs (β : ℝ) (teams : List (List (Rating ℝ))) (hn : 2 ≤ teams.length) :
    (predictRankProbs β teams).sum
      = ((unorderedPairs (aggs teams)).map
            (rks_rankPair teams.length β (drawMargin β (playerCount teams)))).sum
        / (((teams.length * (teams.length - 1) : ℕ) : ℝ) / 2) := by
  have h := pairSum_eq_zipIdx
    (fun a b : TeamAgg ℝ => Phi ((a.mu - b.mu - drawMargin β (playerCount teams))
      / Real.sqrt (teams.length * β ^ 2 + a.sig2 + b.sig2))) (aggs teams)
  rw [pairSum_eq_unordered] at h
  rw [C12_rank_probs β teams hn, sum_map_div_const, ← h]
  congr 2
  apply List.map_congr_left
  intro p _
  simp only [rks_rankPair, pairDenom_eq]

/-- the same for the list returned by `predict_rank` (second components) -/
theorem C11_sum_predictRank (β : ℝ) (teams : List (List (Rating ℝ))) (hn : 2 ≤ teams.length) :
    ((predictRank β teams).map (·.2)).sum
      = ((unorderedPairs (aggs teams)).map
            (rks_rankPair teams.length β (drawMargin β (playerCount teams)))).sum
        / (((teams.length * (teams.length - 1) : ℕ) : ℝ) / 2) := by
  rw [C11_predictRank_probs, C11_sum_rank_probs β teams hn]

/-! ### rank probabilities + draw probability -/

/-- sum over the unordered pairs: rank contributions + half the draw contributions = number of
unordered pairs `n(n−1)/2` -/
theorem C11_sum_pairs (n : ℕ) (β m : ℝ) (ts : List (TeamAgg ℝ)) :
    ((unorderedPairs ts).map (rks_rankPair n β m)).sum
        + ((unorderedPairs ts).map (drawPair n β m)).sum / 2
      = 1 * ((unorderedPairs ts).length : ℝ) := by
  rw [← sum_map_div_const, ← List.sum_map_add, List.sum_eq_card_nsmul _ 1
    (List.forall_mem_map.mpr fun p _ => C11_rankPair_add_drawPair n β m p), List.length_map,
    nsmul_eq_mul, mul_comm]

/-- **C11, last clause, general form**: three or more teams and a non-negative draw margin.
The probabilities returned by `predict_rank` plus `predict_draw` of the same teams sum to 1. -/
theorem C11_sum_one_of_margin_nonneg (β : ℝ) (teams : List (List (Rating ℝ)))
    (hn : 3 ≤ teams.length) (hm : 0 ≤ drawMargin β (playerCount teams)) :
    ((predictRank β teams).map (·.2)).sum + predictDraw β teams = 1 := by
  have hM : (0 : ℝ) < ((teams.length * (teams.length - 1) : ℕ) : ℝ) / 2 :=
    half_pos (Nat.cast_pos.mpr (Nat.mul_pos (by omega) (by omega)))
  have h := C11_sum_pairs teams.length β (drawMargin β (playerCount teams)) (aggs teams)
  rw [one_mul, real_card_unorderedPairs, length_aggs] at h
  -- with `h : R + D / 2 = M / 2`: `R / (M / 2) + D / M = (M / 2 - D / 2) / (M / 2) + D / M = 1`
  rw [C11_sum_predictRank β teams (by omega), predictDraw_eq_unordered,
    abs_of_nonneg (drawPair_sum_nonneg _ _ hm _), if_pos (by omega : teams.length > 2),
    eq_sub_of_add_eq h, sub_div, div_self hM.ne', div_div_div_cancel_right₀ two_ne_zero,
    sub_add_cancel]

/-- **C11, last clause**: for three or more teams and β ≥ 0, the probabilities returned by
`predict_rank` plus `predict_draw` of the same teams sum to 1.  (Nothing else is assumed: the
teams may have any sizes, ratings and sigmas.) -/
theorem C11_sum_one (β : ℝ) (teams : List (List (Rating ℝ))) (hn : 3 ≤ teams.length)
    (hβ : 0 ≤ β) :
    ((predictRank β teams).map (·.2)).sum + predictDraw β teams = 1 :=
  C11_sum_one_of_margin_nonneg β teams hn (C10_drawMargin_nonneg hβ _)

/-! ### two teams: the total is NOT 1 -/

/-- **Two teams** (β ≥ 0): the two `predict_rank` probabilities plus `predict_draw` equal
`1 + pairBand/2`, not 1 — `predict_draw` divides the pair's contribution by 1, not by `n(n−1) = 2`,
when there are only two teams. -/
theorem C11_two_team_sum (β : ℝ) (hβ : 0 ≤ β) (ta tb : List (Rating ℝ)) :
    ((predictRank β [ta, tb]).map (·.2)).sum + predictDraw β [ta, tb]
      = 1 + pairBand (drawMargin β (ta.length + tb.length))
              (pairDenom 2 β (teamAgg ta 0) (teamAgg tb 0))
              ((teamAgg ta 0).mu - (teamAgg tb 0).mu) / 2 := by
  have hid := C11_rankPair_add_drawPair 2 β (drawMargin β (ta.length + tb.length))
    (teamAgg ta 0, teamAgg tb 0)
  rw [C11_sum_predictRank β [ta, tb] (le_refl 2), predictDraw_two_eq_pairBand β hβ, playerCount_pair]
  -- there is one unordered pair, and the divisor of the rank probabilities is `2·1/2 = 1`
  show (rks_rankPair 2 β _ (teamAgg ta 0, teamAgg tb 0) + 0) / (((2 * (2 - 1) : ℕ) : ℝ) / 2) + _ = _
  rw [add_zero, eq_sub_of_add_eq hid, show (((2 * (2 - 1) : ℕ) : ℝ) / 2) = 1 by norm_num, div_one]
  unfold drawPair
  ring

/-- **Two teams, real game** (β > 0, both teams non-empty): the total of the two `predict_rank`
probabilities and `predict_draw` is strictly greater than 1 — so the "sum to 1" clause cannot be
extended to two teams. -/
theorem C11_two_team_sum_gt_one (β : ℝ) (hβ : 0 < β) (ta tb : List (Rating ℝ))
    (ha : ta ≠ []) (hb : tb ≠ []) :
    1 < ((predictRank β [ta, tb]).map (·.2)).sum + predictDraw β [ta, tb] := by
  rw [C11_two_team_sum β hβ.le ta tb]
  have := pairBand_pos (drawMargin_pos hβ (two_le_players ha hb))
    (pairDenom_pos two_pos hβ (teamAgg_sig2_nonneg ta 0) (teamAgg_sig2_nonneg tb 0))
    ((teamAgg ta 0).mu - (teamAgg tb 0).mu)
  linarith

/-! ### non-vacuity -/

/-- the hypotheses of `C11_sum_one` are satisfiable: three one-player teams, β = 25/6 -/
example : ∃ (β : ℝ) (teams : List (List (Rating ℝ))), 3 ≤ teams.length ∧ 0 ≤ β
    ∧ (∀ t ∈ teams, t ≠ [])
    ∧ ((predictRank β teams).map (·.2)).sum + predictDraw β teams = 1 :=
  have hβ : (0 : ℝ) ≤ 25 / 6 := by norm_num
  ⟨25 / 6, [[⟨0, 25, 25 / 3⟩], [⟨1, 30, 25 / 3⟩], [⟨2, 20, 25 / 3⟩]], le_refl 3, hβ,
    by simp, C11_sum_one _ _ (le_refl 3) hβ⟩

/-- … and so are those of the two-team remark -/
example : ∃ (β : ℝ) (ta tb : List (Rating ℝ)), 0 < β ∧ ta ≠ [] ∧ tb ≠ []
    ∧ 1 < ((predictRank β [ta, tb]).map (·.2)).sum + predictDraw β [ta, tb] :=
  have hβ : (0 : ℝ) < 25 / 6 := by norm_num
  ⟨25 / 6, [⟨0, 25, 25 / 3⟩], [⟨1, 30, 25 / 3⟩], hβ, List.cons_ne_nil _ _, List.cons_ne_nil _ _,
    C11_two_team_sum_gt_one _ hβ _ _ (List.cons_ne_nil _ _) (List.cons_ne_nil _ _)⟩

end OS
end
