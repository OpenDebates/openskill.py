import OSProofs.PredictLemmas
import OSProofs.PredictSumLemmas
import OSProofs.DrawLemmas
import OSProofs.Props.GenC12
import Mathlib.Algebra.BigOperators.Group.List.Basic
import Mathlib.Algebra.Order.BigOperators.Group.List
import Mathlib.Tactic.Ring
import Mathlib.Tactic.Positivity
import Mathlib.Tactic.Linarith
import Mathlib.Tactic.NormNum
/-!
# C12 / R5 — closed forms of the predictions

The code computes one term per ordered pair of teams (`itertools.permutations(teams, 2)`) and
regroups the flat list with `zip_longest(*[iter(p)] * (n - 1))`.  `Props/GenC12.lean` (`GEN_C12_*`)
shows for every scalar type that this is "for each team, the left fold over its opponents"; here
these equalities are read over ℝ, where the left fold is the sum, as the documented closed form:

* θ(t) = Σ mu over the team, s²(t) = Σ sigma² over the team (`teamAgg_mu`, `teamAgg_sig2`);
* `predict_win`, two teams: `[Φ((θa − θb)/√(N β² + s²a + s²b)), 1 − that]`, `N` = number of players;
* `predict_win`, n ≥ 3 teams: entry i = `(Σ_{b ≠ i} Φ((θi − θb)/√(n β² + s²i + s²b))) / (n(n−1)/2)`;
* `predict_rank` probabilities: the same with `θi − θb − m`, `m = √N · β · Φ⁻¹((1 + 1/N)/2)`;
* `predict_draw`: `|Σ_{i} Σ_{b ≠ i} (Φ((m − θi + θb)/s) − Φ((θi − θb − m)/s))| / (n(n−1) if n > 2 else 1)`.

The opponents of team `i` are written `(aggs teams).eraseIdx i`.
-/

noncomputable section
namespace OS
open Scalar

/-! ### team aggregates -/

/-- θ of a team: the sum of its members' mu -/
theorem teamAgg_mu (t : List (Rating ℝ)) (r : ℕ) : (teamAgg t r).mu = (t.map (·.mu)).sum :=
  sumL_eq_sum _

/-- s² of a team: the sum of its members' sigma² -/
theorem teamAgg_sig2 (t : List (Rating ℝ)) (r : ℕ) :
    (teamAgg t r).sig2 = (t.map (fun p => p.sigma * p.sigma)).sum :=
  sumL_eq_sum _

theorem pairDenom_eq (nb : ℕ) (β : ℝ) (a b : TeamAgg ℝ) :
    pairDenom nb β a b = Real.sqrt (nb * β ^ 2 + a.sig2 + b.sig2) := by
  unfold pairDenom
  simp only [sc_sqrt, sc_ofNat]
  congr 1
  ring

theorem pairDenom_nonneg (n : ℕ) (β : ℝ) (a b : TeamAgg ℝ) : 0 ≤ pairDenom n β a b :=
  Real.sqrt_nonneg _

theorem pairDenom_pos {n : ℕ} {β : ℝ} (hn : 0 < n) (hβ : 0 < β) {a b : TeamAgg ℝ}
    (ha : 0 ≤ a.sig2) (hb : 0 ≤ b.sig2) : 0 < pairDenom n β a b := by
  rw [pairDenom_eq]
  have : (0:ℝ) < n := Nat.cast_pos.mpr hn
  exact Real.sqrt_pos.mpr (by positivity)

theorem pairDenom_symm (n : ℕ) (β : ℝ) (a b : TeamAgg ℝ) :
    pairDenom n β b a = pairDenom n β a b := by
  rw [pairDenom_eq, pairDenom_eq, add_right_comm]

/-! ### predict_win -/

/-- **Two teams.** `predict_win([a, b]) = [Φ((θa − θb)/√(N β² + s²a + s²b)), 1 − that]` where
`N = playerCount [a, b]` is the total number of players (`playerCount_pair`: `|a| + |b|`). -/
theorem C12_win_two (β : ℝ) (a b : List (Rating ℝ)) :
    predictWin β [a, b] =
      [Gauss.Phi (((teamAgg a 0).mu - (teamAgg b 0).mu) /
          Real.sqrt (playerCount [a, b] * β ^ 2 + (teamAgg a 0).sig2 + (teamAgg b 0).sig2)),
       1 - Gauss.Phi (((teamAgg a 0).mu - (teamAgg b 0).mu) /
          Real.sqrt (playerCount [a, b] * β ^ 2 + (teamAgg a 0).sig2 + (teamAgg b 0).sig2))] := by
  rw [GEN_C12_win_two, pairDenom_eq]
  simp only [sc_Phi, sc_one]

/-- the same, for a list of teams known to have two entries -/
theorem C12_win_two' (β : ℝ) (teams : List (List (Rating ℝ))) (a b : List (Rating ℝ))
    (h : teams = [a, b]) :
    predictWin β teams =
      [Gauss.Phi (((teamAgg a 0).mu - (teamAgg b 0).mu) /
          Real.sqrt ((a.length + b.length : ℕ) * β ^ 2 + (teamAgg a 0).sig2 + (teamAgg b 0).sig2)),
       1 - Gauss.Phi (((teamAgg a 0).mu - (teamAgg b 0).mu) /
          Real.sqrt ((a.length + b.length : ℕ) * β ^ 2 + (teamAgg a 0).sig2 + (teamAgg b 0).sig2))] := by
  subst h
  rw [C12_win_two, playerCount_pair]

/-- **Three or more teams.** Entry `i` of `predict_win` is
`(Σ_{b ∈ opponents of i} Φ((θi − θb)/√(n β² + s²i + s²b))) / (n(n−1)/2)`. -/
theorem C12_win_many (β : ℝ) (teams : List (List (Rating ℝ))) (hn : 3 ≤ teams.length) :
    predictWin β teams = (aggs teams).zipIdx.map (fun a =>
      (((aggs teams).eraseIdx a.2).map (fun b =>
        Gauss.Phi ((a.1.mu - b.mu) / Real.sqrt (teams.length * β ^ 2 + a.1.sig2 + b.sig2)))).sum
        / (((teams.length * (teams.length - 1) : ℕ) : ℝ) / 2)) := by
  rw [GEN_C12_win_many β teams hn]
  simp only [othersOf_eq_eraseIdx, sumL_eq_sum, pairDenom_eq, sc_Phi, sc_ofNat, Nat.cast_ofNat]

/-- entry `i` of `predict_win` for three or more teams, with θ and s² of team `i` written out -/
theorem C12_win_many_entry (β : ℝ) (teams : List (List (Rating ℝ))) (hn : 3 ≤ teams.length)
    (i : ℕ) (hi : i < teams.length) (h : i < (predictWin β teams).length) :
    (predictWin β teams)[i] =
      (((aggs teams).eraseIdx i).map (fun b =>
        Gauss.Phi (((teamAgg teams[i] 0).mu - b.mu)
          / Real.sqrt (teams.length * β ^ 2 + (teamAgg teams[i] 0).sig2 + b.sig2)))).sum
        / (((teams.length * (teams.length - 1) : ℕ) : ℝ) / 2) := by
  rw [List.getElem_of_eq (C12_win_many β teams hn) h, getElem_map_zipIdx_aggs _ teams i hi]

/-! ### predict_rank probabilities -/

/-- **Rank probabilities, as computed** (all n ≥ 2): entry `i` is
`|(Σ_{b ∈ opponents of i} Φ((θi − θb − m)/√(n β² + s²i + s²b))) / (n(n−1)/2)|`
with `m = drawMargin β N`, `N` the number of players. -/
theorem C12_rank_probs_abs (β : ℝ) (teams : List (List (Rating ℝ))) (hn : 2 ≤ teams.length) :
    predictRankProbs β teams = (aggs teams).zipIdx.map (fun a =>
      |(((aggs teams).eraseIdx a.2).map (fun b =>
        Gauss.Phi ((a.1.mu - b.mu - drawMargin β (playerCount teams))
          / Real.sqrt (teams.length * β ^ 2 + a.1.sig2 + b.sig2)))).sum
        / (((teams.length * (teams.length - 1) : ℕ) : ℝ) / 2)|) := by
  rw [GEN_C12_rank_probs β teams (by omega)]
  simp only [othersOf_eq_eraseIdx, sumL_eq_sum, sabs_eq_abs, pairDenom_eq, sc_Phi, sc_ofNat,
    Nat.cast_ofNat]

/-- **Rank probabilities** (all n ≥ 2): the absolute value is vacuous because Φ ≥ 0; entry `i` is
`(Σ_{b ∈ opponents of i} Φ((θi − θb − m)/√(n β² + s²i + s²b))) / (n(n−1)/2)`. -/
theorem C12_rank_probs (β : ℝ) (teams : List (List (Rating ℝ))) (hn : 2 ≤ teams.length) :
    predictRankProbs β teams = (aggs teams).zipIdx.map (fun a =>
      (((aggs teams).eraseIdx a.2).map (fun b =>
        Gauss.Phi ((a.1.mu - b.mu - drawMargin β (playerCount teams))
          / Real.sqrt (teams.length * β ^ 2 + a.1.sig2 + b.sig2)))).sum
        / (((teams.length * (teams.length - 1) : ℕ) : ℝ) / 2)) := by
  rw [C12_rank_probs_abs β teams hn]
  refine List.map_congr_left fun a _ => abs_of_nonneg
    (div_nonneg ?_ (div_nonneg (Nat.cast_nonneg _) zero_le_two))
  exact List.sum_nonneg (List.forall_mem_map.mpr fun _ _ => Gauss.Phi_nonneg _)

/-- the draw margin in closed form: `m = √N · β · Φ⁻¹((1 + 1/N)/2)` -/
theorem C12_drawMargin (β : ℝ) (N : ℕ) :
    drawMargin β N = Real.sqrt N * β * Gauss.PhiInv ((1 + 1 / (N : ℝ)) / 2) := by
  unfold drawMargin
  simp only [sc_sqrt, sc_ofNat, sc_PhiInv, Nat.cast_one, Nat.cast_ofNat]

/-! ### predict_draw -/

/-- **Draw probability, as computed** (any number of teams):
`|Σ_i Σ_{b ∈ opponents of i} (Φ((m − θi + θb)/s_ib) − Φ((θi − θb − m)/s_ib))| / (n(n−1) if n > 2 else 1)`
with `s_ib = √(n β² + s²i + s²b)` and `m = drawMargin β N`. -/
theorem C12_draw (β : ℝ) (teams : List (List (Rating ℝ))) :
    predictDraw β teams =
      |((aggs teams).zipIdx.map (fun a =>
        (((aggs teams).eraseIdx a.2).map (fun b =>
          Gauss.Phi ((drawMargin β (playerCount teams) - a.1.mu + b.mu)
              / Real.sqrt (teams.length * β ^ 2 + a.1.sig2 + b.sig2))
            - Gauss.Phi ((a.1.mu - b.mu - drawMargin β (playerCount teams))
              / Real.sqrt (teams.length * β ^ 2 + a.1.sig2 + b.sig2)))).sum)).sum|
      / (if teams.length > 2 then ((teams.length * (teams.length - 1) : ℕ) : ℝ) else 1) := by
  rw [GEN_C12_draw, sumL_eq_sum, sabs_eq_abs, orderedPairs_map_eraseIdx, sum_flatMap_real]
  simp only [pairDenom_eq, sc_Phi, sc_ofNat, Nat.cast_one]

/-- the draw margin is non-negative when β ≥ 0 (for every N, also the degenerate N = 0, 1 where
`Φ⁻¹` is evaluated at 1/2 resp. 1 and the model's `PhiInv` returns 0) -/
theorem drawMargin_nonneg (β : ℝ) (hβ : 0 ≤ β) (N : ℕ) : 0 ≤ drawMargin β N := by
  rw [C12_drawMargin]
  exact mul_nonneg (mul_nonneg (Real.sqrt_nonneg _) hβ) (zN_nonneg N.cast_nonneg)

/-- A single ordered-pair term `Φ((m − d)/s) − Φ((d − m)/s)` can be negative (when `d > m`), but the
two terms of a pair of teams together are non-negative as soon as `m ≥ 0`. -/
theorem drawBand_symm_nonneg (m c : ℝ) (hm : 0 ≤ m) (a b : TeamAgg ℝ) :
    0 ≤ (Gauss.Phi ((m - a.mu + b.mu) / Real.sqrt (c + a.sig2 + b.sig2))
          - Gauss.Phi ((a.mu - b.mu - m) / Real.sqrt (c + a.sig2 + b.sig2)))
        + (Gauss.Phi ((m - b.mu + a.mu) / Real.sqrt (c + b.sig2 + a.sig2))
          - Gauss.Phi ((b.mu - a.mu - m) / Real.sqrt (c + b.sig2 + a.sig2))) := by
  -- the two terms together are `pairBand m s (θa − θb)` with `s = √(c + s²a + s²b)`
  have h := pairBand_nonneg hm (Real.sqrt_nonneg (c + a.sig2 + b.sig2)) (a.mu - b.mu)
  rw [pairBand, band, band, neg_sub] at h
  rw [add_right_comm c b.sig2 a.sig2, sub_add m a.mu b.mu, sub_add m b.mu a.mu]
  exact h

/-- a single ordered-pair term of `predict_draw` can indeed be negative (m = 0, d = 1, s = 1) -/
example : Gauss.Phi ((0 - 1) / 1) - Gauss.Phi ((1 - 0) / 1) < 0 :=
  band_neg_of_gt (m := 0) (s := 1) (d := 1) one_pos one_pos

/-- **Draw probability** for β ≥ 0: the absolute value in the code is vacuous (the sum over the
ordered pairs is ≥ 0 because the two terms of each pair of teams add up to something ≥ 0). -/
theorem C12_draw_noabs (β : ℝ) (hβ : 0 ≤ β) (teams : List (List (Rating ℝ))) :
    predictDraw β teams =
      ((aggs teams).zipIdx.map (fun a =>
        (((aggs teams).eraseIdx a.2).map (fun b =>
          Gauss.Phi ((drawMargin β (playerCount teams) - a.1.mu + b.mu)
              / Real.sqrt (teams.length * β ^ 2 + a.1.sig2 + b.sig2))
            - Gauss.Phi ((a.1.mu - b.mu - drawMargin β (playerCount teams))
              / Real.sqrt (teams.length * β ^ 2 + a.1.sig2 + b.sig2)))).sum)).sum
      / (if teams.length > 2 then ((teams.length * (teams.length - 1) : ℕ) : ℝ) else 1) := by
  rw [C12_draw]
  congr 1
  apply abs_of_nonneg
  have h := pairSum_nonneg
    (fun a b : TeamAgg ℝ => Gauss.Phi ((drawMargin β (playerCount teams) - a.mu + b.mu)
              / Real.sqrt (teams.length * β ^ 2 + a.sig2 + b.sig2))
            - Gauss.Phi ((a.mu - b.mu - drawMargin β (playerCount teams))
              / Real.sqrt (teams.length * β ^ 2 + a.sig2 + b.sig2)))
    (fun a b => drawBand_symm_nonneg _ _ (drawMargin_nonneg β hβ _) a b) (aggs teams)
  rw [pairSum_eq_zipIdx] at h
  exact h

end OS
end
