import OSProofs.FL4Lemmas

/-!
# FL4 — C06 along league histories in every monotone arithmetic

The league machine of `OSModel/League.lean` (`playGame` = load the participants from the store, `rate`,
write every returned rating back under its id; `playLeague` = fold over a history) over an arbitrary scalar
type `α` with the order laws `MonoArith α`.  The statements are about the numbers the machine *stores* — no
field axiom is used.  **The accumulated bound `σ_k² ≤ σ_0² + Σ τ_g²` (`C06_league`) is a statement about real
numbers and is NOT claimed under rounding**: `sqrt(x)·sqrt(x)` may exceed `x` by rounding, and errors
accumulate over the games; what holds is the per-game bound `FL_C06_league_step_bound`.

The hypothesis is `FLLeagueOK L P le neg s gs`: game number `k` of the history satisfies `FLGameOK` at the store
after the first `k` games (`FL_leagueOK_iff`).  `FLGameOK` is the list of hypotheses of `FL_C06_rate` for that
game plus the league machine's well-formedness (`LeagueGame.WF`: no player twice in a game, one outcome entry
per team), mirroring `C06_playGame_slot`.
-/

namespace OS
open Scalar
variable {α ρ : Type} [Scalar α]

theorem FL_leagueOK_iff (L : Leaves α) (P : Params α) (le : ρ → ρ → Bool) (neg : ρ → ρ)
    (s : Store α) (gs : List (LeagueGame α ρ)) :
    FLLeagueOK L P le neg s gs ↔
      ∀ k (hk : k < gs.length),
        FLGameOK L P le neg (playLeague L P le neg s (gs.take k)) gs[k] := by
  induction gs generalizing s with
  | nil => simp [fl4_leagueOK_nil]
  | cons g gs ih =>
    rw [fl4_leagueOK_cons, ih]
    constructor
    · rintro ⟨h0, h1⟩ k hk
      cases k with
      | zero => exact h0
      | succ k => exact h1 k (Nat.lt_of_succ_lt_succ hk)
    · intro h
      exact ⟨h 0 (Nat.zero_lt_succ _), fun k hk => h (k + 1) (Nat.succ_lt_succ hk)⟩

section
variable (M : MonoArith α)
include M

/-- **C06 for one game of the league, in every monotone arithmetic.**  Let `s' = playGame … s g` for a game
`g` (any model kind, any outcome form, any per-call options) that satisfies `FLGameOK` at the store `s`; `τ_g`
and `limit_sigma` as resolved for that call.  For every player `p`:

* if `p` takes part in `g`: `σ'(p) ≤ sqrt(σ(p)·σ(p) + τ_g·τ_g)` — the tau-inflated stored sigma exactly as
  the library computes it; with limit_sigma on, `σ'(p) ≤ σ(p)`; with limit_sigma off, `0 ≤ σ'(p)`;
  and `0 ≤ σ(p) → 0 ≤ σ'(p)` in either case;
* if `p` does not take part: `μ'(p) = μ(p)` and `σ'(p) = σ(p)`. -/
theorem FL_C06_playGame (L : Leaves α) (P : Params α) (le : ρ → ρ → Bool) (neg : ρ → ρ)
    (s : Store α) (g : LeagueGame α ρ) (hok : FLGameOK L P le neg s g) (p : Nat) :
    (g.plays p →
      (playGame L P le neg s g).sigma p
          ≤ sqrt (s.sigma p * s.sigma p + resolveTau P g.opts * resolveTau P g.opts)
      ∧ (resolveLimit P g.opts = true → (playGame L P le neg s g).sigma p ≤ s.sigma p)
      ∧ (resolveLimit P g.opts = false → 𝟘 ≤ (playGame L P le neg s g).sigma p)
      ∧ (𝟘 ≤ s.sigma p → 𝟘 ≤ (playGame L P le neg s g).sigma p))
    ∧ (¬ g.plays p →
      (playGame L P le neg s g).mu p = s.mu p ∧ (playGame L P le neg s g).sigma p = s.sigma p) := by
  refine ⟨fun hp => ?_, fun hp => playGame_untouched L P le neg s g hok.wf.2 p hp⟩
  obtain ⟨r', ⟨_, h2, h3, h4, h5⟩, _, hsig⟩ :=
    playGame_slot_of_rate L P le neg s g _ (fun _ _ h => h.1)
      (FL_C06_rate M g.kind L P le neg (loadTeams s g) g.outcome g.opts hok.leaves hok.var_pos
        hok.kappa_le hok.gamma hok.divisors) hok.wf p hp
  rw [hsig]
  exact ⟨h2, h3, h4, h5⟩

/-- **limit_sigma makes sigma non-increasing along the league — exactly, in every monotone arithmetic**
(C06, history clause).  Write `σ_k(p)` for the sigma of player `p` in the store after the first `k` games of
the history `gs` (`playLeague … s (gs.take k)`).  If every game is `FLGameOK` at the store it is played on and
limit_sigma is in force (per call, else by the model's setting) in every game in which `p` takes part, then
`k ≤ l → σ_l(p) ≤ σ_k(p)`; in particular `σ_final(p) ≤ σ_initial(p)`.  No sign condition on the stored
sigmas, none on the taus. -/
theorem FL_C06_league_limit (L : Leaves α) (P : Params α) (le : ρ → ρ → Bool) (neg : ρ → ρ)
    (s : Store α) (gs : List (LeagueGame α ρ)) (hok : FLLeagueOK L P le neg s gs)
    (p : Nat) (hlim : ∀ g ∈ gs, g.plays p → resolveLimit P g.opts = true)
    (k l : Nat) (hkl : k ≤ l) :
    (playLeague L P le neg s (gs.take l)).sigma p ≤ (playLeague L P le neg s (gs.take k)).sigma p :=
  have hok' := (FL_leagueOK_iff L P le neg s gs).1 hok
  playLeague_sigma_rel L P le neg p (fun a b => b ≤ a) M.le_refl' (fun h1 h2 => M.le_trans' h2 h1)
    s gs (fun j hj => (hok' j hj).wf.2)
    (fun j hj hpl => ((FL_C06_playGame M L P le neg _ gs[j] (hok' j hj) p).1 hpl).2.1
      (hlim _ (List.getElem_mem hj) hpl)) hkl

theorem FL_C06_league_limit_total (L : Leaves α) (P : Params α) (le : ρ → ρ → Bool) (neg : ρ → ρ)
    (s : Store α) (gs : List (LeagueGame α ρ)) (hok : FLLeagueOK L P le neg s gs)
    (p : Nat) (hlim : ∀ g ∈ gs, g.plays p → resolveLimit P g.opts = true) :
    (playLeague L P le neg s gs).sigma p ≤ s.sigma p := by
  have h := FL_C06_league_limit M L P le neg s gs hok p hlim 0 gs.length (Nat.zero_le _)
  rwa [List.take_length] at h

theorem FL_C06_league_limit_all (L : Leaves α) (P : Params α) (le : ρ → ρ → Bool) (neg : ρ → ρ)
    (s : Store α) (gs : List (LeagueGame α ρ)) (hok : FLLeagueOK L P le neg s gs)
    (hlim : ∀ g ∈ gs, resolveLimit P g.opts = true) :
    ∀ (p k l : Nat), k ≤ l →
      (playLeague L P le neg s (gs.take l)).sigma p ≤ (playLeague L P le neg s (gs.take k)).sigma p :=
  fun p k l hkl => FL_C06_league_limit M L P le neg s gs hok p (fun g h _ => hlim g h) k l hkl

/-- **A stored sigma that starts `≥ 0` stays `≥ 0`** after every prefix of the history, with or without
limit_sigma, in every monotone arithmetic. -/
theorem FL_C06_league_nonneg (L : Leaves α) (P : Params α) (le : ρ → ρ → Bool) (neg : ρ → ρ)
    (s : Store α) (gs : List (LeagueGame α ρ)) (hok : FLLeagueOK L P le neg s gs)
    (p : Nat) (hp : 𝟘 ≤ s.sigma p) (k : Nat) :
    𝟘 ≤ (playLeague L P le neg s (gs.take k)).sigma p :=
  have hok' := (FL_leagueOK_iff L P le neg s gs).1 hok
  playLeague_sigma_rel L P le neg p (fun a b => 𝟘 ≤ a → 𝟘 ≤ b) (fun _ h => h) (fun h1 h2 h => h2 (h1 h))
    s gs (fun j hj => (hok' j hj).wf.2)
    (fun j hj hpl => ((FL_C06_playGame M L P le neg _ gs[j] (hok' j hj) p).1 hpl).2.2.2)
    (Nat.zero_le k) hp

theorem FL_C06_league_nonneg_total (L : Leaves α) (P : Params α) (le : ρ → ρ → Bool) (neg : ρ → ρ)
    (s : Store α) (gs : List (LeagueGame α ρ)) (hok : FLLeagueOK L P le neg s gs)
    (p : Nat) (hp : 𝟘 ≤ s.sigma p) : 𝟘 ≤ (playLeague L P le neg s gs).sigma p := by
  have h := FL_C06_league_nonneg M L P le neg s gs hok p hp gs.length
  rwa [List.take_length] at h

/-- **The per-game bound without limit_sigma.**  For game number `k` of the history and a participant `p`:
`σ_{k+1}(p) ≤ sqrt(σ_k(p)·σ_k(p) + τ_k·τ_k)`, every operation as computed (`τ_k` the tau in force in that
game).  The accumulated bound `σ_k² ≤ σ_0² + Σ τ_g²` of `C06_league` is a statement about real numbers and is
not claimed here. -/
theorem FL_C06_league_step_bound (L : Leaves α) (P : Params α) (le : ρ → ρ → Bool) (neg : ρ → ρ)
    (s : Store α) (gs : List (LeagueGame α ρ)) (hok : FLLeagueOK L P le neg s gs)
    (k : Nat) (hk : k < gs.length) (p : Nat) (hp : gs[k].plays p) :
    (playLeague L P le neg s (gs.take (k + 1))).sigma p
      ≤ sqrt ((playLeague L P le neg s (gs.take k)).sigma p * (playLeague L P le neg s (gs.take k)).sigma p
          + resolveTau P gs[k].opts * resolveTau P gs[k].opts) := by
  rw [playLeague_take_succ L P le neg s gs k hk]
  exact ((FL_C06_playGame M L P le neg _ gs[k]
    ((FL_leagueOK_iff L P le neg s gs).1 hok k hk) p).1 hp).1

end

end OS
