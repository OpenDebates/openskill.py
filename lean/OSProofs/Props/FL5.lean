import OSProofs.FL5Lemmas
import OSProofs.Props.GenC12

/-!
# FL5 — C09 (monotonicity of the predictions in a player's mu), exactly, in every monotone arithmetic

`Props/C09.lean` proves over ℝ that raising the mu of a member of a team never lowers that team's win
probability and never raises any other team's.  Here the same is proved as an inequality *between the
computed numbers*, for every `[Scalar α]` whose arithmetic satisfies the order laws `MonoArith α` and ONE
further law,

  `PhiMono α : ∀ a b, a ≤ b → Φ a ≤ Φ b`   (the computed normal cdf is monotone).

`PhiMono` holds in ℝ and in every "compute exactly, then round monotonically" arithmetic
(`Props/FL5Inst.lean`).  For IEEE doubles it is a property of the libm in use (`Φ` is `erfc` of the C library,
which is not correctly rounded and not guaranteed monotone): it is a *hypothesis* of the theorems, not a law
of `MonoArith`.  For two teams the first entry *is* `Φ` of a quantity that is monotone in θa, so nothing weaker can do.

No associativity is used: sums are the left folds `sumL` of the code, and `sumL` is monotone entry by entry
because each `+` is (`add_le_add'`).  Divisions are by the *same* computed divisor on both sides
(`div_le_div_right'`): the pair divisor `√(c β² + s²a + s²b)` does not depend on any mu, and the hypotheses
say it is `> 0` as computed (it is whenever the team's computed variance is `> 0`: `FL_pairDenom_pos`).
`Props/C09.lean` does not instantiate these theorems: over ℝ the division by `√… ≥ 0` is monotone whatever the
divisor, so its statements carry no divisor hypothesis, and its `winVal` covers two teams and more in one form.

"Raising a member's mu" is `fl5_setMu t j m`: the `j`-th member's mu replaced by any `m` with `t[j].mu ≤ m`
(the ℝ statement's `mu + d`, `d ≥ 0`, is the instance `m = mu + d`: `FL_raise_by`).
-/

namespace OS
open Scalar
variable {α : Type} [Scalar α]

/-- the first entry of `predict_win` for two teams: `Φ((θa − θb) / √(N β² + s²a + s²b))`
(the same term as `fl2_winTwo` of `Props/FL2.lean`) -/
def FL5_winR (β : α) (a b : List (Rating α)) : α :=
  Phi (((teamAgg a 0).mu - (teamAgg b 0).mu)
    / pairDenom (playerCount [a, b]) β (teamAgg a 0) (teamAgg b 0))

/-- restates `GEN_C12_win_two` through `FL5_winR`: two teams, `predict_win` returns `[r, 1 − r]` -/
theorem FL_C09_two_form (β : α) (a b : List (Rating α)) :
    predictWin β [a, b] = [FL5_winR β a b, 𝟙 - FL5_winR β a b] := rfl

theorem fl5_win_entry (β : α) (teams : List (List (Rating α))) (hn : 3 ≤ teams.length) (k : Nat)
    (hk : k < teams.length) (h : k < (predictWin β teams).length) :
    (predictWin β teams)[k]
      = fl5_entry id teams.length β (aggs teams) (teamAgg teams[k] 0) k := by
  rw [List.getElem_of_eq (GEN_C12_win_many β teams hn) h, getElem_map_zipIdx_aggs _ teams k hk]
  rfl

theorem fl5_rank_entry (β : α) (teams : List (List (Rating α))) (hn : 2 ≤ teams.length) (k : Nat)
    (hk : k < teams.length) (h : k < (predictRankProbs β teams).length) :
    (predictRankProbs β teams)[k]
      = sabs (fl5_entry (fun x => x - drawMargin β (playerCount teams)) teams.length β (aggs teams)
          (teamAgg teams[k] 0) k) := by
  rw [List.getElem_of_eq (GEN_C12_rank_probs β teams (by omega)) h, getElem_map_zipIdx_aggs _ teams k hk]
  rfl

section
variable (M : MonoArith α)
include M

/-- Replacing one member's mu by a larger one does not lower the team's summed mu
as computed by the left fold `sumL`, and leaves the team's `s²` unchanged (it is the same computation on the
same sigmas). -/
theorem FL_teamAgg_mu_mono (t : List (Rating α)) (j : Nat) (hj : j < t.length) (m : α)
    (h : t[j].mu ≤ m) (r : Nat) :
    (teamAgg t r).mu ≤ (teamAgg (fl5_setMu t j m) r).mu
      ∧ (teamAgg (fl5_setMu t j m) r).sig2 = (teamAgg t r).sig2 := by
  rw [fl5_setMu_eq_set t j hj m]
  constructor
  · show sumL (t.map (·.mu)) ≤ sumL ((t.set j _).map (·.mu))
    rw [List.map_set]
    refine M.sumL_mono (forall₂_set M.le_refl' _ (by rw [List.length_map]; exact hj) ?_)
    rw [List.getElem_map]
    exact h
  · -- the new entry has the old sigma
    exact congrArg sumL (map_set_of_eq (fun p => p.sigma * p.sigma) t hj (by rfl))

/-- adding a computed `d ≥ 0` to a mu is an instance of "a larger mu" (`a ≤ a + d` is a law) -/
theorem FL_raise_by (mu d : α) (hd : 𝟘 ≤ d) : mu ≤ mu + d := M.le_add_right' hd

/-- the computed pair divisor is `> 0` when the first team's computed variance is `> 0` and the second's
is `≥ 0` (which it always is) — for any β, also `β = 0` -/
theorem FL_pairDenom_pos (n : Nat) (β : α) (a b : List (Rating α))
    (ha : 𝟘 < (teamAgg a 0).sig2) : 𝟘 < pairDenom n β (teamAgg a 0) (teamAgg b 0) := by
  unfold pairDenom
  refine M.sqrt_pos' (M.add_pos_of_pos_of_nonneg ?_ (M.fl1_teamAgg_sig2_nonneg b 0))
  exact M.orderLaws.lt_of_lt_of_le ha
    (M.le_add_left' (M.mul_nonneg' (M.zero_le_ofNat n) (M.mul_self_nonneg' β)))

/-! ### two teams -/

/-- **Two teams, team a replaced** by a team of the same size, the same computed `s²` and a computed θ that
is not smaller: `r = Φ((θa − θb)/d)` does not go down and the second entry `1 − r` does not go up.
Hypothesis: the computed `d = √(N β² + s²a + s²b)` is `> 0`. -/
theorem FL_C09_two_monotone_team (hΦ : PhiMono α) (β : α) (a a' b : List (Rating α))
    (hlen : a'.length = a.length) (hsig : (teamAgg a' 0).sig2 = (teamAgg a 0).sig2)
    (hmu : (teamAgg a 0).mu ≤ (teamAgg a' 0).mu)
    (hd : 𝟘 < pairDenom (playerCount [a, b]) β (teamAgg a 0) (teamAgg b 0)) :
    FL5_winR β a b ≤ FL5_winR β a' b ∧ 𝟙 - FL5_winR β a' b ≤ 𝟙 - FL5_winR β a b := by
  have key : FL5_winR β a b ≤ FL5_winR β a' b := by
    unfold FL5_winR
    rw [show playerCount [a', b] = playerCount [a, b] from
      playerCount_set [a, b] 0 (Nat.zero_lt_succ _) a' hlen]
    exact M.fl5_term_le hΦ (g := id) (fun _ _ h => h) _ β hmu hsig.symm (M.fl5_raised_refl _) hd
  exact ⟨key, M.sub_le_sub' (M.le_refl' _) key⟩

/-- **Two teams, team b replaced** likewise: `r` does not go up and team b's entry `1 − r` does not go down. -/
theorem FL_C09_two_monotone_team_b (hΦ : PhiMono α) (β : α) (a b b' : List (Rating α))
    (hlen : b'.length = b.length) (hsig : (teamAgg b' 0).sig2 = (teamAgg b 0).sig2)
    (hmu : (teamAgg b 0).mu ≤ (teamAgg b' 0).mu)
    (hd : 𝟘 < pairDenom (playerCount [a, b]) β (teamAgg a 0) (teamAgg b 0)) :
    FL5_winR β a b' ≤ FL5_winR β a b ∧ 𝟙 - FL5_winR β a b ≤ 𝟙 - FL5_winR β a b' := by
  have key : FL5_winR β a b' ≤ FL5_winR β a b := by
    unfold FL5_winR
    rw [show playerCount [a, b'] = playerCount [a, b] from
      playerCount_set [a, b] 1 (Nat.lt_succ_self _) b' hlen]
    exact M.fl5_term_le hΦ (g := id) (fun _ _ h => h) _ β (M.le_refl' _) rfl ⟨hsig, hmu⟩ hd
  exact ⟨key, M.sub_le_sub' (M.le_refl' _) key⟩

/-- Two teams `[a, b]`; the mu of member `j` of team a is replaced by a larger
one: team a's computed win probability `r` does not go down, team b's computed `1 − r` does not go up. -/
theorem FL_C09_two_monotone (hΦ : PhiMono α) (β : α) (a b : List (Rating α)) (j : Nat)
    (hj : j < a.length) (m : α) (hm : a[j].mu ≤ m)
    (hd : 𝟘 < pairDenom (playerCount [a, b]) β (teamAgg a 0) (teamAgg b 0)) :
    FL5_winR β a b ≤ FL5_winR β (fl5_setMu a j m) b
      ∧ 𝟙 - FL5_winR β (fl5_setMu a j m) b ≤ 𝟙 - FL5_winR β a b :=
  FL_C09_two_monotone_team M hΦ β a _ b (fl5_length_setMu a j m)
    (FL_teamAgg_mu_mono M a j hj m hm 0).2 (FL_teamAgg_mu_mono M a j hj m hm 0).1 hd

/-- **the symmetric statement**: the mu of member `j` of team b is replaced by a larger one: team b's
computed `1 − r` does not go down, team a's `r` does not go up. -/
theorem FL_C09_two_monotone_b (hΦ : PhiMono α) (β : α) (a b : List (Rating α)) (j : Nat)
    (hj : j < b.length) (m : α) (hm : b[j].mu ≤ m)
    (hd : 𝟘 < pairDenom (playerCount [a, b]) β (teamAgg a 0) (teamAgg b 0)) :
    FL5_winR β a (fl5_setMu b j m) ≤ FL5_winR β a b
      ∧ 𝟙 - FL5_winR β a b ≤ 𝟙 - FL5_winR β a (fl5_setMu b j m) :=
  FL_C09_two_monotone_team_b M hΦ β a b _ (fl5_length_setMu b j m)
    (FL_teamAgg_mu_mono M b j hj m hm 0).2 (FL_teamAgg_mu_mono M b j hj m hm 0).1 hd

/-! ### three or more teams (`predict_win`), two or more (`predict_rank`) -/

/-- **Three or more teams, own entry, team replaced.**  Replace team `i` by a team with the same computed
`s²` and a computed θ that is not smaller: entry `i` of `predict_win`, as computed, does not go down.
Hypothesis: team `i`'s computed pair divisors `√(n β² + s²i + s²q)` are `> 0`. -/
theorem FL_C09_many_monotone_team_own (hΦ : PhiMono α) (β : α) (teams : List (List (Rating α)))
    (hn : 3 ≤ teams.length) (i : Nat) (hi : i < teams.length) (t' : List (Rating α))
    (hsig : (teamAgg t' 0).sig2 = (teamAgg teams[i] 0).sig2)
    (hmu : (teamAgg teams[i] 0).mu ≤ (teamAgg t' 0).mu)
    (hd : ∀ b ∈ aggs teams, 𝟘 < pairDenom teams.length β (teamAgg teams[i] 0) b)
    (h1 : i < (predictWin β teams).length) (h2 : i < (predictWin β (teams.set i t')).length) :
    (predictWin β teams)[i] ≤ (predictWin β (teams.set i t'))[i] := by
  have hi' : i < (teams.set i t').length := by simpa using hi
  rw [fl5_win_entry β teams hn i hi h1, fl5_win_entry β _ (by simpa using hn) i hi' h2]
  simp only [List.length_set, List.getElem_set_self, aggs_set]
  exact M.fl5_entry_set_own hΦ (fun _ _ h => h) (by omega) β hmu hsig _ i hd

/-- **Three or more teams, other entries, team replaced.**  Under the same replacement the entry of every
other team `k`, as computed, does not go up.  Hypothesis: team `k`'s computed pair divisors are `> 0`. -/
theorem FL_C09_many_monotone_team_other (hΦ : PhiMono α) (β : α) (teams : List (List (Rating α)))
    (hn : 3 ≤ teams.length) (i : Nat) (hi : i < teams.length) (t' : List (Rating α))
    (hsig : (teamAgg t' 0).sig2 = (teamAgg teams[i] 0).sig2)
    (hmu : (teamAgg teams[i] 0).mu ≤ (teamAgg t' 0).mu)
    (k : Nat) (hk : k < teams.length) (hki : k ≠ i)
    (hd : ∀ b ∈ aggs teams, 𝟘 < pairDenom teams.length β (teamAgg teams[k] 0) b)
    (h1 : k < (predictWin β teams).length) (h2 : k < (predictWin β (teams.set i t')).length) :
    (predictWin β (teams.set i t'))[k] ≤ (predictWin β teams)[k] := by
  have hk' : k < (teams.set i t').length := by simpa using hk
  rw [fl5_win_entry β teams hn k hk h1, fl5_win_entry β _ (by simpa using hn) k hk' h2]
  simp only [List.length_set, List.getElem_set_ne (Ne.symm hki), aggs_set]
  exact M.fl5_entry_set_other hΦ (fun _ _ h => h) (by omega) β _ _ (by rw [length_aggs]; exact hi)
    (by rw [getElem_aggs teams i hi]; exact ⟨hsig, hmu⟩) k hd

/-- Three or more teams; the mu of member `j` of team `i` is replaced by a
larger one: team `i`'s computed win probability does not go down. -/
theorem FL_C09_many_monotone_own (hΦ : PhiMono α) (β : α) (teams : List (List (Rating α)))
    (hn : 3 ≤ teams.length) (i : Nat) (hi : i < teams.length) (j : Nat) (hj : j < teams[i].length)
    (m : α) (hm : teams[i][j].mu ≤ m)
    (hd : ∀ b ∈ aggs teams, 𝟘 < pairDenom teams.length β (teamAgg teams[i] 0) b)
    (h1 : i < (predictWin β teams).length)
    (h2 : i < (predictWin β (teams.set i (fl5_setMu teams[i] j m))).length) :
    (predictWin β teams)[i] ≤ (predictWin β (teams.set i (fl5_setMu teams[i] j m)))[i] :=
  FL_C09_many_monotone_team_own M hΦ β teams hn i hi _
    (FL_teamAgg_mu_mono M teams[i] j hj m hm 0).2 (FL_teamAgg_mu_mono M teams[i] j hj m hm 0).1 hd h1 h2

/-- … and the computed win probability of every other team `k` does not
go up. -/
theorem FL_C09_many_monotone_other (hΦ : PhiMono α) (β : α) (teams : List (List (Rating α)))
    (hn : 3 ≤ teams.length) (i : Nat) (hi : i < teams.length) (j : Nat) (hj : j < teams[i].length)
    (m : α) (hm : teams[i][j].mu ≤ m) (k : Nat) (hk : k < teams.length) (hki : k ≠ i)
    (hd : ∀ b ∈ aggs teams, 𝟘 < pairDenom teams.length β (teamAgg teams[k] 0) b)
    (h1 : k < (predictWin β teams).length)
    (h2 : k < (predictWin β (teams.set i (fl5_setMu teams[i] j m))).length) :
    (predictWin β (teams.set i (fl5_setMu teams[i] j m)))[k] ≤ (predictWin β teams)[k] :=
  FL_C09_many_monotone_team_other M hΦ β teams hn i hi _
    (FL_teamAgg_mu_mono M teams[i] j hj m hm 0).2 (FL_teamAgg_mu_mono M teams[i] j hj m hm 0).1
    k hk hki hd h1 h2

/-! ### the probabilities of `predict_rank` (two or more teams; the draw margin is subtracted, `abs` is taken)

The entries are `abs` of a number that is `≥ 0` as computed (a left-fold sum of values of `Φ`, divided by a
positive integer), so `abs` returns it unchanged (`fl5_sabs_entry`); the margin depends only on β and on the
number of players, which the replacement must therefore preserve (`hlen`). -/

/-- **`predict_rank` probabilities, own entry, team replaced** by one of the same size, same computed `s²`
and a computed θ that is not smaller: entry `i`, as computed, does not go down. -/
theorem FL_C11_probs_monotone_team_own (hΦ : PhiMono α) (β : α) (teams : List (List (Rating α)))
    (hn : 2 ≤ teams.length) (i : Nat) (hi : i < teams.length) (t' : List (Rating α))
    (hlen : t'.length = teams[i].length)
    (hsig : (teamAgg t' 0).sig2 = (teamAgg teams[i] 0).sig2)
    (hmu : (teamAgg teams[i] 0).mu ≤ (teamAgg t' 0).mu)
    (hd : ∀ b ∈ aggs teams, 𝟘 < pairDenom teams.length β (teamAgg teams[i] 0) b)
    (h1 : i < (predictRankProbs β teams).length)
    (h2 : i < (predictRankProbs β (teams.set i t')).length) :
    (predictRankProbs β teams)[i] ≤ (predictRankProbs β (teams.set i t'))[i] := by
  have hi' : i < (teams.set i t').length := by simpa using hi
  have hn' : 2 ≤ (teams.set i t').length := by simpa using hn
  rw [fl5_rank_entry β teams hn i hi h1, fl5_rank_entry β _ hn' i hi' h2,
    playerCount_set teams i hi t' hlen, M.fl5_sabs_entry _ hn, M.fl5_sabs_entry _ hn']
  simp only [List.length_set, List.getElem_set_self, aggs_set]
  exact M.fl5_entry_set_own hΦ (fun _ _ h => M.sub_le_sub' h (M.le_refl' _)) hn β hmu hsig _ i hd

/-- **`predict_rank` probabilities, other entries**: under the same replacement the entry of every other
team `k`, as computed, does not go up. -/
theorem FL_C11_probs_monotone_team_other (hΦ : PhiMono α) (β : α) (teams : List (List (Rating α)))
    (hn : 2 ≤ teams.length) (i : Nat) (hi : i < teams.length) (t' : List (Rating α))
    (hlen : t'.length = teams[i].length)
    (hsig : (teamAgg t' 0).sig2 = (teamAgg teams[i] 0).sig2)
    (hmu : (teamAgg teams[i] 0).mu ≤ (teamAgg t' 0).mu)
    (k : Nat) (hk : k < teams.length) (hki : k ≠ i)
    (hd : ∀ b ∈ aggs teams, 𝟘 < pairDenom teams.length β (teamAgg teams[k] 0) b)
    (h1 : k < (predictRankProbs β teams).length)
    (h2 : k < (predictRankProbs β (teams.set i t')).length) :
    (predictRankProbs β (teams.set i t'))[k] ≤ (predictRankProbs β teams)[k] := by
  have hk' : k < (teams.set i t').length := by simpa using hk
  have hn' : 2 ≤ (teams.set i t').length := by simpa using hn
  rw [fl5_rank_entry β teams hn k hk h1, fl5_rank_entry β _ hn' k hk' h2,
    playerCount_set teams i hi t' hlen, M.fl5_sabs_entry _ hn, M.fl5_sabs_entry _ hn']
  simp only [List.length_set, List.getElem_set_ne (Ne.symm hki), aggs_set]
  exact M.fl5_entry_set_other hΦ (fun _ _ h => M.sub_le_sub' h (M.le_refl' _)) hn β _ _
    (by rw [length_aggs]; exact hi) (by rw [getElem_aggs teams i hi]; exact ⟨hsig, hmu⟩) k hd

/-- **`predict_rank` probabilities, a member's mu replaced by a larger one, own entry** -/
theorem FL_C11_probs_monotone_own (hΦ : PhiMono α) (β : α) (teams : List (List (Rating α)))
    (hn : 2 ≤ teams.length) (i : Nat) (hi : i < teams.length) (j : Nat) (hj : j < teams[i].length)
    (m : α) (hm : teams[i][j].mu ≤ m)
    (hd : ∀ b ∈ aggs teams, 𝟘 < pairDenom teams.length β (teamAgg teams[i] 0) b)
    (h1 : i < (predictRankProbs β teams).length)
    (h2 : i < (predictRankProbs β (teams.set i (fl5_setMu teams[i] j m))).length) :
    (predictRankProbs β teams)[i]
      ≤ (predictRankProbs β (teams.set i (fl5_setMu teams[i] j m)))[i] :=
  FL_C11_probs_monotone_team_own M hΦ β teams hn i hi _ (fl5_length_setMu _ j m)
    (FL_teamAgg_mu_mono M teams[i] j hj m hm 0).2 (FL_teamAgg_mu_mono M teams[i] j hj m hm 0).1 hd h1 h2

/-- **`predict_rank` probabilities, a member's mu replaced by a larger one, other entries** -/
theorem FL_C11_probs_monotone_other (hΦ : PhiMono α) (β : α) (teams : List (List (Rating α)))
    (hn : 2 ≤ teams.length) (i : Nat) (hi : i < teams.length) (j : Nat) (hj : j < teams[i].length)
    (m : α) (hm : teams[i][j].mu ≤ m) (k : Nat) (hk : k < teams.length) (hki : k ≠ i)
    (hd : ∀ b ∈ aggs teams, 𝟘 < pairDenom teams.length β (teamAgg teams[k] 0) b)
    (h1 : k < (predictRankProbs β teams).length)
    (h2 : k < (predictRankProbs β (teams.set i (fl5_setMu teams[i] j m))).length) :
    (predictRankProbs β (teams.set i (fl5_setMu teams[i] j m)))[k]
      ≤ (predictRankProbs β teams)[k] :=
  FL_C11_probs_monotone_team_other M hΦ β teams hn i hi _ (fl5_length_setMu _ j m)
    (FL_teamAgg_mu_mono M teams[i] j hj m hm 0).2 (FL_teamAgg_mu_mono M teams[i] j hj m hm 0).1
    k hk hki hd h1 h2

/-! ### the hypotheses are satisfiable -/

/-- the pair-divisor hypothesis follows from "team `i`'s computed variance is `> 0`" -/
theorem FL_C09_divisors_pos_of_var_pos (β : α) (teams : List (List (Rating α))) (i : Nat)
    (hi : i < teams.length) (hv : 𝟘 < (teamAgg teams[i] 0).sig2) (n : Nat) :
    ∀ b ∈ aggs teams, 𝟘 < pairDenom n β (teamAgg teams[i] 0) b := by
  intro b hb
  obtain ⟨t, _, rfl⟩ := List.mem_map.mp hb
  exact FL_pairDenom_pos M n β teams[i] t hv

omit M in
/-- the index hypotheses: every team index is a valid index of the results, also after the replacement -/
example (β : α) (teams : List (List (Rating α))) (hn : 2 ≤ teams.length) (i : Nat)
    (hi : i < teams.length) (t' : List (Rating α)) :
    i < (predictWin β teams).length ∧ i < (predictWin β (teams.set i t')).length
      ∧ i < (predictRankProbs β teams).length
      ∧ i < (predictRankProbs β (teams.set i t')).length := by
  have h := GEN_C12_length β teams (by omega)
  have h' := GEN_C12_length β (teams.set i t') (by simp only [List.length_set]; omega)
  simp only [List.length_set] at h'
  rw [h.1, h.2.1, h'.1, h'.2.1]
  exact ⟨hi, hi, hi, hi⟩

/-- the mu hypothesis: `mu + d` with a computed `d ≥ 0` is a larger mu -/
example (t : List (Rating α)) (j : Nat) (hj : j < t.length) (d : α) (hd : 𝟘 ≤ d) :
    (teamAgg t 0).mu ≤ (teamAgg (fl5_setMu t j (t[j].mu + d)) 0).mu :=
  (FL_teamAgg_mu_mono M t j hj _ (FL_raise_by M _ d hd) 0).1

end

end OS
