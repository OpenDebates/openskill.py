import OSProofs.PairLemmas
/-!
# C05 — direction of learning (pair level)

Every member of a team moves by `(σ̂²/σ_team²)·Ω`: the same direction, proportional to the member's
own (tau-inflated) variance.  The sign of `Ω` is decided pair by pair.
-/
noncomputable section
namespace OS

/-- all members of a team move in the same direction, each in proportion to their own variance -/
theorem C05_same_direction (κ ω δ : ℝ) (t : TeamAgg ℝ) :
    (applyTeam κ t ω δ).map (·.mu) = t.players.map (fun p => p.mu + (p.sigma * p.sigma / t.sig2) * ω) := by
  unfold applyTeam
  rw [List.map_map]
  rfl

/-- Bradley–Terry: against a worse-placed team the contribution to omega is non-negative … -/
theorem C05_btPair_win_nonneg (β : ℝ) (g : GammaFn ℝ) (n : Nat) (ti tq : TeamAgg ℝ)
    (hs : 0 ≤ ti.sig2) (hr : ti.rank < tq.rank) : 0 ≤ (btPair β g n ti tq).1 := by
  rw [btPair_fst, byOutcome_win hr]
  exact mul_nonneg (div_nonneg hs (pairC_nonneg _ _ _)) (sub_nonneg.2 (btP_mem β ti tq).2.le)

/-- … against a better-placed team it is non-positive … -/
theorem C05_btPair_loss_nonpos (β : ℝ) (g : GammaFn ℝ) (n : Nat) (ti tq : TeamAgg ℝ)
    (hs : 0 ≤ ti.sig2) (hr : tq.rank < ti.rank) : (btPair β g n ti tq).1 ≤ 0 := by
  rw [btPair_fst, byOutcome_loss hr]
  exact mul_nonpos_of_nonneg_of_nonpos (div_nonneg hs (pairC_nonneg _ _ _))
    (sub_nonpos.2 (btP_mem β ti tq).1.le)

/-- … and loss ≤ draw ≤ win for the same opponent -/
theorem C05_btPair_loss_le_draw_le_win (β : ℝ) (g : GammaFn ℝ) (n : Nat) (ti tq : TeamAgg ℝ)
    (hs : 0 ≤ ti.sig2) (rw rd rl : Nat) (hw : rw < tq.rank) (hd : rd = tq.rank) (hl : tq.rank < rl) :
    (btPair β g n { ti with rank := rl } tq).1 ≤ (btPair β g n { ti with rank := rd } tq).1 ∧
    (btPair β g n { ti with rank := rd } tq).1 ≤ (btPair β g n { ti with rank := rw } tq).1 :=
  ⟨btPair_fst_twin_le β g n { ti with rank := rd } { ti with rank := rl } tq hs rfl rfl
      (lt_of_eq_of_lt hd hl),
    btPair_fst_twin_le β g n { ti with rank := rw } { ti with rank := rd } tq hs rfl rfl
      (lt_of_lt_of_eq hw hd.symm)⟩

/-- Thurstone–Mosteller: win contributions are ≥ 0, loss contributions ≤ 0 (V ≥ 0); loss ≤ draw ≤ win for
the same opponent is `tmPair_fst_twin_le` -/
theorem C05_tmPair_sign (L : Leaves ℝ) (hL : LeafFacts L) (cmul β κ : ℝ) (g : GammaFn ℝ) (n : Nat)
    (ti tq : TeamAgg ℝ) (hs : 0 ≤ ti.sig2) (hc : 0 ≤ cmul) :
    (ti.rank < tq.rank → 0 ≤ (tmPair L cmul β κ g n ti tq).1) ∧
    (tq.rank < ti.rank → (tmPair L cmul β κ g n ti tq).1 ≤ 0) := by
  have hk : 0 ≤ ti.sig2 / (cmul * pairC β ti tq) :=
    div_nonneg hs (mul_nonneg hc (pairC_nonneg _ _ _))
  rw [tmPair_fst]
  exact ⟨fun h => by rw [byOutcome_win h]; exact mul_nonneg hk (hL.v_nonneg _ _),
    fun h => by
      rw [byOutcome_loss h]
      exact mul_nonpos_of_nonneg_of_nonpos hk (neg_nonpos.2 (hL.v_nonneg _ _))⟩

end OS
end
