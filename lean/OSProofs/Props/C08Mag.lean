import OSProofs.C08MagLemmasB
import OSProofs.Props.C09
import OSProofs.Props.C10Teams
/-!
# C08Mag — magnitudes: on the supported numeric range every intermediate quantity of `rate` and of
the predictions is far inside the range of IEEE doubles

`C08b` proves over ℝ that no divisor is zero, no root argument negative and no `exp` argument
above 453.  This file adds explicit MAGNITUDE bounds, relative to β, for the same model terms, so
that (i) nothing can overflow (1.8e308) and (ii) the positive quantities that are divided by or
multiplied further cannot underflow (4.9e-324): inside that range IEEE arithmetic agrees with real
arithmetic up to relative error 2⁻⁵³ per operation.

The domain is `Mag.Domain β κ τ lo teams` (file `C08MagLemmas`): `β > 0`, `0 < κ ≤ 1/100`,
`0 ≤ τ ≤ 10β`, 2..8 teams of 1..16 players, `|mu| ≤ 20β`, `0 ≤ sigma ≤ 10β`, and a floor `lo > 0`
with `lo ≤ sigma ∨ lo ≤ τ` for every player (`lo = 1e-4·β` when all sigmas are at least `1e-4·β`;
`lo = min(1e-4·β, τ)` when `sigma = 0` is admitted together with `τ > 0`).  It implies
`Grd.Domain` (`C08_mag_domain_implies_guard_domain`); what `_compute` receives is
`Mag.Inflated β lo` (`lo ≤ σ̂`, `σ̂² ≤ 200β²`), whose aggregates satisfy `Mag.AggBounds β lo`
(`|θ_i| ≤ 320β`, `lo² ≤ σ_i² ≤ 3200β²`).  All constants are explicit numerals times a power of β
(and `lo`, `κ` where they enter); `C08_no_overflow_corollary` evaluates them for
`β ∈ [4e-3, 4e3]`, `lo = 1e-4·β`, `κ ∈ [1e-200, 1e-2]`.

Gamma is the library default `√σ_i²/c` (in `[lo/c, 1]`); the bounds on `Ω_i` hold for every gamma
(gamma only enters `Δ_i`).  The Thurstone–Mosteller statements are for any leaves satisfying
`Mag.LeafBounds` (`|v| ≤ |x|+|t|+1`, `w, wt ∈ [0,1]`, `|vt| ≤ |x|+t`), proved for the code's
leaves (`C08_leafBounds_code`).

What is NOT bounded below on the domain (reported, benign): see the end of this file.
-/
noncomputable section
namespace OS
open Gauss

/-! ## the domain -/

theorem C08_mag_domain_implies_guard_domain {β κ τ lo : ℝ} {teams : List (List (Rating ℝ))}
    (D : Mag.Domain β κ τ lo teams) : Grd.Domain β κ τ teams where
  beta_pos := D.beta_pos
  kappa_pos := D.kappa_pos
  kappa_le_one := le_trans D.kappa_le (by norm_num)
  tau_nonneg := D.tau_nonneg
  teams_ge := D.teams_ge
  teams_le := D.teams_le
  players_ge := D.players_ge
  players_le := D.players_le
  mu_bound := D.mu_bound
  sigma_nonneg := D.sigma_nonneg
  sigma_le := D.sigma_le
  nondeg := fun t ht p hp => (D.floor t ht p hp).imp D.lo_pos.trans_le D.lo_pos.trans_le

/-- what `_compute` receives: the inflated game has `lo ≤ σ̂`, `σ̂² ≤ 200β²`, and so has the game
sorted by rank -/
theorem C08_mag_inflated {ρ : Type} {β κ τ lo : ℝ} {teams : List (List (Rating ℝ))}
    (D : Mag.Domain β κ τ lo teams) :
    Mag.Inflated β lo (inflate τ teams)
    ∧ ∀ (le : ρ → ρ → Bool) (r : List ρ), r.length = teams.length →
        Mag.Inflated β lo (unwind le r (inflate τ teams)).1 := by
  have I := mag_inflate_domain D
  exact ⟨I, fun le r hr => mag_unwind_inflated I le r (hr.trans (inflate_length τ teams).symm)⟩

/-- **team aggregates of an inflated game**: `|θ_i| ≤ 320β`, `lo² ≤ σ_i² ≤ 3200β²`, and for every
member `|mu| ≤ 20β`, `lo ≤ σ̂`, `σ̂² ≤ 200β²`, `σ̂² ≤ σ_i²` -/
theorem C08_magnitudes_aggregates {β lo : ℝ} {teams : List (List (Rating ℝ))}
    (I : Mag.Inflated β lo teams) (dense : List Nat) (hd : dense.length = teams.length) :
    Mag.AggBounds β lo (teamAggs teams dense) := mag_aggBounds I dense hd

/-- the code's `v, w, vt, wt` satisfy the leaf bounds (`v`: Sampford's inequality) -/
theorem C08_leafBounds_code : Mag.LeafBounds (codeLeaves : Leaves ℝ) where
  v_abs := fun x t => by
    show |vCode x t| ≤ _
    rw [abs_of_nonneg (C17_v_nonneg x t)]
    exact (vCode_le_abs_sub_add_one x t).trans (add_le_add (abs_sub x t) le_rfl)
  w_mem := fun x t => C17_w_range x t
  vt_abs := fun x t ht => by
    show |vtCode x t| ≤ _
    obtain ⟨h1, h2⟩ := C17_vt_mem x t ht
    have h3 := neg_abs_le x
    have h4 := le_abs_self x
    exact abs_le.mpr ⟨by linarith, by linarith⟩
  wt_mem := fun x t ht => C17_wt_range x t ht

/-! ## Bradley–Terry -/

namespace Mag

/-- all bounds for `_compute` of a Bradley–Terry model (`K = BTF` or `BTP`) on the aggregates `ts` -/
structure RateBoundsBT (K : Kind) (L : Leaves ℝ) (P : Params ℝ) (β lo : ℝ)
    (ts : List (TeamAgg ℝ)) : Prop where
  /-- `|θ_i| ≤ 320β`, `lo² ≤ σ_i² ≤ 3200β²`, … -/
  agg : AggBounds β lo ts
  /-- per ordered pair: `√2β ≤ c_iq ≤ 81β`, `|arg| ≤ 453`, `e^{-453} ≤ exp ≤ e^{453}`,
  `p_iq, 1−p_iq ∈ [e^{-453}/2, 1]`, `σ_i²/c_iq ∈ [lo²/(81β), 81β]`, `γ ∈ [lo/(81β), 1]`,
  `|ω_iq| ≤ 81β`, `δ_iq ∈ [lo³/(81β)³·e^{-453}/4, 1/4]` -/
  pair : ∀ ti ∈ ts, ∀ tq ∈ ts, BTPairBounds β lo ts.length ti tq
  omega_abs : ∀ od ∈ omegaDelta K L P ts, |od.1| ≤ 648 * β
  delta_nonneg : ∀ od ∈ omegaDelta K L P ts, 0 ≤ od.2
  delta_le : ∀ od ∈ omegaDelta K L P ts, od.2 ≤ 2
  /-- the update of every player by every `(Ω, Δ)` of the list (in particular its own team's) -/
  update : ∀ t ∈ ts, ∀ od ∈ omegaDelta K L P ts, ∀ p ∈ t.players,
    PlayerUpdateBounds β lo P.kappa (648 * β) 2 t p od.1 od.2

end Mag

/-- **Magnitudes, Bradley–Terry (full and partial pairing), default gamma.**  For the aggregates of
an inflated game in the domain every intermediate quantity of `_compute` is bounded as listed in
`Mag.RateBoundsBT` (`|Ω_i| ≤ 648β`, `0 ≤ Δ_i ≤ 2`, `|μ'| ≤ 668β`, `√κ·σ̂ ≤ σ' ≤ σ̂`). -/
theorem C08_magnitudes_rate_BT {β lo : ℝ} (K : Kind) (hK : K = .BTF ∨ K = .BTP) (L : Leaves ℝ)
    (P : Params ℝ) (hP : P.beta = β) (hg : P.gamma = .dflt) (hκ0 : 0 < P.kappa) (hκ1 : P.kappa ≤ 1)
    (teams : List (List (Rating ℝ))) (I : Mag.Inflated β lo teams)
    (dense : List Nat) (hd : dense.length = teams.length) :
    Mag.RateBoundsBT K L P β lo (teamAggs teams dense) := by
  have A := mag_aggBounds I dense hd
  have H : ∀ od ∈ omegaDelta K L P (teamAggs teams dense), |od.1| ≤ 648 * β ∧ 0 ≤ od.2 ∧ od.2 ≤ 2 := by
    rcases hK with rfl | rfl
    · exact mag_odBounds .BTF L (fun h => absurd h (by decide)) P hP hg hκ0 _ A
    · exact mag_odBounds .BTP L (fun h => absurd h (by decide)) P hP hg hκ0 _ A
  exact ⟨A, fun ti hi tq hq => mag_btPair_bounds A _ hi hq, fun od h => (H od h).1,
    fun od h => (H od h).2.1, fun od h => (H od h).2.2,
    fun t ht od h p hp => mag_player_update A hκ1 (H od h) ht hp⟩

/-! ## Plackett–Luce -/

namespace Mag

/-- all bounds for `_compute` of the Plackett–Luce model on the aggregates `ts` -/
structure RateBoundsPL (L : Leaves ℝ) (P : Params ℝ) (β lo : ℝ) (ts : List (TeamAgg ℝ)) : Prop where
  agg : AggBounds β lo ts
  /-- `√2·β ≤ c ≤ 161β` -/
  c_ge : Real.sqrt 2 * β ≤ plC β ts
  c_le : plC β ts ≤ 161 * β
  /-- every `exp` argument `θ_i / c` is at most 227 in absolute value, so `e^{-227} ≤ exp ≤ e^{227}` -/
  exp_arg : ∀ t ∈ ts, |t.mu / plC β ts| ≤ 227
  exp_ge : ∀ t ∈ ts, Real.exp (-227) ≤ Real.exp (t.mu / plC β ts)
  exp_le : ∀ t ∈ ts, Real.exp (t.mu / plC β ts) ≤ Real.exp 227
  /-- every entry of `sum_q` lies in `[e^{-227}, 8·e^{227}]` -/
  sumq_ge : ∀ s ∈ plSumQ ts (plC β ts), Real.exp (-227) ≤ s
  sumq_le : ∀ s ∈ plSumQ ts (plC β ts), s ≤ 8 * Real.exp 227
  /-- every entry of `A` lies in `[1, 8]` -/
  a_ge : ∀ a ∈ plA ts, 1 ≤ a
  a_le : ∀ a ∈ plA ts, a ≤ 8
  /-- `p_iq = e_i / sum_q[q] ∈ [e^{-454}/8, 1]` for the `q` the loop of team `i` visits -/
  p_ge : ∀ ti ∈ ts, ∀ tq ∈ ts, tq.rank ≤ ti.rank → Real.exp (-454) / 8 ≤
    Real.exp (ti.mu / plC β ts) / sumL ((ts.filter (fun tj => decide (tq.rank ≤ tj.rank))).map
      (fun tj => Scalar.exp (tj.mu / plC β ts)))
  p_le : ∀ ti ∈ ts, ∀ tq ∈ ts, tq.rank ≤ ti.rank →
    Real.exp (ti.mu / plC β ts) / sumL ((ts.filter (fun tj => decide (tq.rank ≤ tj.rank))).map
      (fun tj => Scalar.exp (tj.mu / plC β ts))) ≤ 1
  /-- `σ_i²/c ∈ [lo²/(161β), 161β]`, `σ_i²/c² ∈ [lo²/(161β)², 1]`, `γ_i ∈ [lo/(161β), 1]` -/
  s2c_ge : ∀ ti ∈ ts, lo * lo / (161 * β) ≤ ti.sig2 / plC β ts
  s2c_le : ∀ ti ∈ ts, ti.sig2 / plC β ts ≤ 161 * β
  s2cc_ge : ∀ ti ∈ ts, lo * lo / (161 * β) / (161 * β) ≤ ti.sig2 / (plC β ts * plC β ts)
  s2cc_le : ∀ ti ∈ ts, ti.sig2 / (plC β ts * plC β ts) ≤ 1
  gamma_ge : ∀ ti ∈ ts,
    lo / (161 * β) ≤ gammaVal .dflt (plC β ts) ts.length ti.mu ti.sig2 ti.players ti.rank
  gamma_le : ∀ ti ∈ ts, gammaVal .dflt (plC β ts) ts.length ti.mu ti.sig2 ti.players ti.rank ≤ 1
  omega_abs : ∀ od ∈ omegaDelta .PL L P ts, |od.1| ≤ 1288 * β
  delta_nonneg : ∀ od ∈ omegaDelta .PL L P ts, 0 ≤ od.2
  delta_le : ∀ od ∈ omegaDelta .PL L P ts, od.2 ≤ 2
  update : ∀ t ∈ ts, ∀ od ∈ omegaDelta .PL L P ts, ∀ p ∈ t.players,
    PlayerUpdateBounds β lo P.kappa (1288 * β) 2 t p od.1 od.2

end Mag

/-- **Magnitudes, Plackett–Luce, default gamma.**  For the aggregates of an inflated game in the
domain every intermediate quantity of `_compute` is bounded as listed in `Mag.RateBoundsPL`
(`|Ω_i| ≤ 1288β`, `0 ≤ Δ_i ≤ 2`, `|μ'| ≤ 1308β`, `√κ·σ̂ ≤ σ' ≤ σ̂`).  The same bounds on `c`, the
`exp` arguments and values, `sum_q` and `A` hold for the computations the two full-pairing models
evaluate and discard (`C08_full_models_discarded_sites`). -/
theorem C08_magnitudes_rate_PL {β lo : ℝ} (L : Leaves ℝ)
    (P : Params ℝ) (hP : P.beta = β) (hg : P.gamma = .dflt) (hκ0 : 0 < P.kappa) (hκ1 : P.kappa ≤ 1)
    (teams : List (List (Rating ℝ))) (I : Mag.Inflated β lo teams)
    (dense : List Nat) (hd : dense.length = teams.length) :
    Mag.RateBoundsPL L P β lo (teamAggs teams dense) := by
  have A := mag_aggBounds I dense hd
  have H := mag_odBounds .PL L (fun h => absurd h (by decide)) P hP hg hκ0 _ A
  obtain ⟨hc1, hc2, _, _⟩ := mag_plC_bounds A
  have harg : ∀ t ∈ teamAggs teams dense, |t.mu / plC β (teamAggs teams dense)| ≤ 227 :=
    fun t ht => abs_div_le_of_sqrt_two A.beta_pos (by norm_num) (A.mu t ht) hc1 (by norm_num)
  have hsq := mag_plSumQ_bounds A.len_le _ harg
  exact
    { agg := A, c_ge := hc1, c_le := hc2, exp_arg := harg
      exp_ge := fun t ht => (exp_bounds_of_abs_le (harg t ht)).1
      exp_le := fun t ht => (exp_bounds_of_abs_le (harg t ht)).2
      sumq_ge := List.forall_mem_map.2 fun tq htq => (hsq tq htq).1
      sumq_le := List.forall_mem_map.2 fun tq htq => (hsq tq htq).2
      a_ge := List.forall_mem_map.2 fun ti hti => fl1_plCnt_pos hti
      a_le := List.forall_mem_map.2 fun ti _ => (List.length_filter_le _ _).trans A.len_le
      p_ge := fun ti hi tq hq _ => mag_pl_p_ge A _ harg hi hq
      p_le := fun ti hi tq _ hr => (pl_p_mem _ _ ti tq hi hr).2
      s2c_ge := fun ti hi => (mag_pl_team_factors A hi).1.1
      s2c_le := fun ti hi => (mag_pl_team_factors A hi).1.2
      s2cc_ge := fun ti hi => (mag_pl_team_factors A hi).2.1.1
      s2cc_le := fun ti hi => (mag_pl_team_factors A hi).2.1.2
      gamma_ge := fun ti hi => (mag_pl_team_factors A hi).2.2.1
      gamma_le := fun ti hi => (mag_pl_team_factors A hi).2.2.2
      omega_abs := fun od h => (H od h).1, delta_nonneg := fun od h => (H od h).2.1
      delta_le := fun od h => (H od h).2.2
      update := fun t ht od h p hp => mag_player_update A hκ1 (H od h) ht hp }

/-! ## Thurstone–Mosteller -/

namespace Mag

/-- all bounds for `_compute` of a Thurstone–Mosteller model (`K = TMF`, `cmul = 1`, or `K = TMP`,
`cmul = 2`) on the aggregates `ts` -/
structure RateBoundsTM (K : Kind) (cmul : ℝ) (L : Leaves ℝ) (P : Params ℝ) (β lo : ℝ)
    (ts : List (TeamAgg ℝ)) : Prop where
  agg : AggBounds β lo ts
  /-- per ordered pair, with `c = cmul·c_iq`: `√2β ≤ c ≤ 162β`, `|x| = |(θ_i−θ_q)/c| ≤ 453`,
  `κ/(162β) ≤ t = κ/c ≤ κ/β`, `σ_i²/c ∈ [lo²/(162β), 81β]`, `γ ∈ [lo/(162β), 1]`,
  `|ω_iq| ≤ 36774β + κ`, `δ_iq ∈ [0, 1]` -/
  pair : ∀ ti ∈ ts, ∀ tq ∈ ts, TMPairBounds L β lo P.kappa cmul ts.length ti tq
  omega_abs : ∀ od ∈ omegaDelta K L P ts, |od.1| ≤ 294192 * β + 8 * P.kappa
  delta_nonneg : ∀ od ∈ omegaDelta K L P ts, 0 ≤ od.2
  delta_le : ∀ od ∈ omegaDelta K L P ts, od.2 ≤ 8
  update : ∀ t ∈ ts, ∀ od ∈ omegaDelta K L P ts, ∀ p ∈ t.players,
    PlayerUpdateBounds β lo P.kappa (294192 * β + 8 * P.kappa) 8 t p od.1 od.2

end Mag

/-- **Magnitudes, Thurstone–Mosteller (full and partial pairing), default gamma**, for leaves
satisfying `Mag.LeafBounds` (the code's do: `C08_leafBounds_code`).  For the aggregates of an inflated
game in the domain every intermediate quantity of `_compute` outside the leaves is bounded as listed
in `Mag.RateBoundsTM` (`|Ω_i| ≤ 294192β + 8κ`, `0 ≤ Δ_i ≤ 8`, `|μ'| ≤ 294212β + 8κ`,
`√κ·σ̂ ≤ σ' ≤ σ̂`). -/
theorem C08_magnitudes_rate_TM {β lo : ℝ} (K : Kind) (cmul : ℝ)
    (hK : (K = .TMF ∧ cmul = 1) ∨ (K = .TMP ∧ cmul = 2)) (L : Leaves ℝ) (LB : Mag.LeafBounds L)
    (P : Params ℝ) (hP : P.beta = β) (hg : P.gamma = .dflt) (hκ0 : 0 < P.kappa) (hκ1 : P.kappa ≤ 1)
    (teams : List (List (Rating ℝ))) (I : Mag.Inflated β lo teams)
    (dense : List Nat) (hd : dense.length = teams.length) :
    Mag.RateBoundsTM K cmul L P β lo (teamAggs teams dense) := by
  have A := mag_aggBounds I dense hd
  have hc : 1 ≤ cmul ∧ cmul ≤ 2 := by rcases hK with h | h <;> rw [h.2] <;> norm_num
  have H : ∀ od ∈ omegaDelta K L P (teamAggs teams dense),
      |od.1| ≤ 294192 * β + 8 * P.kappa ∧ 0 ≤ od.2 ∧ od.2 ≤ 8 := by
    rcases hK with ⟨rfl, _⟩ | ⟨rfl, _⟩
    · exact mag_odBounds .TMF L (fun _ => LB) P hP hg hκ0 _ A
    · exact mag_odBounds .TMP L (fun _ => LB) P hP hg hκ0 _ A
  exact ⟨A, fun ti hi tq hq => mag_tmPair_bounds LB A hκ0 hc.1 hc.2 _ hi hq, fun od h => (H od h).1,
    fun od h => (H od h).2.1, fun od h => (H od h).2.2,
    fun t ht od h p hp => mag_player_update A hκ1 (H od h) ht hp⟩

/-! ## `rate`, end to end -/

/-- **Magnitudes of `rate`** (`rateCore`: any of the five models, default gamma, per-call tau /
limit_sigma, ranks omitted or as many ranks as teams; scores reach `rateCore` as ranks).  For a
game in `Mag.Domain`, with `τ` the resolved tau:

1. both argument lists that `rateCore` can pass to `_compute` (the inflated teams with ranks
   `0..n−1`; the inflated teams sorted by rank with their dense ranks) have aggregates satisfying
   `Mag.AggBounds` — so `C08_magnitudes_rate_BT / _PL / _TM` apply to exactly the lists computed on;
2. every returned rating has `|μ'| ≤ 20β + W` with `W = Mag.W K β κ` (`648β` Bradley–Terry, `1288β`
   Plackett–Luce, `294192β + 8κ` Thurstone–Mosteller), `0 ≤ σ'`, `σ'² ≤ 200β²`, and `√κ·lo ≤ σ'` —
   unless limit_sigma replaced `σ'` by the (smaller) unchanged input sigma, which is a copy. -/
theorem C08_magnitudes_rate {ρ : Type} (K : Kind) (L : Leaves ℝ)
    (LB : K = .TMF ∨ K = .TMP → Mag.LeafBounds L) (P : Params ℝ) (le : ρ → ρ → Bool)
    (teams : List (List (Rating ℝ))) (ranks : Option (List ρ)) (o : CallOpts ℝ) {lo : ℝ}
    (D : Mag.Domain P.beta P.kappa (resolveTau P o) lo teams) (hg : P.gamma = .dflt)
    (hr : ∀ r, ranks = some r → r.length = teams.length) :
    Mag.AggBounds P.beta lo (teamAggs (inflate (resolveTau P o) teams)
        (List.range (inflate (resolveTau P o) teams).length))
    ∧ (∀ r : List ρ, r.length = teams.length →
        Mag.AggBounds P.beta lo (teamAggs (unwind le r (inflate (resolveTau P o) teams)).1
          (denseRanks (fun a b => !le b a) (sortedKeys le r))))
    ∧ ∀ T ∈ rateCore K L P le teams ranks o, ∀ p' ∈ T,
        Mag.RateOutOK P.beta lo P.kappa (Mag.W K P.beta P.kappa) teams p' := by
  have I := mag_inflate_domain D
  refine ⟨mag_aggBounds I _ List.length_range, fun r hr' => ?_, ?_⟩
  · have h := hr'.trans (inflate_length (resolveTau P o) teams).symm
    exact mag_aggBounds (mag_unwind_inflated I le r h) _ (unwind_lengths le h).2
  · exact mag_rateCore_out K L P le teams ranks o D
      (mag_odBounds K L LB P rfl hg D.kappa_pos) hr

/-- the three entry points of `rate` (ranks omitted / ranks / scores) -/
theorem C08_magnitudes_rate_entry {ρ : Type} (K : Kind) (L : Leaves ℝ)
    (LB : K = .TMF ∨ K = .TMP → Mag.LeafBounds L) (P : Params ℝ) (le : ρ → ρ → Bool) (neg : ρ → ρ)
    (teams : List (List (Rating ℝ))) (oc : Outcome ρ) (o : CallOpts ℝ) {lo : ℝ}
    (D : Mag.Domain P.beta P.kappa (resolveTau P o) lo teams) (hg : P.gamma = .dflt)
    (hr : ∀ r, (oc = .ranks r ∨ oc = .scores r) → r.length = teams.length) :
    ∀ T ∈ rate K L P le neg teams oc o, ∀ p' ∈ T,
      Mag.RateOutOK P.beta lo P.kappa (Mag.W K P.beta P.kappa) teams p' := by
  rw [rate_eq_rateCore]
  exact (C08_magnitudes_rate K L LB P le teams _ o D hg (lft_ranksOf_length neg hr)).2.2

/-! ## predictions -/

namespace Mag

/-- all bounds for `predict_win`, `predict_draw`, `predict_rank` on `teams` (`n` teams, `N` players,
`m` the draw margin) -/
structure PredictBounds (β : ℝ) (teams : List (List (Rating ℝ))) : Prop where
  n_ge : 2 ≤ teams.length
  n_le : teams.length ≤ 8
  N_ge : 2 ≤ playerCount teams
  N_le : playerCount teams ≤ 128
  /-- aggregates (no inflation): `|θ| ≤ 320β`, `0 ≤ σ² ≤ 1600β²` -/
  agg : ∀ a ∈ aggs teams, |a.mu| ≤ 320 * β ∧ 0 ≤ a.sig2 ∧ a.sig2 ≤ 1600 * (β * β)
  /-- pair denominators with `nb = n`: `√2β ≤ d ≤ 58β`, `√n·β ≤ d` -/
  denom_n : ∀ a ∈ aggs teams, ∀ b ∈ aggs teams,
    Real.sqrt 2 * β ≤ pairDenom teams.length β a b ∧ pairDenom teams.length β a b ≤ 58 * β
    ∧ Real.sqrt teams.length * β ≤ pairDenom teams.length β a b
  /-- pair denominators with `nb = N` (two-team branch of `predict_win`) -/
  denom_N : ∀ a ∈ aggs teams, ∀ b ∈ aggs teams,
    Real.sqrt 2 * β ≤ pairDenom (playerCount teams) β a b
    ∧ pairDenom (playerCount teams) β a b ≤ 58 * β
    ∧ Real.sqrt (playerCount teams) * β ≤ pairDenom (playerCount teams) β a b
  /-- the `inv_cdf` argument lies in `(1/2, 3/4]`, its value in `[0, Φ⁻¹(3/4)]`, and `Φ⁻¹(3/4) < 1` -/
  invcdf_arg : 1 / 2 < (1 + 1 / (playerCount teams : ℝ)) / 2
    ∧ (1 + 1 / (playerCount teams : ℝ)) / 2 ≤ 3 / 4
  invcdf_val : 0 ≤ PhiInv ((1 + 1 / (playerCount teams : ℝ)) / 2)
    ∧ PhiInv ((1 + 1 / (playerCount teams : ℝ)) / 2) ≤ PhiInv (3 / 4)
  invcdf_34 : PhiInv (3 / 4) < 1
  /-- the draw margin: `0 ≤ m ≤ √N·β·Φ⁻¹(3/4) ≤ √N·β ≤ 12β`, `m ≤ N·β` -/
  margin_nonneg : 0 ≤ drawMargin β (playerCount teams)
  margin_le : drawMargin β (playerCount teams) ≤ Real.sqrt (playerCount teams) * β * PhiInv (3 / 4)
  margin_le_sqrt : drawMargin β (playerCount teams) ≤ Real.sqrt (playerCount teams) * β
  margin_le_12 : drawMargin β (playerCount teams) ≤ 12 * β
  margin_le_N : drawMargin β (playerCount teams) ≤ playerCount teams * β
  /-- the Φ arguments -/
  win_arg_N : ∀ a ∈ aggs teams, ∀ b ∈ aggs teams,
    |(a.mu - b.mu) / pairDenom (playerCount teams) β a b| ≤ 453
  win_arg_n : ∀ a ∈ aggs teams, ∀ b ∈ aggs teams,
    |(a.mu - b.mu) / pairDenom teams.length β a b| ≤ 453
  draw_arg : ∀ a ∈ aggs teams, ∀ b ∈ aggs teams,
    |(drawMargin β (playerCount teams) - a.mu + b.mu) / pairDenom teams.length β a b| ≤ 462
  rank_arg : ∀ a ∈ aggs teams, ∀ b ∈ aggs teams,
    |(a.mu - b.mu - drawMargin β (playerCount teams)) / pairDenom teams.length β a b| ≤ 462
  /-- the normalising denominators: `1 ≤ n(n−1)/2 ≤ 28`, `1 ≤ (n(n−1) if n > 2 else 1) ≤ 56` -/
  norm_half : 1 ≤ ((teams.length * (teams.length - 1) : ℕ) : ℝ) / 2
    ∧ ((teams.length * (teams.length - 1) : ℕ) : ℝ) / 2 ≤ 28
  norm_full : 1 ≤ (if teams.length > 2 then ((teams.length * (teams.length - 1) : ℕ) : ℝ)
      else ((1 : ℕ) : ℝ))
    ∧ (if teams.length > 2 then ((teams.length * (teams.length - 1) : ℕ) : ℝ) else ((1 : ℕ) : ℝ)) ≤ 56
  /-- the returned numbers -/
  win_out : ∀ p ∈ predictWin β teams, 0 ≤ p ∧ p ≤ 1
  draw_out : 0 ≤ predictDraw β teams ∧ predictDraw β teams ≤ 2
  rank_out : ∀ p ∈ predictRankProbs β teams, 0 ≤ p ∧ p ≤ 1

end Mag

/-- **Magnitudes of the predictions.**  For a game in `Grd.PredictDomain` (β > 0, 2..8 teams of
1..16 players, `|mu| ≤ 20β`, `0 ≤ sigma ≤ 10β`) every intermediate quantity of `predict_win`,
`predict_draw`, `predict_rank` is bounded as listed in `Mag.PredictBounds`.  (The values of Φ lie in
(0,1); Φ is total, so its arguments — at most 462 in absolute value — need no guard.) -/
theorem C08_magnitudes_predict (β : ℝ) (teams : List (List (Rating ℝ)))
    (D : Grd.PredictDomain β teams) : Mag.PredictBounds β teams := by
  have hβ := D.beta_pos
  have hn := D.teams_ge
  have hN2 : 2 ≤ playerCount teams := le_trans hn (length_le_playerCount teams D.players_ge)
  have hN128 : playerCount teams ≤ 128 :=
    (playerCount_le_mul teams 16 D.players_le).trans (Nat.mul_le_mul_right 16 D.teams_le)
  have hagg := fun a ha => mag_predict_agg D (a := a) ha
  obtain ⟨m1, m2, m3, m4, m5, m6, m7⟩ := mag_drawMargin_bounds β hβ (playerCount teams) hN2 hN128
  have hm : |drawMargin β (playerCount teams)| ≤ 12 * β := (abs_of_nonneg m3).trans_le m6
  have hdiff : ∀ a ∈ aggs teams, ∀ b ∈ aggs teams, |a.mu - b.mu| ≤ 640 * β :=
    fun a ha b hb => (abs_sub_le_add (hagg a ha).1 (hagg b hb).1).trans_eq (by ring)
  have hn8 : teams.length ≤ 128 := le_trans D.teams_le (by norm_num)
  -- with the draw margin in the numerator: `(12 + 640)/√2 < 462`
  have hΦ : ∀ {num d : ℝ}, |num| ≤ 652 * β → Real.sqrt 2 * β ≤ d → |num / d| ≤ 462 :=
    fun hn hd => abs_div_le_of_sqrt_two hβ (by norm_num) hn hd (by norm_num)
  obtain ⟨k2, k56⟩ := grd_pairs_cast_bounds hn D.teams_le
  refine
    { n_ge := hn, n_le := D.teams_le, N_ge := hN2, N_le := hN128, agg := hagg
      denom_n := fun _ ha _ hb => mag_pairDenom_bounds D hn hn8 ha hb
      denom_N := fun _ ha _ hb => mag_pairDenom_bounds D hN2 hN128 ha hb
      invcdf_arg := m1, invcdf_val := m2, invcdf_34 := PhiInv_three_quarters_lt_one
      margin_nonneg := m3, margin_le := m4, margin_le_sqrt := m5, margin_le_12 := m6
      margin_le_N := m7
      win_arg_N := fun a ha b hb =>
        C08_bt_exp_arg_bound β _ _ hβ (hdiff a ha b hb) (mag_pairDenom_bounds D hN2 hN128 ha hb).1
      win_arg_n := fun a ha b hb =>
        C08_bt_exp_arg_bound β _ _ hβ (hdiff a ha b hb) (mag_pairDenom_bounds D hn hn8 ha hb).1
      draw_arg := fun a ha b hb => hΦ
        ((sub_add (drawMargin β (playerCount teams)) a.mu b.mu).symm ▸
          (abs_sub_le_add hm (hdiff a ha b hb)).trans_eq (by ring))
        (mag_pairDenom_bounds D hn hn8 ha hb).1
      rank_arg := fun a ha b hb => hΦ
        ((abs_sub_le_add (hdiff a ha b hb) hm).trans_eq (by ring)) (mag_pairDenom_bounds D hn hn8 ha hb).1
      norm_half := ⟨(le_div_iff₀ two_pos).mpr (by rwa [one_mul]),
        (div_le_iff₀ two_pos).mpr (k56.trans_eq (by norm_num))⟩
      norm_full := ?_
      win_out := C09_range β teams hn
      -- `C10_predictDraw_mem` has the sharper `≤ 1`
      draw_out := (C10_predictDraw_mem β hβ teams hn fun t ht =>
        List.ne_nil_of_length_pos (D.players_ge t ht)).imp_right fun h => h.trans one_le_two
      rank_out := by
        simpa only [sc_zero, sc_one] using
          FL_C11_probs_range_all MonoArith.real β teams }
  split_ifs
  · exact ⟨one_le_two.trans k2, k56⟩
  · norm_num

/-! ## far inside the range of doubles -/

namespace Mag
/-- every constant that appears as an UPPER bound in `RateBoundsBT/PL/TM`, `PlayerUpdateBounds`,
`RateOutOK`, `PredictBounds` is below `10^250`, and every constant that appears as a LOWER bound of a
positive quantity is above `10^-250` -/
structure SafeConstants (β lo κ : ℝ) : Prop where
  -- upper bounds
  up_theta : 320 * β < 10 ^ 250
  up_var : 3200 * (β * β) < 10 ^ 250
  up_sigma_sq : 200 * (β * β) < 10 ^ 250
  up_c_bt : 81 * β < 10 ^ 250
  up_c_pl : 161 * β < 10 ^ 250
  up_c_tm : 162 * β < 10 ^ 250
  up_denom_predict : 58 * β < 10 ^ 250
  up_margin : 128 * β < 10 ^ 250
  up_exp_bt : 2 * Real.exp 453 < 10 ^ 250
  up_exp_pl : 8 * Real.exp 227 < 10 ^ 250
  up_omega_bt : 648 * β < 10 ^ 250
  up_omega_pl : 1288 * β < 10 ^ 250
  up_omega_tm : 294192 * β + 8 * κ < 10 ^ 250
  up_mu_bt : 20 * β + 648 * β < 10 ^ 250
  up_mu_pl : 20 * β + 1288 * β < 10 ^ 250
  up_mu_tm : 20 * β + (294192 * β + 8 * κ) < 10 ^ 250
  up_t_tm : κ / β < 10 ^ 250
  -- lower bounds
  dn_lo : 1 / 10 ^ 250 < lo
  dn_var : 1 / 10 ^ 250 < lo * lo
  dn_c : 1 / 10 ^ 250 < β
  dn_exp_bt : 1 / 10 ^ 250 < Real.exp (-453) / 4
  dn_exp_pl : 1 / 10 ^ 250 < Real.exp (-227)
  dn_p_pl : 1 / 10 ^ 250 < Real.exp (-454) / 8
  dn_s2c_bt : 1 / 10 ^ 250 < lo * lo / (81 * β)
  dn_s2cc_bt : 1 / 10 ^ 250 < lo * lo / (81 * β) / (81 * β)
  dn_gamma_bt : 1 / 10 ^ 250 < lo / (81 * β)
  dn_delta_bt : 1 / 10 ^ 250 <
    lo / (81 * β) * (lo * lo / (81 * β) / (81 * β)) * (Real.exp (-453) / 4)
  dn_s2c_pl : 1 / 10 ^ 250 < lo * lo / (161 * β)
  dn_s2cc_pl : 1 / 10 ^ 250 < lo * lo / (161 * β) / (161 * β)
  dn_gamma_pl : 1 / 10 ^ 250 < lo / (161 * β)
  dn_s2c_tm : 1 / 10 ^ 250 < lo * lo / (162 * β)
  dn_s2cc_tm : 1 / 10 ^ 250 < lo * lo / (162 * β) / (162 * β)
  dn_gamma_tm : 1 / 10 ^ 250 < lo / (162 * β)
  dn_t_tm : 1 / 10 ^ 250 < κ / (162 * β)
  dn_share : 1 / 10 ^ 250 < lo * lo / (3200 * (β * β))
  dn_kappa : 1 / 10 ^ 250 < κ
  dn_root : 1 / 10 ^ 250 < Real.sqrt κ
  dn_sigma : 1 / 10 ^ 250 < Real.sqrt κ * lo
end Mag

theorem mag_factors_ge {β lo C b l : ℝ} (hβ0 : 0 < β) (hβ : β ≤ b) (hl0 : 0 ≤ l) (hlo : l ≤ lo)
    (hC : 0 < C) :
    l * l / (C * b) ≤ lo * lo / (C * β) ∧ l * l / (C * b) / (C * b) ≤ lo * lo / (C * β) / (C * β)
    ∧ l / (C * b) ≤ lo / (C * β) := by
  have hlo0 := hl0.trans hlo
  have hCβ : 0 < C * β := mul_pos hC hβ0
  have hCb : C * β ≤ C * b := mul_le_mul_of_nonneg_left hβ hC.le
  have h1 : l * l / (C * b) ≤ lo * lo / (C * β) :=
    div_le_div₀ (mul_self_nonneg lo) (mul_le_mul hlo hlo hl0 hlo0) hCβ hCb
  exact ⟨h1, div_le_div₀ (div_nonneg (mul_self_nonneg lo) hCβ.le) h1 hCβ hCb,
    div_le_div₀ hlo0 hlo hCβ hCb⟩

/-- `Mag.SafeConstants` needs of `lo` only the floor `4e-7`: every constant is monotone in it -/
theorem mag_safeConstants_of_floor {β lo κ : ℝ} (hβ1 : 4 / 1000 ≤ β) (hβ2 : β ≤ 4000)
    (hlo : 4 / 10 ^ 7 ≤ lo) (hκ1 : 1 / 10 ^ 200 ≤ κ) (hκ2 : κ ≤ 1 / 100) :
    Mag.SafeConstants β lo κ := by
  have hβ : 0 < β := lt_of_lt_of_le (by norm_num) hβ1
  have hκ : 0 < κ := lt_of_lt_of_le (by positivity) hκ1
  have hlo0 : 0 < lo := lt_of_lt_of_le (by norm_num) hlo
  have up : ∀ k : ℝ, 0 ≤ k → k * β ≤ k * 4000 := fun k hk => mul_le_mul_of_nonneg_left hβ2 hk
  have hββ : β * β ≤ 4000 * 4000 := mul_le_mul hβ2 hβ2 hβ.le (by norm_num)
  have upκ : 8 * κ ≤ 8 * (1 / 100) := mul_le_mul_of_nonneg_left hκ2 (by norm_num)
  have n453 : (1 : ℝ) / 10 ^ 197 < Real.exp (-453) := one_div_lt_exp_neg exp_453_lt
  have n227 : (1 : ℝ) / 10 ^ 99 < Real.exp (-227) := one_div_lt_exp_neg exp_227_lt
  have n454 : (1 : ℝ) / 10 ^ 198 < Real.exp (-454) := one_div_lt_exp_neg exp_454_lt
  have hroot : (1 : ℝ) / 10 ^ 100 ≤ Real.sqrt κ :=
    le_sqrt_of_mul_self_le (by positivity) (le_trans (by norm_num) hκ1)
  have hll : 4 / 10 ^ 7 * (4 / 10 ^ 7) ≤ lo * lo := mul_le_mul hlo hlo (by norm_num) hlo0.le
  obtain ⟨b1, b2, b3⟩ := mag_factors_ge hβ hβ2 (by norm_num) hlo (by norm_num : (0 : ℝ) < 81)
  obtain ⟨p1, p2, p3⟩ := mag_factors_ge hβ hβ2 (by norm_num) hlo (by norm_num : (0 : ℝ) < 161)
  obtain ⟨t1, t2, t3⟩ := mag_factors_ge hβ hβ2 (by norm_num) hlo (by norm_num : (0 : ℝ) < 162)
  have e4 : (1 : ℝ) / 10 ^ 197 / 4 ≤ Real.exp (-453) / 4 :=
    div_le_div_of_nonneg_right n453.le (by norm_num)
  exact
    { up_theta := (up _ (by norm_num)).trans_lt (by norm_num)
      up_var := (mul_le_mul_of_nonneg_left hββ (by norm_num)).trans_lt (by norm_num)
      up_sigma_sq := (mul_le_mul_of_nonneg_left hββ (by norm_num)).trans_lt (by norm_num)
      up_c_bt := (up _ (by norm_num)).trans_lt (by norm_num)
      up_c_pl := (up _ (by norm_num)).trans_lt (by norm_num)
      up_c_tm := (up _ (by norm_num)).trans_lt (by norm_num)
      up_denom_predict := (up _ (by norm_num)).trans_lt (by norm_num)
      up_margin := (up _ (by norm_num)).trans_lt (by norm_num)
      up_exp_bt := (mul_lt_mul_of_pos_left exp_453_lt two_pos).trans (by norm_num)
      up_exp_pl := (mul_lt_mul_of_pos_left exp_227_lt (by norm_num)).trans (by norm_num)
      up_omega_bt := (up _ (by norm_num)).trans_lt (by norm_num)
      up_omega_pl := (up _ (by norm_num)).trans_lt (by norm_num)
      up_omega_tm := (add_le_add (up _ (by norm_num)) upκ).trans_lt (by norm_num)
      up_mu_bt := (add_le_add (up _ (by norm_num)) (up _ (by norm_num))).trans_lt (by norm_num)
      up_mu_pl := (add_le_add (up _ (by norm_num)) (up _ (by norm_num))).trans_lt (by norm_num)
      up_mu_tm := (add_le_add (up _ (by norm_num)) (add_le_add (up _ (by norm_num)) upκ)).trans_lt
        (by norm_num)
      up_t_tm := (div_le_div₀ (by norm_num) hκ2 (by norm_num) hβ1).trans_lt (by norm_num)
      dn_lo := lt_of_lt_of_le (by norm_num) hlo
      dn_var := lt_of_lt_of_le (by norm_num) hll
      dn_c := lt_of_lt_of_le (by norm_num) hβ1
      dn_exp_bt := lt_of_lt_of_le (by norm_num) e4
      dn_exp_pl := lt_trans (by norm_num) n227
      dn_p_pl := lt_of_lt_of_le (by norm_num) (div_le_div_of_nonneg_right n454.le (by norm_num))
      dn_s2c_bt := lt_of_lt_of_le (by norm_num) b1
      dn_s2cc_bt := lt_of_lt_of_le (by norm_num) b2
      dn_gamma_bt := lt_of_lt_of_le (by norm_num) b3
      dn_delta_bt := lt_of_lt_of_le (by norm_num)
        (mul3_le_mul3 (by norm_num) (by norm_num) (by norm_num) b3 b2 e4)
      dn_s2c_pl := lt_of_lt_of_le (by norm_num) p1
      dn_s2cc_pl := lt_of_lt_of_le (by norm_num) p2
      dn_gamma_pl := lt_of_lt_of_le (by norm_num) p3
      dn_s2c_tm := lt_of_lt_of_le (by norm_num) t1
      dn_s2cc_tm := lt_of_lt_of_le (by norm_num) t2
      dn_gamma_tm := lt_of_lt_of_le (by norm_num) t3
      dn_t_tm := lt_of_lt_of_le (by norm_num)
        (div_le_div₀ hκ.le hκ1 (mul_pos (by norm_num) hβ) (up 162 (by norm_num)))
      dn_share := lt_of_lt_of_le (by norm_num)
        (div_le_div₀ (mul_self_nonneg lo) hll (mul_pos (by norm_num) (mul_pos hβ hβ))
          (mul_le_mul_of_nonneg_left hββ (by norm_num)))
      dn_kappa := lt_of_lt_of_le (by norm_num) hκ1
      dn_root := lt_of_lt_of_le (by norm_num) hroot
      dn_sigma := lt_of_lt_of_le (by norm_num)
        (mul_le_mul hroot hlo (by norm_num) (Real.sqrt_nonneg _)) }

/-- **No overflow, no underflow.**  For `β ∈ [4e-3, 4e3]`, the sigma floor `lo = 1e-4·β` and
`κ ∈ [1e-200, 1e-2]`, every constant that bounds a quantity of `rate` or of the predictions from above
is `< 10^250`, and every constant that bounds a positive quantity from below is `> 10^-250` — far
inside the range `[2.2e-308, 1.8e308]` of normal doubles.  (`e^453 < 10^197` is derived from
`e < 2.7182818286`.)  The lower bound on κ is needed because the property's `κ ∈ (0, 1e-2]` has no
positive floor while `t = κ/c`, `√κ` and `σ' ≥ √κ·σ̂` scale with it; every positive double κ ≥ 1e-200
qualifies. -/
theorem C08_no_overflow_corollary {β lo κ : ℝ} (hβ1 : 4 / 1000 ≤ β) (hβ2 : β ≤ 4000)
    (hlo : lo = β / 10 ^ 4) (hκ1 : 1 / 10 ^ 200 ≤ κ) (hκ2 : κ ≤ 1 / 100) :
    Mag.SafeConstants β lo κ :=
  mag_safeConstants_of_floor hβ1 hβ2
    (hlo ▸ (le_div_iff₀ (by norm_num)).mpr (le_trans (by norm_num) hβ1)) hκ1 hκ2

/-- **The numbers `rate` returns neither overflow nor underflow** (all five models, default gamma,
the code's leaves for Thurstone–Mosteller): for `β ∈ [4e-3, 4e3]`, `κ ∈ [1e-200, 1e-2]` and a game in
`Mag.Domain` with floor `lo = 1e-4·β`, every returned rating has `|μ'| < 10^250`, `σ' < 10^250`, and
`σ' > 10^-250` unless limit_sigma copied an input sigma into it. -/
theorem C08_no_overflow_rate {ρ : Type} (K : Kind) (P : Params ℝ) (le : ρ → ρ → Bool) (neg : ρ → ρ)
    (teams : List (List (Rating ℝ))) (oc : Outcome ρ) (o : CallOpts ℝ)
    (hβ1 : 4 / 1000 ≤ P.beta) (hβ2 : P.beta ≤ 4000) (hκ1 : 1 / 10 ^ 200 ≤ P.kappa)
    (D : Mag.Domain P.beta P.kappa (resolveTau P o) (P.beta / 10 ^ 4) teams) (hg : P.gamma = .dflt)
    (hr : ∀ r, (oc = .ranks r ∨ oc = .scores r) → r.length = teams.length) :
    ∀ T ∈ rate K codeLeaves P le neg teams oc o, ∀ p' ∈ T,
      |p'.mu| < 10 ^ 250 ∧ p'.sigma < 10 ^ 250
      ∧ (1 / 10 ^ 250 < p'.sigma ∨ ∃ S ∈ teams, ∃ p ∈ S, p'.sigma = p.sigma) := by
  have S := C08_no_overflow_corollary hβ1 hβ2 rfl hκ1 D.kappa_le
  intro T hT p' hp'
  obtain ⟨h1, h2, h3, h4⟩ := C08_magnitudes_rate_entry K codeLeaves (fun _ => C08_leafBounds_code)
    P le neg teams oc o D hg hr T hT p' hp'
  refine ⟨lt_of_le_of_lt h1 ?_, ?_, ?_⟩
  · cases K
    · exact S.up_mu_pl
    · exact S.up_mu_bt
    · exact S.up_mu_bt
    · exact S.up_mu_tm
    · exact S.up_mu_tm
  · exact lt_of_mul_self_lt_mul_self₀ (by positivity)
      ((h3.trans_lt S.up_sigma_sq).trans_le (le_mul_of_one_le_left (by positivity) (by norm_num)))
  · rcases h4 with h | h
    · exact Or.inl (lt_of_lt_of_le S.dn_sigma h)
    · exact Or.inr h

/-! ## the hypotheses are satisfiable -/

/-- the default configuration (β = 25/6, κ = 1/10000, τ = 1/12) with a two-team game of default
ratings and one player with sigma = 0 lies in the magnitude domain with floor `lo = 1e-4·β` -/
example : Mag.Domain (25 / 6) (1 / 10000) (1 / 12) (25 / 6 / 10 ^ 4)
    [[⟨0, 25, 25 / 3⟩], [⟨1, 25, 25 / 3⟩, ⟨2, 30, 0⟩]] :=
  have G := grd_example_domain
  { beta_pos := G.beta_pos, lo_pos := by norm_num, kappa_pos := G.kappa_pos, kappa_le := by norm_num
    tau_nonneg := G.tau_nonneg, tau_le := by norm_num, teams_ge := G.teams_ge, teams_le := G.teams_le
    players_ge := G.players_ge, players_le := G.players_le, mu_bound := G.mu_bound
    sigma_nonneg := G.sigma_nonneg, sigma_le := G.sigma_le
    floor := fun _ _ _ _ => Or.inr (by norm_num) }

/-- … and the default β, κ satisfy the hypotheses of `C08_no_overflow_corollary` -/
example : Mag.SafeConstants (25 / 6) (25 / 6 / 10 ^ 4) (1 / 10000) :=
  C08_no_overflow_corollary (by norm_num) (by norm_num) rfl (by norm_num) (by norm_num)

example : Grd.PredictDomain (25 / 6) [[⟨0, 25, 25 / 3⟩], [⟨1, 25, 25 / 3⟩, ⟨2, 30, 0⟩]] :=
  grd_domain_toPredict grd_example_domain

/-!
## What is NOT bounded below on the domain

* `κ` has no positive floor in the property (`κ ∈ (0, 1e-2]`): `t = κ/c`, `√κ`, and the floor
  `σ' ≥ √κ·σ̂` scale with it.  The corollary assumes `κ ≥ 1e-200`.
* `sigma = 0` together with a tiny `τ > 0`: the floor is then `lo = τ`, and `σ̂² = τ²` is below
  `1e-250` as soon as `τ < 1e-125` (for `τ < 1.5e-162` the double `τ·τ` underflows to 0 and
  a team whose members all have `sigma = 0` gets `σ_i² = 0.0`: `0.0/0.0` in `share` raises
  `ZeroDivisionError`).  Over ℝ the guard `σ_i² > 0` of `C08b` holds; in doubles it needs `τ ≳ 1e-150`.
  The magnitude statements carry `lo` explicitly for this reason.
* inside the Thurstone–Mosteller leaves `φ(x − t)` with `|x − t|` up to 453 + κ/β is as small as
  `e^{-102605}`: it underflows to `0.0` in doubles.  It is only a numerator (`v = φ/Φ` with
  `Φ ≥ 2⁻⁵²` on the dividing branch, `Zc ≥ 1e-5` resp. `2⁻⁵²`), so `v`, `w` round to their limits
  `0`; `w`, `wt`, hence `δ_iq` and `Δ_i`, have no positive lower bound (they may be exactly 0 in the
  code's asymptotic branches as well).  Likewise the values of Φ in the predictions (arguments up to
  462 in absolute value) underflow to 0 for arguments below about −38.5: they are only summed.
* `Ω_i` itself and `s − p_iq` are differences and can be 0 or arbitrarily small: no lower bound is
  claimed for them (nor needed: they are not divisors).
-/

end OS
end
