import OSModel
import OSProofs.SortLemmas
import OSProofs.C02Lemmas
/-!
# C02 — `rate` returns the players position by position

Whatever the ranks are, and however they permute the teams for the computation, the list
returned by `rate` has the nesting of the input, slot `[i][j]` of the output is the update
of slot `[i][j]` of the input (same id), computed from team `i`'s own aggregate, omega and
delta, and the `limit_sigma` clamp compares slot `[i][j]` with the prior of slot `[i][j]`.

Generic over the scalar type (holds for the `Float` instance the driver runs and for ℝ), and
**no hypothesis on the rank comparison `le`** is used anywhere: the sort / unsort round trip
(`OSProofs/SortLemmas.lean`) is an identity on positions for every comparator.
-/
namespace OS
open Scalar
variable {α ρ : Type} [Scalar α]

/-- the ids of a game, in the nesting of the game -/
def idsOf (ts : List (List (Rating α))) : List (List Nat) := ts.map (·.map (·.id))

theorem idsOf_zipWith_updTeam (kappa : α) (teams : List (List (Rating α)))
    (w : List (Nat × α × α)) (hw : w.length = teams.length) :
    idsOf (List.zipWith (updTeam kappa) teams w) = idsOf teams :=
  map_zipWith_left (forall₂_true_of_length_eq hw.symm) fun t x _ => updTeam_ids kappa t x

/-- `_compute` (any of the five models) returns the same nesting with the same id in every
    slot, provided it is given one dense rank per team. -/
theorem compute_ids (K : Kind) (L : Leaves α) (P : Params α)
    (teams : List (List (Rating α))) (dense : List Nat) (hd : dense.length = teams.length) :
    idsOf (compute K L P teams dense) = idsOf teams := by
  rw [compute_eq_zipWith]
  exact idsOf_zipWith_updTeam _ _ _ (by simp [hd])

/-- the tau inflation keeps the nesting and every id in its slot -/
theorem inflate_ids (tau : α) (teams : List (List (Rating α))) :
    idsOf (inflate tau teams) = idsOf teams := by
  simp [idsOf, inflate]

/-- the `limit_sigma` clamp keeps the nesting and every id in its slot (when the result it is
    applied to has the nesting and ids of the original) -/
theorem clampTeams_ids (orig res : List (List (Rating α))) (h : idsOf res = idsOf orig) :
    idsOf (clampTeams orig res) = idsOf orig := by
  rw [← h, clampTeams_eq_zipWith_clampPlayer]
  exact map_zipWith_left (map_eq_map_iff_forall₂.1 h) fun r o hro =>
    map_zipWith_left (map_eq_map_iff_forall₂.1 hro) fun q p _ => clampPlayer_id q p

theorem rateRaw_ids (K : Kind) (L : Leaves α) (P : Params α) (le : ρ → ρ → Bool) (tau : α)
    (teams : List (List (Rating α))) (ranks : Option (List ρ))
    (hr : ∀ r, ranks = some r → r.length = teams.length) :
    idsOf (rateRaw K L P le tau teams ranks) = idsOf teams := by
  have hr' := fun r h => (hr r h).ge
  rw [rateRaw_eq_zipWith _ _ _ _ _ _ _ hr',
    idsOf_zipWith_updTeam _ _ _ (by rw [rateData_length _ _ _ _ _ _ _ hr', inflate_length]),
    inflate_ids]

/-- **Ranked call, explicit form** (no clamp).  Write `u` for the first `_unwind` (teams in
    rank order `u.1`, their original indices `u.2`), `dense` for the dense ranks and `od'` for
    the (omega, delta) pairs `_compute` derives in rank order.  The returned list is, team by
    team and in the ORIGINAL order, the per-player update of the tau-inflated input team with
    the dense rank and (omega, delta) that the second `_unwind` carries back to that team's
    position (by `unwind_by_perm`: position `u.2[k]` receives entry `k`, the one computed for
    the team that came from position `u.2[k]`). -/
theorem C02_team_update_some (K : Kind) (L : Leaves α) (P : Params α) (le : ρ → ρ → Bool)
    (teams : List (List (Rating α))) (r : List ρ) (o : CallOpts α)
    (hlen : r.length = teams.length) (hlim : resolveLimit P o = false) :
    let infl := inflate (resolveTau P o) teams
    let u := unwind le r infl
    let dense := denseRanks (fun a b => !le b a) (sortedKeys le r)
    let od' := omegaDelta K L P (teamAggs u.1 dense)
    rateCore K L P le teams (some r) o
      = ((teamAggs infl (unwind leNat u.2 dense).1).zip (unwind leNat u.2 od').1).map
          (fun x => applyTeam P.kappa x.1 x.2.1 x.2.2) := by
  intro infl u dense od'
  have hdo : dense.length = od'.length := by simp [dense, od', u, infl, hlen]
  rw [rateCore_eq_clamp_rateRaw, hlim, if_neg Bool.false_ne_true,
    rateRaw_eq_zipWith _ _ _ _ _ _ _ (fun _ h => by cases h; exact hlen.ge), applyAll_eq_zipWith]
  congr 1
  exact List.zip_of_prod (unwind_zip_fst _ _ _ _ hdo.le) (unwind_zip_snd _ _ _ _ hdo.ge)

/-- **No player is dropped, duplicated or moved** (no clamp).  There are per-team data — one
    dense rank `ds[i]` and one pair `od[i] = (omega, delta)` per team — such that the returned
    list is, team by team and in the ORIGINAL order, the per-player update (`applyTeam`) of
    the tau-inflated input team `i` with team `i`'s own data: member `j` of returned team `i`
    is computed from member `j` of input team `i`.  Holds for omitted ranks and for any rank
    list of the right length, whatever the rank values and the comparison `le` are. -/
theorem C02_team_update (K : Kind) (L : Leaves α) (P : Params α) (le : ρ → ρ → Bool)
    (teams : List (List (Rating α))) (ranks : Option (List ρ)) (o : CallOpts α)
    (hr : ∀ r, ranks = some r → r.length = teams.length)
    (hlim : resolveLimit P o = false) :
    ∃ (ds : List Nat) (od : List (α × α)),
      ds.length = teams.length ∧ od.length = teams.length ∧
      rateCore K L P le teams ranks o
        = ((teamAggs (inflate (resolveTau P o) teams) ds).zip od).map
            (fun x => applyTeam P.kappa x.1 x.2.1 x.2.2) := by
  have hr' := fun r h => (hr r h).ge
  refine ⟨(rateData K L P le (resolveTau P o) teams ranks).map (·.1),
    (rateData K L P le (resolveTau P o) teams ranks).map (·.2), ?_, ?_, ?_⟩
  · rw [List.length_map, rateData_length _ _ _ _ _ _ _ hr']
  · rw [List.length_map, rateData_length _ _ _ _ _ _ _ hr']
  · rw [rateCore_eq_clamp_rateRaw, hlim, if_neg Bool.false_ne_true,
      rateRaw_eq_zipWith _ _ _ _ _ _ _ hr', applyAll_eq_zipWith,
      ← List.unzip_fst, ← List.unzip_snd, List.zip_unzip]

/-- **The clamp is slot by slot.**  With `limit_sigma` in force the result is the unclamped
    result (same call with `limit_sigma = False`) clamped against the ORIGINAL teams in the
    original order: `clampTeams` compares slot `[i][j]` with the prior of slot `[i][j]`. -/
theorem C02_clamp_slot (K : Kind) (L : Leaves α) (P : Params α) (le : ρ → ρ → Bool)
    (teams : List (List (Rating α))) (ranks : Option (List ρ)) (o : CallOpts α)
    (hlim : resolveLimit P o = true) :
    rateCore K L P le teams ranks o
      = clampTeams teams (rateCore K L P le teams ranks { o with limitSigma := some false }) := by
  rw [rateCore_eq_clamp_rateRaw, hlim, if_pos rfl, rateCore_eq_clamp_rateRaw]
  -- `{ o with limitSigma := some false }` resolves to no clamp and to the tau of `o`
  rfl

/-- **Same nesting, same id in every slot** for `rateCore`: omitted ranks, or any rank list
    with one entry per team — whatever the rank values are and however they permute the teams
    (no hypothesis on `le`), with or without the `limit_sigma` clamp, for every tau. -/
theorem C02_ids_rateCore (K : Kind) (L : Leaves α) (P : Params α) (le : ρ → ρ → Bool)
    (teams : List (List (Rating α))) (ranks : Option (List ρ)) (o : CallOpts α)
    (hr : ∀ r, ranks = some r → r.length = teams.length) :
    idsOf (rateCore K L P le teams ranks o) = idsOf teams := by
  rw [rateCore_eq_clamp_rateRaw]
  split
  · exact clampTeams_ids _ _ (rateRaw_ids K L P le _ teams ranks hr)
  · exact rateRaw_ids K L P le _ teams ranks hr

theorem C02_ids_rateCore_none (K : Kind) (L : Leaves α) (P : Params α) (le : ρ → ρ → Bool)
    (teams : List (List (Rating α))) (o : CallOpts α) :
    idsOf (rateCore K L P le teams none o) = idsOf teams :=
  C02_ids_rateCore K L P le teams none o (fun _ h => nomatch h)

theorem C02_ids_rateCore_some (K : Kind) (L : Leaves α) (P : Params α) (le : ρ → ρ → Bool)
    (teams : List (List (Rating α))) (r : List ρ) (o : CallOpts α)
    (hlen : r.length = teams.length) :
    idsOf (rateCore K L P le teams (some r) o) = idsOf teams :=
  C02_ids_rateCore K L P le teams (some r) o (fun _ h => by cases h; exact hlen)

/-- what validation guarantees about the outcome argument: one rank / score per team -/
def Outcome.fits (oc : Outcome ρ) (n : Nat) : Prop :=
  match oc with
  | .omitted => True
  | .ranks r => r.length = n
  | .scores s => s.length = n

theorem lft_fits {ρ : Type} (neg : ρ → ρ) (oc : Outcome ρ) (n : Nat) (h : oc.fits n) :
    ∀ r, lft_ranksOf neg oc = some r → r.length = n :=
  lft_ranksOf_length neg fun r hr => by rcases hr with rfl | rfl <;> exact h

/-- **C02 for `rate`**: outcome omitted, ranks, or scores (negated into ranks by any `neg`):
    the returned game has the nesting of the input and the same id in every slot. -/
theorem C02_ids_rate (K : Kind) (L : Leaves α) (P : Params α) (le : ρ → ρ → Bool)
    (neg : ρ → ρ) (teams : List (List (Rating α))) (oc : Outcome ρ) (o : CallOpts α)
    (hoc : oc.fits teams.length) :
    idsOf (rate K L P le neg teams oc o) = idsOf teams := by
  rw [rate_eq_rateCore]
  exact C02_ids_rateCore K L P le teams _ o (lft_fits neg oc _ hoc)

theorem C02_team_update_rate (K : Kind) (L : Leaves α) (P : Params α) (le : ρ → ρ → Bool)
    (neg : ρ → ρ) (teams : List (List (Rating α))) (oc : Outcome ρ) (o : CallOpts α)
    (hoc : oc.fits teams.length) (hlim : resolveLimit P o = false) :
    ∃ (ds : List Nat) (od : List (α × α)),
      ds.length = teams.length ∧ od.length = teams.length ∧
      rate K L P le neg teams oc o
        = ((teamAggs (inflate (resolveTau P o) teams) ds).zip od).map
            (fun x => applyTeam P.kappa x.1 x.2.1 x.2.2) := by
  rw [rate_eq_rateCore]
  exact C02_team_update K L P le teams _ o (lft_fits neg oc _ hoc) hlim

/-! ### the hypotheses are satisfiable -/

/-- a three-team game (teams of 1, 2 and 1 players) with three rank values: the ids come
    back in their slots for every model, comparison, rank values and options -/
example (K : Kind) (L : Leaves α) (P : Params α) (le : ρ → ρ → Bool) (neg : ρ → ρ)
    (a b c d : Rating α) (r₁ r₂ r₃ : ρ) (o : CallOpts α) :
    idsOf (rate K L P le neg [[a], [b, c], [d]] (.ranks [r₁, r₂, r₃]) o)
      = [[a.id], [b.id, c.id], [d.id]] :=
  C02_ids_rate K L P le neg [[a], [b, c], [d]] (.ranks [r₁, r₂, r₃]) o rfl

example (s₁ s₂ : ρ) : (Outcome.scores [s₁, s₂]).fits 2 := rfl
example : (Outcome.omitted : Outcome ρ).fits 5 := trivial

end OS
