import OSProofs.RealInst
import OSProofs.GammaRealLemmas
import OSProofs.RateMap
import Mathlib.Tactic.Ring
/-!
# C16 — results do not depend on the unit or origin of the skill scale (pair level)

Scaling every mu, sigma and beta (tau enters only through the inflated sigmas) by `k > 0`
multiplies the Bradley–Terry pair contribution to omega by `k` and leaves the contribution to
delta unchanged (any gamma of degree 0), and so for the Thurstone–Mosteller pair term when `kappa`
is scaled too; shifting both team mus by a constant changes nothing.  The game-level statements
follow by summing pairs.

Every identity used (`√(k²x) = k√x`, `kx/(kc) = x/c`, `k²x/(kc) = k(x/c)`) also holds at `c = 0`, so
no denominator has to be non-zero; the hypotheses `hc` of `C16_btPair_scale` and `C16_predict_pair_scale`
state the property's domain (a positive radicand) and the proofs do not need them.
-/
noncomputable section
namespace OS
open Scalar

def TeamAgg.scale (k : ℝ) (t : TeamAgg ℝ) : TeamAgg ℝ :=
  { mu := k * t.mu, sig2 := k ^ 2 * t.sig2, rank := t.rank,
    players := t.players.map (fun p => { p with mu := k * p.mu, sigma := k * p.sigma }) }

def TeamAgg.shift (d : ℝ) (t : TeamAgg ℝ) : TeamAgg ℝ := { t with mu := t.mu + d }

theorem sq_mul_div_scale (k x c : ℝ) (hk : k ≠ 0) : k ^ 2 * x / (k * c) = k * (x / c) := by
  rw [pow_two, mul_assoc, mul_div_mul_left _ _ hk, mul_div_assoc]

theorem mul_mul_div_scale (k g x c : ℝ) (hk : k ≠ 0) : g * (k * x) / (k * c) = g * x / c := by
  rw [mul_left_comm, mul_div_mul_left _ _ hk]

/-- `c_iq` in rescaled units -/
theorem ciq_scale (k β : ℝ) (hk : 0 < k) (x y : ℝ) :
    Real.sqrt (k ^ 2 * x + k ^ 2 * y + 2 * (k * β * (k * β))) = k * Real.sqrt (x + y + 2 * (β * β)) := by
  rw [← sqrt_scale k _ hk]; congr 1; ring

/-- Bradley–Terry pair term under a change of unit, any scale-invariant gamma callback.  Once
`(k·μ_q - k·μ_i)/(k·c)` is rewritten to `(μ_q - μ_i)/c` the logistic term `p_iq` is literally the old
one; what is left is `k²σ²/(kc) = k(σ²/c)`. -/
theorem btPair_scale (k β : ℝ) (hk : 0 < k) (g : GammaFn ℝ) (hg : GammaScaleInv g) (n : Nat)
    (ti tq : TeamAgg ℝ) :
    btPair (k * β) g n (ti.scale k) (tq.scale k)
      = (k * (btPair β g n ti tq).1, (btPair β g n ti tq).2) := by
  simp only [btPair, TeamAgg.scale, sc_sqrt, sc_ofNat, Nat.cast_ofNat, ciq_scale k β hk, ← mul_sub,
    mul_div_mul_left _ _ hk.ne', sq_mul_div_scale k _ _ hk.ne', mul_mul_div_scale k _ _ _ hk.ne',
    hg k hk]
  exact congrArg₂ Prod.mk (mul_assoc k _ _) rfl

/-! In the Thurstone–Mosteller models `kappa` is used twice: as the (dimensionless) floor of the
variance factor in `applyTeam` and, divided by `c_iq`, as the draw margin of the pair term, where
it carries the unit of the skill scale.  The pair term is unit-free when that `kappa` is rescaled
too; with one `kappa` for both uses these models are unit-free only for `kappa = 0`. -/

theorem tmPair_scale (L : Leaves ℝ) (cmul k β κ : ℝ) (hk : 0 < k) (g : GammaFn ℝ)
    (hg : GammaScaleInv g) (n : Nat) (ti tq : TeamAgg ℝ) :
    tmPair L cmul (k * β) (k * κ) g n (ti.scale k) (tq.scale k)
      = (k * (tmPair L cmul β κ g n ti tq).1, (tmPair L cmul β κ g n ti tq).2) := by
  simp only [tmPair, TeamAgg.scale, sc_sqrt, sc_ofNat, Nat.cast_ofNat, ciq_scale k β hk,
    mul_left_comm cmul k, ← mul_sub, mul_div_mul_left _ _ hk.ne', sq_mul_div_scale k _ _ hk.ne',
    mul_mul_div_scale k _ _ _ hk.ne', hg k hk]
  split_ifs
  · exact congrArg₂ Prod.mk (mul_assoc k _ _) rfl
  · exact congrArg₂ Prod.mk (by rw [neg_mul, neg_mul, mul_assoc, mul_neg]) rfl
  · exact congrArg₂ Prod.mk (mul_assoc k _ _) rfl

/-- `btPair_scale` at the default gamma; `hc` states the property's domain and is not needed -/
theorem C16_btPair_scale (k β : ℝ) (hk : 0 < k) (n : Nat) (ti tq : TeamAgg ℝ)
    (hc : 0 < ti.sig2 + tq.sig2 + 2 * (β * β)) :
    btPair (k * β) .dflt n (ti.scale k) (tq.scale k)
      = (k * (btPair β .dflt n ti tq).1, (btPair β .dflt n ti tq).2) :=
  btPair_scale k β hk .dflt (Gamma_tagged_scaleInv .dflt trivial) n ti tq

/-- Bradley–Terry pair term under a common shift of the origin: unchanged, for any gamma callback that
does not read the team mu (`GammaMuFree`: every tagged member, the team-reading callback, …) -/
theorem C16_btPair_shift (d β : ℝ) (g : GammaFn ℝ) (hg : GammaMuFree g) (n : Nat) (ti tq : TeamAgg ℝ) :
    btPair β g n (ti.shift d) (tq.shift d) = btPair β g n ti tq :=
  btPair_congr β g g n (add_sub_add_right_eq_sub _ _ _) rfl rfl rfl rfl (fun c => hg c n _ _ _ _ _)

/-- the statement for the tagged family (none of its members reads the team mu) -/
theorem C16_btPair_shift_tagged (d β : ℝ) (g : GammaFn ℝ) (hg : g.Tagged) (n : Nat) (ti tq : TeamAgg ℝ) :
    btPair β g n (ti.shift d) (tq.shift d) = btPair β g n ti tq :=
  C16_btPair_shift d β g (Gamma_tagged_shiftInv g hg).2 n ti tq

/-- Thurstone–Mosteller pair term under a common shift of the origin: unchanged (any gamma callback
that does not read the team mu) -/
theorem C16_tmPair_shift (L : Leaves ℝ) (cmul d β κ : ℝ) (g : GammaFn ℝ) (hg : GammaMuFree g) (n : Nat)
    (ti tq : TeamAgg ℝ) :
    tmPair L cmul β κ g n (ti.shift d) (tq.shift d) = tmPair L cmul β κ g n ti tq :=
  tmPair_congr L cmul β κ g g n (add_sub_add_right_eq_sub _ _ _) rfl rfl rfl rfl
    (fun c => hg c n _ _ _ _ _)

theorem C16_tmPair_shift_tagged (L : Leaves ℝ) (cmul d β κ : ℝ) (g : GammaFn ℝ) (hg : g.Tagged) (n : Nat)
    (ti tq : TeamAgg ℝ) :
    tmPair L cmul β κ g n (ti.shift d) (tq.shift d) = tmPair L cmul β κ g n ti tq :=
  C16_tmPair_shift L cmul d β κ g (Gamma_tagged_shiftInv g hg).2 n ti tq

theorem pairDenom_scale (k β : ℝ) (hk : 0 < k) (nb : Nat) (a b : TeamAgg ℝ) :
    pairDenom nb (k * β) (a.scale k) (b.scale k) = k * pairDenom nb β a b := by
  simp only [pairDenom, TeamAgg.scale, sc_sqrt, sc_ofNat]
  rw [← sqrt_scale k _ hk]; congr 1; ring

/-- the argument of every pairwise normal CDF, with a margin `m`, in rescaled units -/
theorem predArg_scale (k β : ℝ) (hk : 0 < k) (nb : Nat) (a b : TeamAgg ℝ) (m : ℝ) :
    ((a.scale k).mu - (b.scale k).mu - k * m) / pairDenom nb (k * β) (a.scale k) (b.scale k)
      = (a.mu - b.mu - m) / pairDenom nb β a b := by
  rw [pairDenom_scale k β hk]
  show (k * a.mu - k * b.mu - k * m) / (k * pairDenom nb β a b) = _
  rw [← mul_sub, ← mul_sub, mul_div_mul_left _ _ hk.ne']

/-- restates `predArg_scale` with the property's domain `hc`, which is not needed: the pairwise prediction
term is invariant under a change of unit … -/
theorem C16_predict_pair_scale (k β : ℝ) (hk : 0 < k) (nb : Nat) (a b : TeamAgg ℝ) (m : ℝ)
    (hc : 0 < (nb : ℝ) * (β * β) + a.sig2 + b.sig2) :
    ((a.scale k).mu - (b.scale k).mu - k * m) / pairDenom nb (k * β) (a.scale k) (b.scale k)
      = (a.mu - b.mu - m) / pairDenom nb β a b :=
  predArg_scale k β hk nb a b m

/-- … and under a shift of the origin -/
theorem C16_predict_pair_shift (d β : ℝ) (nb : Nat) (a b : TeamAgg ℝ) (m : ℝ) :
    ((a.shift d).mu - (b.shift d).mu - m) / pairDenom nb β (a.shift d) (b.shift d)
      = (a.mu - b.mu - m) / pairDenom nb β a b :=
  congrArg (fun x => (x - m) / pairDenom nb β a b) (add_sub_add_right_eq_sub a.mu b.mu d)

theorem C16_drawMargin_scale (k β : ℝ) (N : Nat) : drawMargin (k * β) N = k * drawMargin β N := by
  simp only [drawMargin]; ring

end OS
end
