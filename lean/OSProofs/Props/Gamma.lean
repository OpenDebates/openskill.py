import OSProofs.GammaLemmas
import OSProofs.GammaRealLemmas
import OSProofs.Props.C01
import OSProofs.Props.C06
import OSProofs.Props.C16b
import OSProofs.Props.C04b
import OSProofs.Props.C20b
import Mathlib.Tactic.NormNum
/-!
# Gamma — every gamma callback, not only the tagged family

The library's models take a constructor argument `gamma`, a callback
`gamma(c, k, mu, sigma_squared, team, rank) -> float`.  In the model this is `GammaFn α`: six tagged
members (default `√σ²/c`, constant, `1/k`, `1/(rank+1)`, `σ²/c²`, zero) and `.fn f`, ANY pure
function of the six arguments (`team` = the players of the team with their tau-inflated values).

Every theorem of the development that is stated for `g : GammaFn _` or `P : Params _` therefore
quantifies over arbitrary callbacks.  Most need no hypothesis on gamma at all (C01 refinement, C02,
C03, C05 signs, C07 antisymmetry of Ω, C08 guards, …).  The ones that do need a property of the
callback name it as a predicate:

| property                          | predicate          | used by                              |
|-----------------------------------|--------------------|--------------------------------------|
| `0 ≤ gamma` when `c, σ² ≥ 0`      | `GammaOK`          | C06 (sigma bounds), C06b             |
| pure number (change of unit)      | `GammaScaleInv`    | C16 `…_scale`                        |
| change of origin                  | `GammaShiftInv`    | C16 `…_shift` (game level)           |
| does not read the team `mu`       | `GammaMuFree`      | C16 pair-level `…Pair_shift`         |
| order of the players              | `GammaPermInv`     | C04b `…playerPerm…`                  |
| `id` fields of the players        | `GammaIdInv`       | C20 `…reid…`, `…rebuilt`, `setIds`   |

This file (with `Gamma_tagged_nonneg`, `Gamma_tagged_scaleInv`, `Gamma_tagged_shiftInv` of
`GammaRealLemmas.lean` and `Gamma_tagged_players` of `GammaLemmas.lean`, which C06, C16, C04 and C20
use) proves that the six tagged
members and the team-reading callback `gammaTeamSigma`
(`lambda c,k,mu,s2,team,rank: sqrt(sum(p.sigma*p.sigma for p in team))/c`, gamma tag `"T"` of the
driver) satisfy all of them, spells the predicates out for `.fn f`, and restates the main theorems for
an arbitrary function `f`.
-/
noncomputable section
namespace OS
open Scalar

theorem Gamma_tagged_iff {α : Type} (g : GammaFn α) :
    g.Tagged ↔ g = .dflt ∨ (∃ x, g = .const x) ∨ g = .invK ∨ g = .rankDep ∨ g = .sq ∨ g = .zero := by
  cases g with
  | fn f => exact iff_of_false id nofun
  | const x => exact iff_of_true trivial (.inr (.inl ⟨x, rfl⟩))
  | _ => exact iff_of_true trivial (by simp only [true_or, or_true])

/-- **The team-reading callback** `√(Σ_team σ²)/c` is non-negative for `c ≥ 0`, a pure number,
independent of the origin, of the order of the players and of their ids. -/
theorem Gamma_teamSigma_all :
    GammaOK gammaTeamSigma ∧ GammaScaleInv gammaTeamSigma ∧ GammaShiftInv gammaTeamSigma
      ∧ GammaMuFree gammaTeamSigma ∧ GammaPermInv (gammaTeamSigma : GammaFn ℝ)
      ∧ GammaIdInv (gammaTeamSigma : GammaFn ℝ) :=
  ⟨gam_teamSigma_gammaOK, gam_teamSigma_scaleInv, gam_teamSigma_shiftInv, fun _ _ _ _ _ _ _ => rfl,
    gam_teamSigma_permInv, gam_teamSigma_idInv⟩

/-- **With the team-reading callback `rate` returns exactly what it returns with the default
callback** — for every scalar type, hence bit for bit at `Float`: the `sigma_squared` the library
hands over is the very left-to-right sum the callback recomputes from `team`. -/
theorem Gamma_teamSigma_rate {α ρ : Type} [Scalar α] (K : Kind) (L : Leaves α) (P : Params α)
    (le : ρ → ρ → Bool) (neg : ρ → ρ) (teams : List (List (Rating α))) (oc : Outcome ρ)
    (o : CallOpts α) :
    rate K L { P with gamma := gammaTeamSigma } le neg teams oc o
      = rate K L { P with gamma := .dflt } le neg teams oc o := by
  simp only [rate_eq_rateCore, rateCore, gam_compute_teamSigma K L P]
  rfl

section fn
variable (f : ℝ → ℕ → ℝ → ℝ → List (Rating ℝ) → ℕ → ℝ)

/-- restates `gam_gammaVal_fn` over ℝ -/
theorem Gamma_fn_val (c : ℝ) (k : ℕ) (mu s2 : ℝ) (team : List (Rating ℝ)) (rank : ℕ) :
    gammaVal (.fn f) c k mu s2 team rank = f c k mu s2 team rank :=
  gam_gammaVal_fn f c k mu s2 team rank

theorem Gamma_fn_nonneg :
    GammaOK (.fn f) ↔ ∀ c k mu s2 team r, 0 ≤ c → 0 ≤ s2 → 0 ≤ f c k mu s2 team r :=
  gam_gammaOK_fn f

theorem Gamma_fn_scaleInv :
    GammaScaleInv (.fn f) ↔ ∀ k : ℝ, 0 < k → ∀ c n mu s2 (team : List (Rating ℝ)) r,
      f (k * c) n (k * mu) (k ^ 2 * s2)
          (team.map (fun p => { p with mu := k * p.mu, sigma := k * p.sigma })) r
        = f c n mu s2 team r := Iff.rfl

theorem Gamma_fn_shiftInv :
    GammaShiftInv (.fn f) ↔ ∀ d c n mu s2 (team : List (Rating ℝ)) r,
      f c n (mu + team.length * d) s2 (team.map (fun p => { p with mu := p.mu + d })) r
        = f c n mu s2 team r := Iff.rfl

theorem Gamma_fn_permInv :
    GammaPermInv (.fn f) ↔ ∀ c k mu s2 (team team' : List (Rating ℝ)) r, team.Perm team' →
      f c k mu s2 team r = f c k mu s2 team' r := Iff.rfl

theorem Gamma_fn_idInv :
    GammaIdInv (.fn f) ↔ ∀ (h : ℕ → ℕ) c k mu s2 (team : List (Rating ℝ)) r,
      f c k mu s2 (team.map (fun p => { p with id := h p.id })) r = f c k mu s2 team r := Iff.rfl

end fn

/-- **C01 for any callback.**  Whatever pure function `f` is passed as `gamma`, `_compute` returns
the published posterior in which `γ_i` (resp. `γ_iq`) is `f(c, n, μ_i, σ_i², team_i, rank_i)` —
`team_i` the players of team `i` as `_compute` received them. -/
theorem C01_compute_any_gamma (f : ℝ → ℕ → ℝ → ℝ → List (Rating ℝ) → ℕ → ℝ)
    (K : Kind) (L : Leaves ℝ) (β κ τ : ℝ) (ls : Bool) (teams : List (List (Rating ℝ)))
    (dense : List ℕ) :
    compute K L ⟨β, κ, τ, ls, .fn f⟩ teams dense
        = specCompute K L ⟨β, κ, τ, ls, .fn f⟩ (teamAggs teams dense)
    ∧ ∀ (ts : List (TeamAgg ℝ)) (c : ℝ) (i : Fin ts.length),
        gammaOf (.fn f) ts c i = f c ts.length ts[i].mu ts[i].sig2 ts[i].players ts[i].rank :=
  ⟨C01_compute K L _ teams dense, fun _ _ _ => rfl⟩

/-- restates `C01_omegaDelta` with the gamma callback as a variable of its own -/
theorem C01_omegaDelta_any_gamma (g : GammaFn ℝ) (K : Kind) (L : Leaves ℝ) (β κ τ : ℝ) (ls : Bool)
    (ts : List (TeamAgg ℝ)) :
    omegaDelta K L ⟨β, κ, τ, ls, g⟩ ts = List.ofFn (specOmegaDelta K L ⟨β, κ, τ, ls, g⟩ ts) :=
  C01_omegaDelta K L _ ts

/-- **C06 for any non-negative callback.**  If `f ≥ 0` whenever `c ≥ 0` and `σ² ≥ 0`, then with
`gamma = f`, `0 < κ ≤ 1` (and the leaf facts for the Thurstone–Mosteller models) every slot of
`rate` satisfies the sigma bounds of C06: same id, `σ' ≤ √(σ² + τ²)`, positivity, and `σ' ≤ σ`
under `limit_sigma`. -/
theorem C06_any_gamma {ρ : Type} (f : ℝ → ℕ → ℝ → ℝ → List (Rating ℝ) → ℕ → ℝ)
    (hf : ∀ c k mu s2 team r, 0 ≤ c → 0 ≤ s2 → 0 ≤ f c k mu s2 team r)
    (K : Kind) (L : Leaves ℝ) (β κ τ : ℝ) (ls : Bool)
    (le : ρ → ρ → Bool) (neg : ρ → ρ) (teams : List (List (Rating ℝ))) (oc : Outcome ρ)
    (o : CallOpts ℝ) (hL : K = .TMF ∨ K = .TMP → LeafFacts L) (hk0 : 0 < κ) (hk1 : κ ≤ 1)
    (hr : ∀ r, (oc = .ranks r ∨ oc = .scores r) → r.length = teams.length) :
    List.Forall₂ (List.Forall₂
        (SlotC06 (resolveTau ⟨β, κ, τ, ls, .fn f⟩ o) (resolveLimit ⟨β, κ, τ, ls, .fn f⟩ o)))
      teams (rate K L ⟨β, κ, τ, ls, .fn f⟩ le neg teams oc o) :=
  C06_rate K L ⟨β, κ, τ, ls, .fn f⟩ le neg teams oc o hL hk0 hk1 hf hr

/-- **δ ≥ 0 for any non-negative callback** (all five models) -/
theorem C06_delta_nonneg_any_gamma (f : ℝ → ℕ → ℝ → ℝ → List (Rating ℝ) → ℕ → ℝ)
    (hf : ∀ c k mu s2 team r, 0 ≤ c → 0 ≤ s2 → 0 ≤ f c k mu s2 team r)
    (K : Kind) (L : Leaves ℝ) (β κ τ : ℝ) (ls : Bool)
    (hL : K = .TMF ∨ K = .TMP → LeafFacts L) (hk0 : 0 < κ)
    (ts : List (TeamAgg ℝ)) (hts : ∀ t ∈ ts, 0 ≤ t.sig2) :
    ∀ od ∈ omegaDelta K L ⟨β, κ, τ, ls, .fn f⟩ ts, 0 ≤ od.2 :=
  delta_nonneg K L ⟨β, κ, τ, ls, .fn f⟩ hL hk0 hf ts hts

/-- Restates `C16_rate_scale`.  **C16 (change of unit) for any callback that is a pure number** —
Plackett–Luce and both Bradley–Terry models -/
theorem C16_scale_any_gamma {ρ : Type} (P : Params ℝ) (hg : GammaScaleInv P.gamma)
    (K : Kind) (hK : K = .PL ∨ K = .BTF ∨ K = .BTP) (L : Leaves ℝ) (k : ℝ) (hk : 0 < k)
    (le : ρ → ρ → Bool) (neg : ρ → ρ) (teams : List (List (Rating ℝ))) (oc : Outcome ρ)
    (o : CallOpts ℝ) :
    rate K L (scaleParams k P) le neg (scaleTeams k teams) oc (scaleOpts k o)
      = scaleTeams k (rate K L P le neg teams oc o) :=
  C16_rate_scale K hK L k hk P hg le neg teams oc o

/-- Restates `C16_rate_shift`.  **C16 (change of origin) for any shift-invariant callback** — all five
models, teams of equal size -/
theorem C16_shift_any_gamma {ρ : Type} (P : Params ℝ) (hg : GammaShiftInv P.gamma)
    (K : Kind) (L : Leaves ℝ) (d : ℝ) (m : ℕ)
    (le : ρ → ρ → Bool) (neg : ρ → ρ) (teams : List (List (Rating ℝ)))
    (hm : ∀ t ∈ teams, t.length = m) (oc : Outcome ρ) (o : CallOpts ℝ) :
    rate K L P le neg (shiftTeams d teams) oc o = shiftTeams d (rate K L P le neg teams oc o) :=
  C16_rate_shift K L d m P hg le neg teams hm oc o

/-- Restates `C04b_rate_playerPerm`.  **C04 (players in another order) for any callback that does not
depend on the order of the players** — all five models -/
theorem C04_playerPerm_any_gamma {ρ : Type} (P : Params ℝ) (hg : GammaPermInv P.gamma)
    (K : Kind) (L : Leaves ℝ) (le : ρ → ρ → Bool) (neg : ρ → ρ)
    {teams teams' : List (List (Rating ℝ))} (h : List.Forall₂ List.Perm teams teams')
    (oc : Outcome ρ) (o : CallOpts ℝ) (hoc : oc.fits teams.length) :
    List.Forall₂ List.Perm (rate K L P le neg teams oc o) (rate K L P le neg teams' oc o) :=
  C04b_rate_playerPerm K L P hg le neg h oc o hoc

/-- Restates `C20_rate_reid`.  **C20 (rebuilt players) for any callback that does not read the ids** —
all five models, any scalar type -/
theorem C20_reid_any_gamma {α ρ : Type} [Scalar α] (P : Params α) (hg : GammaIdInv P.gamma)
    (h : ℕ → ℕ) (K : Kind) (L : Leaves α) (le : ρ → ρ → Bool) (neg : ρ → ρ)
    (teams : List (List (Rating α))) (oc : Outcome ρ) (o : CallOpts α) :
    rate K L P le neg (reid h teams) oc o = reid h (rate K L P le neg teams oc o) :=
  C20_rate_reid h K L P hg le neg teams oc o

/-! the hypotheses are satisfiable, and not vacuous -/

/-- all six predicates at once for the default callback and for "T" -/
example : (GammaOK (.dflt : GammaFn ℝ) ∧ GammaScaleInv .dflt ∧ GammaShiftInv .dflt
      ∧ GammaPermInv (.dflt : GammaFn ℝ) ∧ GammaIdInv (.dflt : GammaFn ℝ))
    ∧ (GammaOK gammaTeamSigma ∧ GammaScaleInv gammaTeamSigma ∧ GammaShiftInv gammaTeamSigma
      ∧ GammaPermInv (gammaTeamSigma : GammaFn ℝ) ∧ GammaIdInv (gammaTeamSigma : GammaFn ℝ)) :=
  ⟨⟨gammaOK_dflt, Gamma_tagged_scaleInv _ trivial,
      (Gamma_tagged_shiftInv .dflt trivial).1, (Gamma_tagged_players .dflt trivial).1,
      (Gamma_tagged_players .dflt trivial).2⟩,
    ⟨Gamma_teamSigma_all.1, Gamma_teamSigma_all.2.1, Gamma_teamSigma_all.2.2.1,
      Gamma_teamSigma_all.2.2.2.2.1, Gamma_teamSigma_all.2.2.2.2.2⟩⟩

/-- a genuinely team-reading callback other than "T": "number of players of the team over the number
of teams" — non-negative, a pure number, origin-free, order-free, id-free -/
example : let g : GammaFn ℝ := .fn (fun _ k _ _ team _ => (team.length : ℝ) / k)
    GammaOK g ∧ GammaScaleInv g ∧ GammaShiftInv g ∧ GammaPermInv g ∧ GammaIdInv g := by
  refine ⟨?_, ?_, ?_, ?_, ?_⟩
  · intro c k mu s2 team r _ _
    simp only [gam_gammaVal_fn]; positivity
  · intro k _ c n mu s2 team r
    simp only [gam_gammaVal_fn, List.length_map]
  · intro d c n mu s2 team r
    simp only [gam_gammaVal_fn, List.length_map]
  · intro c k mu s2 team team' r h
    simp only [gam_gammaVal_fn, h.length_eq]
  · intro h c k mu s2 team r
    simp only [gam_gammaVal_fn, List.length_map]

/-- the predicates are real restrictions: a callback that returns `c` is not a pure number -/
example : ¬ GammaScaleInv (.fn (fun c _ _ _ _ _ => c) : GammaFn ℝ) := by
  intro h
  have := h 2 (by norm_num) 1 0 0 0 [] 0
  simp only [gam_gammaVal_fn] at this
  norm_num at this

/-- … one that returns the team `mu` depends on the origin -/
example : ¬ GammaShiftInv (.fn (fun _ _ mu _ _ _ => mu) : GammaFn ℝ) := by
  intro h
  have := h 1 0 0 0 0 [⟨0, 0, 0⟩] 0
  simp only [gam_gammaVal_fn, List.length_cons, List.length_nil] at this
  norm_num at this

/-- … one that returns the first player's sigma depends on the order of the players -/
example : ¬ GammaPermInv (.fn (fun _ _ _ _ team _ => (team.head?.map (·.sigma)).getD 0) : GammaFn ℝ) := by
  intro h
  have := h 0 0 0 0 [⟨0, 0, 1⟩, ⟨1, 0, 2⟩] [⟨1, 0, 2⟩, ⟨0, 0, 1⟩] 0 (List.Perm.swap _ _ _)
  simp only [gam_gammaVal_fn, List.head?_cons, Option.map_some, Option.getD_some] at this
  norm_num at this

/-- … one that returns an id depends on the ids -/
example : ¬ GammaIdInv (.fn (fun _ _ _ _ team _ => ((team.map (·.id)).sum : ℝ)) : GammaFn ℝ) := by
  intro h
  have := h (fun _ => 1) 0 0 0 0 [⟨0, 0, 0⟩] 0
  simp only [gam_gammaVal_fn, List.map_cons, List.map_nil, List.sum_cons, List.sum_nil] at this
  norm_num at this

/-- … and one that returns `-1` is not admissible for C06 -/
example : ¬ GammaOK (.fn (fun _ _ _ _ _ _ => -1) : GammaFn ℝ) := by
  intro h
  have := h 0 0 0 0 [] 0 le_rfl le_rfl
  simp only [gam_gammaVal_fn] at this
  norm_num at this

end OS
end
