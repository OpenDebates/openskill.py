import OSProofs.C08bLemmas
/-!
# C08b — totality: every arithmetic guard of every site of the model holds on the domain

Python raises `ZeroDivisionError` on a zero float denominator, `ValueError` on `math.sqrt` of
a negative number, `OverflowError` when `math.exp` overflows (argument > 709.78) and
`StatisticsError` for `inv_cdf(p)` with `p ∉ (0,1)`.  This file lists, function by function of
`OSModel`, every denominator, every square-root argument, every `exp` argument and the
`inv_cdf` argument that the model evaluates (`Grd.*Sites`), and proves that on the supported
numeric range (`Grd.Domain`, `Grd.PredictDomain`) every denominator is non-zero (indeed
positive), every square-root argument is non-negative, every `exp` argument is at most 453 in
absolute value, and the `inv_cdf` argument lies strictly between 0 and 1.

How to read the site lists.  A `…Sites` predicate has one conjunct per operation of the
corresponding model function that can raise; quantifiers range over a SUPERSET of the
operands the code meets (e.g. all ordered pairs of teams rather than only the opponents or
ladder neighbours; every real `δ` rather than the `δ` actually computed), so nothing depends
on intermediate values being what they should be.  `Gauss.Phi`, `Gauss.phi` are total (the
code's `phi` calls `exp` on a non-positive number only; `Phi` is `erfc`-based), sums and
products cannot raise over ℝ.  Overflow of IEEE doubles inside sums/products is not a
statement about ℝ; it is sampled at the domain corners by the differential test.

Only lower bounds and the bound `|mu| ≤ 20β`, `≤ 16` players enter the proofs; the upper
bounds `sigma ≤ 10β`, `κ ≤ 1`, `≤ 8` teams are part of the documented domain but no guard
over ℝ needs them.
-/
noncomputable section
namespace OS
open Gauss

namespace Grd

/-! ## the domain -/

/-- a valid `rate` call in the supported numeric range: β > 0, 0 < κ ≤ 1, τ ≥ 0, 2..8
non-empty teams of 1..16 players, |mu| ≤ 20β, 0 ≤ sigma ≤ 10β, and for every player
sigma > 0 or τ > 0 -/
structure Domain (β κ τ : ℝ) (teams : List (List (Rating ℝ))) : Prop where
  beta_pos : 0 < β
  kappa_pos : 0 < κ
  kappa_le_one : κ ≤ 1
  tau_nonneg : 0 ≤ τ
  teams_ge : 2 ≤ teams.length
  teams_le : teams.length ≤ 8
  players_ge : ∀ t ∈ teams, 1 ≤ t.length
  players_le : ∀ t ∈ teams, t.length ≤ 16
  mu_bound : ∀ t ∈ teams, ∀ p ∈ t, |p.mu| ≤ 20 * β
  sigma_nonneg : ∀ t ∈ teams, ∀ p ∈ t, 0 ≤ p.sigma
  sigma_le : ∀ t ∈ teams, ∀ p ∈ t, p.sigma ≤ 10 * β
  nondeg : ∀ t ∈ teams, ∀ p ∈ t, 0 < p.sigma ∨ 0 < τ

/-- what `_compute` receives: the tau-inflated ratings (all sigmas strictly positive), in any
order (`rate` sorts the teams by rank first) -/
structure Inflated (β : ℝ) (teams : List (List (Rating ℝ))) : Prop where
  teams_ge : 2 ≤ teams.length
  players_ge : ∀ t ∈ teams, 1 ≤ t.length
  players_le : ∀ t ∈ teams, t.length ≤ 16
  mu_bound : ∀ t ∈ teams, ∀ p ∈ t, |p.mu| ≤ 20 * β
  sigma_pos : ∀ t ∈ teams, ∀ p ∈ t, 0 < p.sigma

/-- a valid `predict_win / predict_draw / predict_rank` call in the supported range (sigma = 0
is allowed: predictions do not inflate) -/
structure PredictDomain (β : ℝ) (teams : List (List (Rating ℝ))) : Prop where
  beta_pos : 0 < β
  teams_ge : 2 ≤ teams.length
  teams_le : teams.length ≤ 8
  players_ge : ∀ t ∈ teams, 1 ≤ t.length
  players_le : ∀ t ∈ teams, t.length ≤ 16
  mu_bound : ∀ t ∈ teams, ∀ p ∈ t, |p.mu| ≤ 20 * β
  sigma_nonneg : ∀ t ∈ teams, ∀ p ∈ t, 0 ≤ p.sigma
  sigma_le : ∀ t ∈ teams, ∀ p ∈ t, p.sigma ≤ 10 * β

/-! ## the sites, function by function -/

/-- an admissible `math.exp` argument (`OverflowError` needs > 709.78; 453 is what is proved) -/
def ExpArgOK (x : ℝ) : Prop := |x| ≤ 453

/-- `inflate`: `sqrt(sigma² + tau²)` — argument non-negative -/
def inflateSites (τ : ℝ) (teams : List (List (Rating ℝ))) : Prop :=
  ∀ t ∈ teams, ∀ p ∈ t, 0 ≤ p.sigma * p.sigma + τ * τ

/-- `gammaVal g c k mu sig2 team rank`: `sqrt(sig2)/c`, `1/k`, `1/(rank+1)`, `sig2/(c*c)`.
An arbitrary callback `.fn f` is code of the caller, not of the library: it contributes no site of the
library (whatever it divides by or takes the root of is the caller's to guard; the library evaluates
it on `c > 0`, `k ≥ 1`, `sig2 ≥ 0` — the hypotheses of `C08_gamma_guards`). -/
def gammaSites (g : GammaFn ℝ) (c : ℝ) (k : ℕ) (sig2 : ℝ) (rank : ℕ) : Prop :=
  match g with
  | .fn _ => True
  | .dflt => 0 ≤ sig2 ∧ c ≠ 0
  | .const _ => True
  | .invK => (k : ℝ) ≠ 0
  | .rankDep => ((rank + 1 : ℕ) : ℝ) ≠ 0
  | .sq => c * c ≠ 0
  | .zero => True

/-- `applyTeam κ t ω δ` (for this `δ`, any `ω`): the division by the team variance, and
`sqrt(max(1 − share·δ, κ))` -/
def applyTeamSites (κ : ℝ) (t : TeamAgg ℝ) (δ : ℝ) : Prop :=
  0 < t.sig2 ∧ ∀ p ∈ t.players, 0 < smax (1 - p.sigma * p.sigma / t.sig2 * δ) κ

/-- `c_iq = sqrt(σ_i² + σ_q² + 2β²)` of `btPair` and `tmPair` -/
def ciq (β : ℝ) (ti tq : TeamAgg ℝ) : ℝ := Real.sqrt (ti.sig2 + tq.sig2 + 2 * (β * β))

/-- `btPair β g n ti tq`: the sqrt argument, the three divisions by `c_iq`, the `exp` argument,
the denominator `1 + exp(..)`, the literal 2, and the gamma callback -/
def btPairSites (β : ℝ) (g : GammaFn ℝ) (n : ℕ) (ti tq : TeamAgg ℝ) : Prop :=
  0 ≤ ti.sig2 + tq.sig2 + 2 * (β * β)
  ∧ 0 < ciq β ti tq
  ∧ ExpArgOK ((tq.mu - ti.mu) / ciq β ti tq)
  ∧ 0 < 1 + Real.exp ((tq.mu - ti.mu) / ciq β ti tq)
  ∧ (2 : ℝ) ≠ 0
  ∧ gammaSites g (ciq β ti tq) n ti.sig2 ti.rank

/-- the divisions inside `vCode`/`wCode` (by `Φ(x−t)`, on the branch `¬ Φ(x−t) < ε`), `vtCode`
(by `b = Φ(t−|x|) − Φ(−t−|x|)`, on the branch `¬ b < 1e-5`) and `wtCode` (by `b`, twice, on the
branch `¬ b < ε`) -/
def leafSites (x t : ℝ) : Prop :=
  (¬ Phi (x - t) < epsF → 0 < Phi (x - t))
  ∧ (¬ Zc x t < tiny5 → 0 < Zc x t)
  ∧ (¬ Zc x t < epsF → 0 < Zc x t)

/-- `tmPair codeLeaves cmul β κ g n ti tq`: the sqrt argument, the divisions by
`c = cmul·c_iq` (of `μ_i − μ_q`, `σ_i²`, `κ`, `γ·σ_i²/c`), the gamma callback, and the leaves at
`(±(μ_i − μ_q)/c, κ/c)` -/
def tmPairSites (cmul β κ : ℝ) (g : GammaFn ℝ) (n : ℕ) (ti tq : TeamAgg ℝ) : Prop :=
  0 ≤ ti.sig2 + tq.sig2 + 2 * (β * β)
  ∧ 0 < cmul * ciq β ti tq
  ∧ gammaSites g (cmul * ciq β ti tq) n ti.sig2 ti.rank
  ∧ leafSites ((ti.mu - tq.mu) / (cmul * ciq β ti tq)) (κ / (cmul * ciq β ti tq))
  ∧ leafSites (-((ti.mu - tq.mu) / (cmul * ciq β ti tq))) (κ / (cmul * ciq β ti tq))

/-- Plackett–Luce (`plC`, `plSumQ`, `plA`, `plOmegaDelta` for every team): the sqrt argument of
`c`; the divisions by `c` and `c*c`; every `exp(μ_i / c)`; every entry of `sum_q` (a
denominator); every entry of `A` (a denominator, after the cast to float); the gamma callback -/
def plSites (β : ℝ) (g : GammaFn ℝ) (ts : List (TeamAgg ℝ)) : Prop :=
  0 ≤ sumL (ts.map (fun t => t.sig2 + β * β))
  ∧ 0 < plC β ts
  ∧ 0 < plC β ts * plC β ts
  ∧ (∀ t ∈ ts, ExpArgOK (t.mu / plC β ts))
  ∧ (∀ s ∈ plSumQ ts (plC β ts), 0 < s)
  ∧ (∀ a ∈ plA ts, 0 < (a : ℝ))
  ∧ (∀ t ∈ ts, gammaSites g (plC β ts) ts.length t.sig2 t.rank)

/-- `omegaDelta K codeLeaves P ts` followed by `applyTeam` for every team: the pair sites for
every ordered pair of teams (a superset of the opponents / ladder neighbours met) or the
Plackett–Luce sites, and the update sites for every team and every `δ` -/
def computeSites (K : Kind) (P : Params ℝ) (ts : List (TeamAgg ℝ)) : Prop :=
  (match K with
    | .PL => plSites P.beta P.gamma ts
    | .BTF => ∀ ti ∈ ts, ∀ tq ∈ ts, btPairSites P.beta P.gamma ts.length ti tq
    | .BTP => ∀ ti ∈ ts, ∀ tq ∈ ts, btPairSites P.beta P.gamma ts.length ti tq
    | .TMF => ∀ ti ∈ ts, ∀ tq ∈ ts, tmPairSites 1 P.beta P.kappa P.gamma ts.length ti tq
    | .TMP => ∀ ti ∈ ts, ∀ tq ∈ ts, tmPairSites 2 P.beta P.kappa P.gamma ts.length ti tq)
  ∧ ∀ t ∈ ts, ∀ δ : ℝ, applyTeamSites P.kappa t δ

/-- `pairDenom nb β a b = sqrt(nb·β² + σ_a² + σ_b²)`, used as a denominator -/
def pairDenomSites (nb : ℕ) (β : ℝ) (a b : TeamAgg ℝ) : Prop :=
  0 ≤ (nb : ℝ) * (β * β) + a.sig2 + b.sig2 ∧ 0 < pairDenom nb β a b

/-- `drawMargin β N`: `sqrt(N)`, `1/N`, the literal 2, and the `inv_cdf` argument in (0,1) -/
def drawMarginSites (N : ℕ) : Prop :=
  0 ≤ (N : ℝ) ∧ (N : ℝ) ≠ 0 ∧ (2 : ℝ) ≠ 0
  ∧ 0 < (1 + 1 / (N : ℝ)) / 2 ∧ (1 + 1 / (N : ℝ)) / 2 < 1

/-- `predictWin`, `predictDraw`, `predictRankProbs`/`predictRank` on `teams`: the pair
denominators with `nb =` number of teams and `nb =` number of players (two-team branch of
`predictWin`) for every ordered pair of team aggregates, the draw margin for the player count,
and the normalising denominators `n(n−1)/2` and `n(n−1)` (resp. 1 when `n ≤ 2`) -/
def predictSites (β : ℝ) (teams : List (List (Rating ℝ))) : Prop :=
  (∀ a ∈ aggs teams, ∀ b ∈ aggs teams,
      pairDenomSites teams.length β a b ∧ pairDenomSites (playerCount teams) β a b)
  ∧ drawMarginSites (playerCount teams)
  ∧ (2 : ℝ) ≠ 0
  ∧ 0 < ((teams.length * (teams.length - 1) : ℕ) : ℝ) / 2
  ∧ 0 < (if teams.length > 2 then ((teams.length * (teams.length - 1) : ℕ) : ℝ) else ((1 : ℕ) : ℝ))

end Grd

open Grd

/-! ## the model functions over ℝ in the vocabulary of the site lists

Each lemma restates one model function (unfolding the `Scalar ℝ` instance only), so that the
denominators, root arguments and `exp` arguments listed above can be read off one expression.
(`plC`, `plSumQ`, `plA`, `inflate`, `smax` occur in the site lists as the model's own terms.) -/

theorem C08_gammaVal_shape (g : GammaFn ℝ) (c : ℝ) (k : ℕ) (mu sig2 : ℝ) (team : List (Rating ℝ))
    (rank : ℕ) :
    gammaVal g c k mu sig2 team rank =
      match g with
      | .fn f => f c k mu sig2 team rank
      | .dflt => Real.sqrt sig2 / c
      | .const x => x
      | .invK => 1 / (k : ℝ)
      | .rankDep => 1 / ((rank + 1 : ℕ) : ℝ)
      | .sq => sig2 / (c * c)
      | .zero => 0 := by
  cases g <;> simp only [gammaVal, sc_sqrt, sc_ofNat, Nat.cast_one, Nat.cast_zero]

theorem C08_btPair_shape (β : ℝ) (g : GammaFn ℝ) (n : ℕ) (ti tq : TeamAgg ℝ) :
    btPair β g n ti tq =
      (ti.sig2 / ciq β ti tq *
          ((if ti.rank < tq.rank then (1 : ℝ) else if tq.rank = ti.rank then 1 / 2 else 0)
            - 1 / (1 + Real.exp ((tq.mu - ti.mu) / ciq β ti tq))),
       gammaVal g (ciq β ti tq) n ti.mu ti.sig2 ti.players ti.rank * (ti.sig2 / ciq β ti tq) / ciq β ti tq
          * (1 / (1 + Real.exp ((tq.mu - ti.mu) / ciq β ti tq)))
          * (1 - 1 / (1 + Real.exp ((tq.mu - ti.mu) / ciq β ti tq)))) := by
  simp only [btPair, ciq, sc_sqrt, sc_exp, sc_ofNat, Nat.cast_ofNat, Nat.cast_one, Nat.cast_zero]

theorem C08_tmPair_shape (L : Leaves ℝ) (cmul β κ : ℝ) (g : GammaFn ℝ) (n : ℕ) (ti tq : TeamAgg ℝ) :
    tmPair L cmul β κ g n ti tq =
      (if ti.rank < tq.rank then
        (ti.sig2 / (cmul * ciq β ti tq)
            * L.v ((ti.mu - tq.mu) / (cmul * ciq β ti tq)) (κ / (cmul * ciq β ti tq)),
         gammaVal g (cmul * ciq β ti tq) n ti.mu ti.sig2 ti.players ti.rank * (ti.sig2 / (cmul * ciq β ti tq))
            / (cmul * ciq β ti tq)
            * L.w ((ti.mu - tq.mu) / (cmul * ciq β ti tq)) (κ / (cmul * ciq β ti tq)))
      else if tq.rank < ti.rank then
        (-(ti.sig2 / (cmul * ciq β ti tq))
            * L.v (-((ti.mu - tq.mu) / (cmul * ciq β ti tq))) (κ / (cmul * ciq β ti tq)),
         gammaVal g (cmul * ciq β ti tq) n ti.mu ti.sig2 ti.players ti.rank * (ti.sig2 / (cmul * ciq β ti tq))
            / (cmul * ciq β ti tq)
            * L.w (-((ti.mu - tq.mu) / (cmul * ciq β ti tq))) (κ / (cmul * ciq β ti tq)))
      else
        (ti.sig2 / (cmul * ciq β ti tq)
            * L.vt ((ti.mu - tq.mu) / (cmul * ciq β ti tq)) (κ / (cmul * ciq β ti tq)),
         gammaVal g (cmul * ciq β ti tq) n ti.mu ti.sig2 ti.players ti.rank * (ti.sig2 / (cmul * ciq β ti tq))
            / (cmul * ciq β ti tq)
            * L.wt ((ti.mu - tq.mu) / (cmul * ciq β ti tq)) (κ / (cmul * ciq β ti tq)))) := by
  simp only [tmPair, ciq, sc_sqrt, sc_ofNat, Nat.cast_ofNat]

theorem C08_drawMargin_shape (β : ℝ) (N : ℕ) :
    drawMargin β N = Real.sqrt (N : ℝ) * β * Gauss.PhiInv ((1 + 1 / (N : ℝ)) / 2) := by
  simp only [drawMargin, sc_sqrt, sc_ofNat, sc_PhiInv, Nat.cast_ofNat, Nat.cast_one]

theorem C08_applyTeam_shape (κ : ℝ) (t : TeamAgg ℝ) (ω δ : ℝ) :
    applyTeam κ t ω δ = t.players.map (fun p =>
      { p with mu := p.mu + p.sigma * p.sigma / t.sig2 * ω,
               sigma := p.sigma * Real.sqrt (smax (1 - p.sigma * p.sigma / t.sig2 * δ) κ) }) := by
  simp only [applyTeam, sc_sqrt, sc_one]

theorem C08_pairDenom_shape (nb : ℕ) (β : ℝ) (a b : TeamAgg ℝ) :
    pairDenom nb β a b = Real.sqrt ((nb : ℝ) * (β * β) + a.sig2 + b.sig2) := by
  simp only [pairDenom, sc_sqrt, sc_ofNat]


/-! ## site lemmas -/

/-- every divisor inside the four correction functions is positive on the branch that divides -/
theorem C08_leaf_divisors_pos (x t : ℝ) : leafSites x t :=
  ⟨fun h => epsF_pos.trans_le (not_lt.1 h), fun h => tiny5_pos.trans_le (not_lt.1 h),
    fun h => epsF_pos.trans_le (not_lt.1 h)⟩

/-- the leaf divisors are literally the ones of the code: on the dividing branch `vCode`, `wCode`
are quotients by `Φ(x−t)`, `vtCode`, `wtCode` quotients by `Zc x t` -/
theorem C08_leaf_divisors_are (x t : ℝ) :
    (¬ Phi (x - t) < epsF → vCode x t = phi (x - t) / Phi (x - t))
    ∧ (¬ Phi (x - t) < epsF →
        wCode x t = phi (x - t) / Phi (x - t) * (phi (x - t) / Phi (x - t) + (x - t)))
    ∧ (¬ Zc x t < tiny5 → x < 0 → vtCode x t = -(phi (-t - |x|) - phi (t - |x|)) / Zc x t)
    ∧ (¬ Zc x t < tiny5 → ¬ x < 0 → vtCode x t = (phi (-t - |x|) - phi (t - |x|)) / Zc x t)
    ∧ (¬ Zc x t < epsF →
        wtCode x t = ((t - |x|) * phi (t - |x|) + (t + |x|) * phi (-t - |x|)) / Zc x t
          + (phi (-t - |x|) - phi (t - |x|)) / Zc x t
            * ((phi (-t - |x|) - phi (t - |x|)) / Zc x t)) :=
  ⟨C17_v_exact_branch, C17_w_exact_branch, vtCode_exact_neg, vtCode_exact_nonneg, wtCode_exact⟩

/-- the gamma callbacks: with `c > 0`, at least one team and a non-negative team variance no
callback divides by zero or takes the root of a negative number -/
theorem C08_gamma_guards (g : GammaFn ℝ) (c : ℝ) (k : ℕ) (sig2 : ℝ) (rank : ℕ)
    (hc : 0 < c) (hk : 1 ≤ k) (hs : 0 ≤ sig2) : gammaSites g c k sig2 rank := by
  cases g with
  | fn f => trivial
  | dflt => exact ⟨hs, hc.ne'⟩
  | const x => trivial
  | invK =>
    have : (0 : ℝ) < k := by exact_mod_cast hk
    exact this.ne'
  | rankDep =>
    have : (0 : ℝ) < ((rank + 1 : ℕ) : ℝ) := by exact_mod_cast Nat.succ_pos rank
    exact this.ne'
  | sq => exact (mul_pos hc hc).ne'
  | zero => trivial

/-- the per-player update: the team variance is positive and the root is taken of
`max(·, κ) > 0`, whatever `δ` is -/
theorem C08_applyTeam_guards (κ : ℝ) (hκ : 0 < κ) (t : TeamAgg ℝ) (ht : 0 < t.sig2) (δ : ℝ) :
    applyTeamSites κ t δ :=
  ⟨ht, fun _ _ => C08_sqrt_arg_nonneg _ κ hκ⟩

/-- `inflate`: the root argument is non-negative and every inflated sigma is strictly positive;
the inflated game is what `_compute` is specified for -/
theorem C08_inflate_guards {β κ τ : ℝ} {teams : List (List (Rating ℝ))}
    (D : Domain β κ τ teams) : inflateSites τ teams ∧ Inflated β (inflate τ teams) :=
  ⟨fun _ _ _ _ => add_nonneg (mul_self_nonneg _) (mul_self_nonneg _),
    ⟨(inflate_length τ teams).symm ▸ D.teams_ge, inflate_forall_length (Q := (1 ≤ ·)) D.players_ge,
      inflate_forall_length (Q := (· ≤ 16)) D.players_le, inflate_forall_players D.mu_bound,
      inflate_forall_players fun t ht p hp => C08_inflate_pos _ _
        ((D.nondeg t ht p hp).imp (fun h => h.ne') (fun h => h.ne'))⟩⟩

/-- sorting the teams by rank (`_unwind`) keeps the game in the domain of `_compute` -/
theorem C08_unwind_inflated {ρ : Type} {β : ℝ} {teams : List (List (Rating ℝ))}
    (I : Inflated β teams) (le : ρ → ρ → Bool) (r : List ρ) (hr : r.length = teams.length) :
    Inflated β (unwind le r teams).1 :=
  ⟨(unwind_lengths le hr).1.symm ▸ I.teams_ge,
    fun t ht => I.players_ge t (mem_unwind_fst le r teams ht),
    fun t ht => I.players_le t (mem_unwind_fst le r teams ht),
    fun t ht => I.mu_bound t (mem_unwind_fst le r teams ht),
    fun t ht => I.sigma_pos t (mem_unwind_fst le r teams ht)⟩

/-- what the domain gives for one team aggregate: |θ| ≤ 320β and σ² > 0 -/
theorem C08_teamAgg_facts {β : ℝ} (hβ : 0 < β) {teams : List (List (Rating ℝ))}
    (I : Inflated β teams) (dense : List Nat) {t : TeamAgg ℝ} (ht : t ∈ teamAggs teams dense) :
    |t.mu| ≤ 320 * β ∧ 0 < t.sig2 := by
  obtain ⟨tm, hm, rk, rfl⟩ := mem_teamAggs ht
  obtain ⟨p, hp⟩ := List.exists_mem_of_length_pos (I.players_ge tm hm)
  exact ⟨grd_team_mu_bound tm rk β hβ (I.players_le tm hm) (I.mu_bound tm hm),
    C08_team_var_pos tm rk ⟨p, hp, (I.sigma_pos tm hm p hp).ne'⟩⟩

theorem C08_teamAggs_length {β : ℝ} {teams : List (List (Rating ℝ))} (I : Inflated β teams)
    (dense : List Nat) (hd : dense.length = teams.length) : 2 ≤ (teamAggs teams dense).length :=
  (teamAggs_length_of_eq hd).symm ▸ I.teams_ge

/-! ## the summary theorems, one per operation -/

/-- **Bradley–Terry (full and partial pairing).**  For every ordered pair of teams of a game in
the domain: the argument of the root in `c_iq` is non-negative, `c_iq > 0` (so the three
divisions by it are safe), the `exp` argument `(θ_q − θ_i)/c_iq` is at most 453 in absolute
value (|θ| ≤ 320β, `c_iq ≥ √2·β`), the denominator `1 + exp(..)` is positive, and the gamma
callback (any of the six) evaluates safely. -/
theorem C08_rate_guards_BT (β : ℝ) (g : GammaFn ℝ) (hβ : 0 < β)
    (teams : List (List (Rating ℝ))) (I : Inflated β teams)
    (dense : List Nat) (hd : dense.length = teams.length) :
    ∀ ti ∈ teamAggs teams dense, ∀ tq ∈ teamAggs teams dense,
      btPairSites β g (teamAggs teams dense).length ti tq := by
  intro ti hi tq hq
  obtain ⟨hmi, hsi⟩ := C08_teamAgg_facts hβ I dense hi
  obtain ⟨hmq, hsq⟩ := C08_teamAgg_facts hβ I dense hq
  obtain ⟨hc, hc2⟩ := C08_ciq_pos β ti.sig2 tq.sig2 hβ hsi.le hsq.le
  have hn := C08_teamAggs_length I dense hd
  have hd' : |tq.mu - ti.mu| ≤ 640 * β := (abs_sub_le_add hmq hmi).trans_eq (by ring)
  refine ⟨by positivity, hc, C08_bt_exp_arg_bound β _ _ hβ hd' hc2, by positivity, two_ne_zero,
    C08_gamma_guards g _ _ _ _ hc (by omega) hsi.le⟩

/-- **Thurstone–Mosteller (full pairing `cmul = 1`, partial pairing `cmul = 2`).**  For every
ordered pair of teams of a game in the domain: the root argument is non-negative,
`c = cmul·c_iq > 0` (all four divisions by it are safe), the gamma callback evaluates safely, and
inside `v, w, vt, wt` (at both `+` and `−` the normalised skill difference) every division is by
a positive number. -/
theorem C08_rate_guards_TM (cmul β κ : ℝ) (g : GammaFn ℝ) (hβ : 0 < β) (hcm : 0 < cmul)
    (teams : List (List (Rating ℝ))) (I : Inflated β teams)
    (dense : List Nat) (hd : dense.length = teams.length) :
    ∀ ti ∈ teamAggs teams dense, ∀ tq ∈ teamAggs teams dense,
      tmPairSites cmul β κ g (teamAggs teams dense).length ti tq := by
  intro ti hi tq hq
  obtain ⟨_, hsi⟩ := C08_teamAgg_facts hβ I dense hi
  obtain ⟨_, hsq⟩ := C08_teamAgg_facts hβ I dense hq
  obtain ⟨hc, _⟩ := C08_ciq_pos β ti.sig2 tq.sig2 hβ hsi.le hsq.le
  have hn := C08_teamAggs_length I dense hd
  have hc' : 0 < cmul * ciq β ti tq := mul_pos hcm hc
  exact ⟨by positivity, hc', C08_gamma_guards g _ _ _ _ hc' (by omega) hsi.le,
    C08_leaf_divisors_pos _ _, C08_leaf_divisors_pos _ _⟩

/-- **Plackett–Luce.**  For a game in the domain: the root argument of `c` is non-negative,
`c ≥ √2·β > 0` and `c·c > 0`; every `exp` argument `θ_i/c` is at most 453 (indeed 227) in
absolute value; every entry of `sum_q` is positive (the sum over `rank_i ≥ rank_q` contains the
term of `q` itself); every entry of `A` is at least 1 (team `q` is tied with itself); the gamma
callback evaluates safely. -/
theorem C08_rate_guards_PL (β : ℝ) (g : GammaFn ℝ) (hβ : 0 < β)
    (teams : List (List (Rating ℝ))) (I : Inflated β teams)
    (dense : List Nat) (hd : dense.length = teams.length) :
    plSites β g (teamAggs teams dense) := by
  have hn := C08_teamAggs_length I dense hd
  have hs : ∀ t ∈ teamAggs teams dense, 0 ≤ t.sig2 :=
    fun t ht => (C08_teamAgg_facts hβ I dense ht).2.le
  have hc2 := sqrt_two_mul_le_plC β hβ _ hn hs
  have hc := pos_of_sqrt_two_mul_le hβ hc2
  exact ⟨sumL_map_nonneg fun t ht => add_nonneg (hs t ht) (mul_self_nonneg β), hc, mul_pos hc hc,
    fun t ht => C08_bt_exp_arg_bound β _ _ hβ ((C08_teamAgg_facts hβ I dense ht).1.trans
      (mul_le_mul_of_nonneg_right (by norm_num) hβ.le)) hc2,
    List.forall_mem_map.2 fun tq htq => (Real.exp_pos _).trans_le (pl_term_le_sumQ _ _ htq le_rfl),
    List.forall_mem_map.2 fun ti hti => Nat.cast_pos.2 (fl1_plCnt_pos hti),
    fun t ht => C08_gamma_guards g _ _ _ _ hc (by omega) (hs t ht)⟩

/-! ### the discarded computations of the full-pairing models

`BradleyTerryFull._compute` and `ThurstoneMostellerFull._compute` also evaluate
`c = self._c(team_ratings)`, `sum_q = self._sum_q(team_ratings, c)` and `a = self._a(team_ratings)`
and then never use the results (text inherited from the Plackett–Luce file).  The model of these two
update rules omits the dead computation, but Python still executes it — `math.exp(team.mu / c)` can
raise `OverflowError` — so its guards belong to C08.  They are exactly the Plackett–Luce sites, which
hold for the same team list on the same domain. -/

/-- the sites of the discarded `_c` / `_sum_q` / `_a` calls of the two full-pairing models are safe on
the domain: in particular `|θ_i / c| ≤ 453 < 709.78`, so the dead `math.exp` cannot overflow -/
theorem C08_full_models_discarded_sites (β : ℝ) (g : GammaFn ℝ) (hβ : 0 < β)
    (teams : List (List (Rating ℝ))) (I : Inflated β teams)
    (dense : List Nat) (hd : dense.length = teams.length) :
    plSites β g (teamAggs teams dense) :=
  C08_rate_guards_PL β g hβ teams I dense hd

/-- **`_compute` of any of the five models**, on the inflated game: every denominator that
`omegaDelta` and `applyTeam` evaluate is positive, every square-root argument is non-negative,
every `exp` argument is at most 453 in absolute value. -/
theorem C08_compute_guards (K : Kind) (P : Params ℝ) (hβ : 0 < P.beta) (hκ : 0 < P.kappa)
    (teams : List (List (Rating ℝ))) (I : Inflated P.beta teams)
    (dense : List Nat) (hd : dense.length = teams.length) :
    computeSites K P (teamAggs teams dense) := by
  refine ⟨?_, fun t ht δ =>
    C08_applyTeam_guards _ hκ t (C08_teamAgg_facts hβ I dense ht).2 δ⟩
  cases K with
  | PL => exact C08_rate_guards_PL _ _ hβ teams I dense hd
  | BTF => exact C08_rate_guards_BT _ _ hβ teams I dense hd
  | BTP => exact C08_rate_guards_BT _ _ hβ teams I dense hd
  | TMF => exact C08_rate_guards_TM 1 _ _ _ hβ one_pos teams I dense hd
  | TMP => exact C08_rate_guards_TM 2 _ _ _ hβ two_pos teams I dense hd

/-- **`rate`** (`rateCore`, any model, any per-call tau / limit_sigma, ranks omitted or given —
scores reach `rateCore` as ranks): for a game in the domain, with `τ` the resolved tau,
the inflation sites hold, and the sites of `_compute` hold for exactly the arguments `rateCore`
passes to `compute`: the inflated teams with ranks `0..n−1`, resp. the inflated teams sorted
by rank with their dense ranks.  (`clampTeams`, `unwind`, `denseRanks` only compare.) -/
theorem C08_rate_guards {ρ : Type} (K : Kind) (P : Params ℝ) (le : ρ → ρ → Bool)
    (teams : List (List (Rating ℝ))) (o : CallOpts ℝ)
    (D : Domain P.beta P.kappa (resolveTau P o) teams) :
    inflateSites (resolveTau P o) teams
    ∧ computeSites K P (teamAggs (inflate (resolveTau P o) teams)
        (List.range (inflate (resolveTau P o) teams).length))
    ∧ ∀ r : List ρ, r.length = teams.length →
        computeSites K P (teamAggs (unwind le r (inflate (resolveTau P o) teams)).1
          (denseRanks (fun a b => !le b a) (sortedKeys le r))) := by
  obtain ⟨h1, I⟩ := C08_inflate_guards D
  refine ⟨h1, C08_compute_guards K P D.beta_pos D.kappa_pos _ I _ List.length_range, ?_⟩
  intro r hr
  have hr' := hr.trans (inflate_length (resolveTau P o) teams).symm
  exact C08_compute_guards K P D.beta_pos D.kappa_pos _ (C08_unwind_inflated I le r hr') _
    (unwind_lengths le hr').2

/-- **`predict_win`, `predict_draw`, `predict_rank`.**  For a game in the prediction domain:
every pair denominator `sqrt(nb·β² + σ_a² + σ_b²)` (with `nb` the number of teams, and the
number of players in the two-team branch of `predict_win`) has a non-negative root argument and
is positive; in the draw margin `sqrt(N)` has `N ≥ 0`, `1/N` has `N ≠ 0` and the `inv_cdf`
argument `(1 + 1/N)/2` lies strictly between 0 and 1 (`N ≥ 2` players); the normalising
denominators `n(n−1)/2` and `n(n−1)` (1 for `n = 2`) are positive. -/
theorem C08_predict_guards (β : ℝ) (teams : List (List (Rating ℝ)))
    (D : PredictDomain β teams) : predictSites β teams := by
  have hβ := D.beta_pos
  have hn := D.teams_ge
  have hN : 2 ≤ playerCount teams := le_trans hn (length_le_playerCount teams D.players_ge)
  have hnnR : (0 : ℝ) < ((teams.length * (teams.length - 1) : ℕ) : ℝ) :=
    Nat.cast_pos.mpr (Nat.lt_of_lt_of_le two_pos (mul_pred_mono hn))
  have hpd : ∀ nb : ℕ, 2 ≤ nb → ∀ a ∈ aggs teams, ∀ b ∈ aggs teams, pairDenomSites nb β a b := by
    intro nb hnb a ha b hb
    obtain ⟨ta, _, rfl⟩ := mem_aggs ha
    obtain ⟨tb, _, rfl⟩ := mem_aggs hb
    have h3 : (0 : ℝ) < nb := Nat.cast_pos.mpr (two_pos.trans_le hnb)
    have h4 : 0 < (nb : ℝ) * (β * β) + (teamAgg ta 0).sig2 + (teamAgg tb 0).sig2 :=
      add_pos_of_pos_of_nonneg (add_pos_of_pos_of_nonneg (mul_pos h3 (mul_pos hβ hβ))
        (teamAgg_sig2_nonneg ta 0)) (teamAgg_sig2_nonneg tb 0)
    exact ⟨h4.le, (C08_pairDenom_shape nb β _ _).symm ▸ Real.sqrt_pos.mpr h4⟩
  have h3 : (0 : ℝ) < playerCount teams := Nat.cast_pos.mpr (two_pos.trans_le hN)
  obtain ⟨h1, h2⟩ := C08_invcdf_arg (playerCount teams) hN
  refine ⟨fun a ha b hb => ⟨hpd _ hn a ha b hb, hpd _ hN a ha b hb⟩,
    ⟨h3.le, h3.ne', two_ne_zero, lt_trans (by norm_num) h1, h2⟩, two_ne_zero, half_pos hnnR, ?_⟩
  split_ifs
  · exact hnnR
  · exact Nat.cast_pos.mpr one_pos

/-! ## the domain is inhabited -/

theorem grd_domain_toPredict {β κ τ : ℝ} {teams : List (List (Rating ℝ))} (D : Domain β κ τ teams) :
    PredictDomain β teams :=
  ⟨D.beta_pos, D.teams_ge, D.teams_le, D.players_ge, D.players_le, D.mu_bound, D.sigma_nonneg,
    D.sigma_le⟩

theorem grd_example_domain : Domain (25 / 6) (1 / 10000) (1 / 12)
    [[⟨0, 25, 25 / 3⟩], [⟨1, 25, 25 / 3⟩, ⟨2, 30, 0⟩]] where
  beta_pos := by norm_num
  kappa_pos := by norm_num
  kappa_le_one := by norm_num
  tau_nonneg := by norm_num
  teams_ge := le_refl 2
  teams_le := by decide
  players_ge := by simp
  players_le := by simp
  mu_bound := forall_players_one_two (by norm_num) (by norm_num) (by norm_num)
  sigma_nonneg := forall_players_one_two (by norm_num) (by norm_num) (by norm_num)
  sigma_le := forall_players_one_two (by norm_num) (by norm_num) (by norm_num)
  nondeg := fun _ _ _ _ => Or.inr (by norm_num)

/-- the default configuration (β = 25/6, κ = 1/10000, τ = 1/12) with a two-team game of default
ratings (mu = 25, sigma = 25/3) lies in the domain -/
example : Domain (25 / 6) (1 / 10000) (1 / 12)
    [[⟨0, 25, 25 / 3⟩], [⟨1, 25, 25 / 3⟩, ⟨2, 30, 0⟩]] := grd_example_domain

example : PredictDomain (25 / 6)
    [[⟨0, 25, 25 / 3⟩], [⟨1, 25, 25 / 3⟩, ⟨2, 30, 0⟩]] := grd_domain_toPredict grd_example_domain

end OS
end
