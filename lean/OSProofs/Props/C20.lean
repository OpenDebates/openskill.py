import OSModel
/-!
# C20 — ratings can be built, stored and restored without changing any later result

Constructor lemmas (exact values, defaults only for omitted arguments, the id is whatever fresh id
is supplied), `deepcopy`, and the re-identification `reid` in whose terms `Props/C20b.lean` states that
`rate` / `predict_*` read a rating only through its (mu, sigma): rebuilding a player from stored
(mu, sigma) — a fresh object with another id — changes no number.  (Generic over the scalar type:
holds bit-for-bit at `Float`.)
-/
namespace OS
variable {α : Type} [Scalar α]

omit [Scalar α] in
/-- `model.rating(mu, sigma)` holds exactly the given values — zero and negatives included -/
theorem C20_rating_given (dm ds : α) (i : Nat) (m s : α) :
    (mkRating dm ds i (some m) (some s)).mu = m ∧ (mkRating dm ds i (some m) (some s)).sigma = s ∧
    (mkRating dm ds i (some m) (some s)).id = i := ⟨rfl, rfl, rfl⟩

omit [Scalar α] in
/-- model defaults only where an argument is omitted -/
theorem C20_rating_defaults (dm ds : α) (i : Nat) (m s : α) :
    (mkRating dm ds i none none).mu = dm ∧ (mkRating dm ds i none none).sigma = ds ∧
    (mkRating dm ds i (some m) none).mu = m ∧ (mkRating dm ds i (some m) none).sigma = ds ∧
    (mkRating dm ds i none (some s)).mu = dm ∧ (mkRating dm ds i none (some s)).sigma = s :=
  ⟨rfl, rfl, rfl, rfl, rfl, rfl⟩

omit [Scalar α] in
/-- `create_rating([mu, sigma])` holds exactly the given values -/
theorem C20_create_rating (i : Nat) (m s : α) :
    (createRating i m s).mu = m ∧ (createRating i m s).sigma = s ∧ (createRating i m s).id = i :=
  ⟨rfl, rfl, rfl⟩

omit [Scalar α] in
/-- `copy.deepcopy` preserves mu, sigma and id -/
theorem C20_deepcopy (r : Rating α) : deepcopyRating r = r := rfl

/-- re-identification: replace every player's object by another one with the same (mu, sigma) -/
def reid (f : Nat → Nat) (teams : List (List (Rating α))) : List (List (Rating α)) :=
  teams.map (·.map (fun p => { p with id := f p.id }))

/-- the numbers of a team list, without identities -/
def valuesOf (teams : List (List (Rating α))) : List (List (α × α)) :=
  teams.map (·.map (fun p => (p.mu, p.sigma)))

theorem teamAgg_reid (f : Nat → Nat) (t : List (Rating α)) (rk : Nat) :
    (teamAgg (t.map (fun p => { p with id := f p.id })) rk).mu = (teamAgg t rk).mu ∧
    (teamAgg (t.map (fun p => { p with id := f p.id })) rk).sig2 = (teamAgg t rk).sig2 := by
  simp only [teamAgg, List.map_map, Function.comp_def, and_self]

end OS
