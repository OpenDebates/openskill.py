import OSModel
import OSProofs.Sched
/-!
# C14 — stateless calls: results independent of call history, identity and interleaving

(a)/(c) call histories: a machine whose state is the model's attribute record and whose
operations are `rate` / `predict_*` calls; no step changes the state, hence the output of a
call after any history is its output from the initial state.
(d) interleavings: `Sched.shuffle_serial` instantiated with the footprint of a call
(reads the model attributes, reads and writes only the rating objects passed).
The tie to the code is the footprint itself, which the C14 correspondence observes on every
run (attribute-write tracing on a subclass, `__dict__` snapshots); with defect F2 unrepaired
the footprint contains a write to the shared location `limit_sigma` and `Indep` fails.
-/
namespace OS
variable {α ρ : Type} [Scalar α]

/-- one API call on a model (the rating values passed are part of the call) -/
inductive Call (α ρ : Type) where
  | rate (K : Kind) (teams : List (List (Rating α))) (oc : Outcome ρ) (o : CallOpts α)
  | predictWin (teams : List (List (Rating α)))
  | predictDraw (teams : List (List (Rating α)))
  | predictRank (teams : List (List (Rating α)))

inductive Out (α : Type) where
  | ratings (r : List (List (Rating α)))
  | probs (p : List α)
  | prob (p : α)
  | ranked (p : List (Nat × α))

/-- the model object: its attributes are the state -/
def step (L : Leaves α) (le : ρ → ρ → Bool) (neg : ρ → ρ) (P : Params α) (c : Call α ρ) :
    Params α × Out α :=
  match c with
  | .rate K teams oc o => (P, .ratings (rate K L P le neg teams oc o))
  | .predictWin teams => (P, .probs (predictWin P.beta teams))
  | .predictDraw teams => (P, .prob (predictDraw P.beta teams))
  | .predictRank teams => (P, .ranked (predictRank P.beta teams))

/-- (a) no rate or predict call changes any attribute of the model object -/
theorem C14_attrs_unchanged (L : Leaves α) (le : ρ → ρ → Bool) (neg : ρ → ρ) (P : Params α)
    (c : Call α ρ) : (step L le neg P c).1 = P := by
  cases c <;> rfl

def runHistory (L : Leaves α) (le : ρ → ρ → Bool) (neg : ρ → ρ) (P : Params α)
    (h : List (Call α ρ)) : Params α :=
  h.foldl (fun s c => (step L le neg s c).1) P

theorem runHistory_eq (L : Leaves α) (le : ρ → ρ → Bool) (neg : ρ → ρ) (P : Params α)
    (h : List (Call α ρ)) : runHistory L le neg P h = P := by
  induction h generalizing P with
  | nil => rfl
  | cons c cs ih =>
    rw [runHistory, List.foldl_cons, C14_attrs_unchanged]; exact ih P

/-- (c) after ANY history of calls (arbitrary per-call tau / limit_sigma), a call returns what it
returns on the freshly constructed model -/
theorem C14_history_irrelevant (L : Leaves α) (le : ρ → ρ → Bool) (neg : ρ → ρ) (P : Params α)
    (h : List (Call α ρ)) (c : Call α ρ) :
    (step L le neg (runHistory L le neg P h) c).2 = (step L le neg P c).2 := by
  rw [runHistory_eq]

end OS

namespace Sched

/-- the footprint of a `rate` / `predict_*` call: reads the model attributes `M` and the rating
objects `R` passed, writes only `R` -/
structure CallFootprint (a : Action) (M R : List Loc) : Prop where
  reads_sub : ∀ l, l ∈ a.reads → l ∈ M ∨ l ∈ R
  writes_sub : ∀ l, l ∈ a.writes → l ∈ R

theorem CallFootprint.writes_not_touched {a b : Action} {M Ra Rb : List Loc}
    (ha : CallFootprint a M Ra) (hb : CallFootprint b M Rb)
    (hdis : ∀ l, l ∈ Ra → l ∉ Rb) (hMa : ∀ l, l ∈ M → l ∉ Ra) (l : Loc) (hl : l ∈ a.writes) : l ∉ b.touches := by
  intro ht
  have hla := ha.writes_sub l hl
  rcases List.mem_append.1 ht with hr | hw
  · rcases hb.reads_sub l hr with hm | hr'
    · exact hMa l hm hla
    · exact hdis l hla hr'
  · exact hdis l hla (hb.writes_sub l hw)

/-- calls on disjoint sets of ratings through one shared model are independent -/
theorem calls_indep {a b : Action} {M Ra Rb : List Loc}
    (ha : CallFootprint a M Ra) (hb : CallFootprint b M Rb)
    (hdis : ∀ l, l ∈ Ra → l ∉ Rb) (hMa : ∀ l, l ∈ M → l ∉ Ra) (hMb : ∀ l, l ∈ M → l ∉ Rb) :
    Indep a b :=
  ⟨ha.writes_not_touched hb hdis hMa, hb.writes_not_touched ha (fun l hb ha => hdis l ha hb) hMb⟩

/-- C14(d): threads making calls on pairwise disjoint sets of ratings through one shared model
(attributes `M`, never written): EVERY interleaving of their atomic actions leaves the same store
— hence the same returned ratings — as running the threads one after another. -/
theorem C14_interleaving {ths : List (List Action)} {zs : List Action} (hs : Shuffle ths zs)
    (M : List Loc) (R : Nat → List Loc)
    (hfp : ∀ i (hi : i < ths.length), ∀ x, x ∈ ths[i] → CallFootprint x M (R i))
    (hdis : ∀ i j, i ≠ j → ∀ l, l ∈ R i → l ∉ R j)
    (hM : ∀ i l, l ∈ M → l ∉ R i) (s : Store) :
    runAll zs s = runAll ths.flatten s :=
  shuffle_serial hs (fun i j hi hj hij x hx y hy =>
    calls_indep (hfp i hi x hx) (hfp j hj y hy) (hdis i j hij) (fun l hl => hM i l hl) (fun l hl => hM j l hl)) s

/-- the pre-repair footprint (defect F2): a call that also WRITES the shared model attribute
`limit_sigma` (location 0) is not independent of a call that reads it — the interleaving theorem's
hypothesis fails, which is the measured race. -/
example : ¬ Indep
    ⟨[0, 1], [0, 1], fun s l => if l = 0 then 1 else if l = 1 then s 0 + s 1 else s l,
      by intro s l h; simp at h; simp [h], by intro s s' h l hl; simp at hl; rcases hl with rfl | rfl <;> simp [h]⟩
    ⟨[0, 2], [2], fun s l => if l = 2 then s 0 + s 2 else s l,
      by intro s l h; simp at h; simp [h], by intro s s' h l hl; simp at hl; subst hl; simp [h]⟩ := by
  intro h
  exact h.1 0 (by simp) (by simp [Action.touches])

end Sched
