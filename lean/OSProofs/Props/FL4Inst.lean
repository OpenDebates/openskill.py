import OSProofs.Props.FL4
import OSProofs.Props.LoopsReal
import OSProofs.Props.FL1Inst
import OSProofs.Props.C06b

/-!
# FL4 — the league theorems and `_rank_data` instantiated at ℝ and at every rounded arithmetic `RN r`

Over ℝ the hypothesis `FLLeagueOK` follows from conditions on the input only (`FL_leagueOK_real`).  Over `RN r`
(exact result, then an arbitrary monotone rounding `r`) `FLGameOK` for a Bradley–Terry game with the default
gamma reduces to `κ ≤ 1`, well-formedness and positive rounded variances (`FL_gameOK_rn_BT`), and
`predictRankLoop_eq_rn` needs no hypothesis at all: in `RN r`, `0 + a` is `rnd a = a` for a representable `a`,
so `FirstPlayerZeroAdd` holds for every team.
-/

noncomputable section
namespace OS
open Scalar
variable {ρ : Type}

/-! ### ℝ -/

/-- **Over ℝ, `FLGameOK` follows from conditions on the input**: a well-formed game with at least one team and
no empty team, every participant stored with `σ > 0`, `κ ≤ 1`, non-negative gamma (non-negative leaves for a
Thurstone–Mosteller game). -/
theorem FL_gameOK_real (L : Leaves ℝ) (P : Params ℝ) (le : ρ → ρ → Bool) (neg : ρ → ρ)
    (s : Store ℝ) (g : LeagueGame ℝ ρ)
    (hL : g.kind = .TMF ∨ g.kind = .TMP → LeavesNonneg L) (hk : P.kappa ≤ 1)
    (hg : GammaNonneg P.gamma) (hwf : g.WF) (hne : g.teams ≠ []) (hT : ∀ T ∈ g.teams, T ≠ [])
    (hs : ∀ p, g.plays p → 0 < s.sigma p) : FLGameOK L P le neg s g := by
  have hT' : ∀ T ∈ loadTeams s g, T ≠ [] :=
    List.forall_mem_map.2 fun T₀ hT₀ h => hT T₀ hT₀ (List.map_eq_nil_iff.1 h)
  have hs' : ∀ T ∈ loadTeams s g, ∀ p ∈ T, (0 : ℝ) < p.sigma :=
    List.forall_mem_map.2 fun T₀ hT₀ =>
      List.forall_mem_map.2 fun q hq => hs q (List.mem_flatten.2 ⟨T₀, hT₀, hq⟩)
  have hv := fl1_real_infl_var_pos (resolveTau P g.opts) (loadTeams s g) hT' hs'
  have hr : ∀ r, fl4_ranksOf neg g.outcome = some r → r.length = (loadTeams s g).length := by
    rw [lg_loadTeams_length, fl4_ranksOf_eq_lft_ranksOf]; exact lft_fits neg g.outcome _ hwf.2
  exact ⟨hL, hv, by rw [sc_one]; exact hk, hg,
    fl1_real_rateAggs_divisors g.kind P le _ _ g.opts (fun h => hne (List.map_eq_nil_iff.1 h)) hr hv,
    hwf⟩

theorem gammaNonneg_of_gammaOK {g : GammaFn ℝ} (h : GammaOK g) : GammaNonneg g := by
  intro c k mu s2 team rank hc hs _
  rw [sc_zero] at hc hs ⊢
  exact h c k mu s2 team rank hc.le hs

/-- **Over ℝ, `FLLeagueOK` follows from conditions on the input**: every game well-formed with at least one
team and no empty team, every player starting with `σ > 0`, `0 < κ ≤ 1`, gamma non-negative (`GammaOK`), and
for Thurstone–Mosteller games the leaf facts.  (Positivity of the stored sigmas is kept by every game:
`C06_playGame_slot`.) -/
theorem FL_leagueOK_real (L : Leaves ℝ) (P : Params ℝ) (le : ρ → ρ → Bool) (neg : ρ → ρ)
    (s : Store ℝ) (gs : List (LeagueGame ℝ ρ))
    (hL : ∀ g ∈ gs, g.kind = .TMF ∨ g.kind = .TMP → LeafFacts L ∧ LeavesNonneg L)
    (hk0 : 0 < P.kappa) (hk1 : P.kappa ≤ 1) (hg : GammaOK P.gamma)
    (hwf : ∀ g ∈ gs, g.WF ∧ g.teams ≠ [] ∧ ∀ T ∈ g.teams, T ≠ [])
    (hs : ∀ p, 0 < s.sigma p) : FLLeagueOK L P le neg s gs := by
  rw [FL_leagueOK_iff]
  intro k hk
  have hm := List.getElem_mem hk
  obtain ⟨hw, hne, hT⟩ := hwf _ hm
  exact FL_gameOK_real L P le neg _ gs[k] (fun h => (hL _ hm h).2) hk1 (gammaNonneg_of_gammaOK hg) hw hne
    hT (fun p _ => C06_league_pos L P le neg s gs (fun g h t => (hL g h t).1) hk0 hk1 hg
      (fun g h => (hwf g h).1) p (hs p) k)

/-- **C06 along a league over ℝ through the `MonoArith` route, hypotheses on the input only.** -/
theorem FL_C06_league_limit_real (L : Leaves ℝ) (P : Params ℝ) (le : ρ → ρ → Bool) (neg : ρ → ρ)
    (s : Store ℝ) (gs : List (LeagueGame ℝ ρ))
    (hL : ∀ g ∈ gs, g.kind = .TMF ∨ g.kind = .TMP → LeafFacts L ∧ LeavesNonneg L)
    (hk0 : 0 < P.kappa) (hk1 : P.kappa ≤ 1) (hg : GammaOK P.gamma)
    (hwf : ∀ g ∈ gs, g.WF ∧ g.teams ≠ [] ∧ ∀ T ∈ g.teams, T ≠ [])
    (hs : ∀ p, 0 < s.sigma p)
    (p : Nat) (hlim : ∀ g ∈ gs, g.plays p → resolveLimit P g.opts = true)
    (k l : Nat) (hkl : k ≤ l) :
    (playLeague L P le neg s (gs.take l)).sigma p ≤ (playLeague L P le neg s (gs.take k)).sigma p :=
  FL_C06_league_limit MonoArith.real L P le neg s gs
    (FL_leagueOK_real L P le neg s gs hL hk0 hk1 hg hwf hs) p hlim k l hkl

/-- `FLLeagueOK` is satisfiable: the two-game, three-player history of `C06b` (a 2-vs-1 Plackett–Luce game
with ranks, then a Thurstone–Mosteller free-for-all with scores, its own tau and limit_sigma), library
defaults, every player starting at `σ = 25/3` -/
example :
    FLLeagueOK ⟨fun x t => |t - x|, fun _ _ => 0, fun x _ => -x, fun _ _ => 0⟩
      ⟨25 / 6, 1 / 10000, 25 / 300, false, .dflt⟩ leNat (fun n => 10 - n)
      ⟨fun _ => 25, fun _ => 25 / 3⟩
      ([⟨.PL, [[0, 1], [2]], .ranks [1, 2], ⟨none, none⟩⟩,
        ⟨.TMF, [[2], [0], [1]], .scores [3, 1, 2], ⟨some (1 / 10), some true⟩⟩] :
          List (LeagueGame ℝ Nat)) := by
  apply FL_leagueOK_real
  · intro _ _ _
    exact ⟨leafFacts_abs, ⟨fun x t => by simp, fun _ _ => by simp, fun _ _ => by simp⟩⟩
  · norm_num
  · norm_num
  · exact gammaOK_dflt
  · decide
  · intro p; norm_num

/-! ### `RN r`: exact result, then an arbitrary monotone rounding -/

/-- **Sigma never increases along a league under limit_sigma, in every rounded arithmetic** — a statement
about the *rounded* numbers in the store. -/
theorem FL_C06_league_limit_rn (r : Rounding) (L : Leaves (RN r)) (P : Params (RN r))
    (le : ρ → ρ → Bool) (neg : ρ → ρ) (s : Store (RN r)) (gs : List (LeagueGame (RN r) ρ))
    (hok : FLLeagueOK L P le neg s gs)
    (p : Nat) (hlim : ∀ g ∈ gs, g.plays p → resolveLimit P g.opts = true)
    (k l : Nat) (hkl : k ≤ l) :
    (playLeague L P le neg s (gs.take l)).sigma p ≤ (playLeague L P le neg s (gs.take k)).sigma p :=
  FL_C06_league_limit (MonoArith.rn r) L P le neg s gs hok p hlim k l hkl

theorem FL_C06_league_nonneg_rn (r : Rounding) (L : Leaves (RN r)) (P : Params (RN r))
    (le : ρ → ρ → Bool) (neg : ρ → ρ) (s : Store (RN r)) (gs : List (LeagueGame (RN r) ρ))
    (hok : FLLeagueOK L P le neg s gs) (p : Nat) (hp : Scalar.ofNat 0 ≤ s.sigma p) (k : Nat) :
    Scalar.ofNat 0 ≤ (playLeague L P le neg s (gs.take k)).sigma p :=
  FL_C06_league_nonneg (MonoArith.rn r) L P le neg s gs hok p hp k

theorem FL_C06_league_step_bound_rn (r : Rounding) (L : Leaves (RN r)) (P : Params (RN r))
    (le : ρ → ρ → Bool) (neg : ρ → ρ) (s : Store (RN r)) (gs : List (LeagueGame (RN r) ρ))
    (hok : FLLeagueOK L P le neg s gs) (k : Nat) (hk : k < gs.length) (p : Nat) (hp : gs[k].plays p) :
    (playLeague L P le neg s (gs.take (k + 1))).sigma p
      ≤ sqrt ((playLeague L P le neg s (gs.take k)).sigma p * (playLeague L P le neg s (gs.take k)).sigma p
          + resolveTau P gs[k].opts * resolveTau P gs[k].opts) :=
  FL_C06_league_step_bound (MonoArith.rn r) L P le neg s gs hok k hk p hp

/-- **`FLGameOK` for a Bradley–Terry game with the library's default gamma, in every rounded arithmetic**:
what is left to assume is `κ ≤ 1`, the well-formedness of the game, and that the (rounded) variances of the
loaded, inflated teams are `> 0`. -/
theorem FL_gameOK_rn_BT (r : Rounding) (L : Leaves (RN r)) (beta kappa tau : RN r) (lim : Bool)
    (le : ρ → ρ → Bool) (neg : ρ → ρ) (s : Store (RN r)) (g : LeagueGame (RN r) ρ)
    (hK : g.kind = .BTF ∨ g.kind = .BTP)
    (hv : ∀ T ∈ inflate (resolveTau ⟨beta, kappa, tau, lim, .dflt⟩ g.opts) (loadTeams s g),
      Scalar.ofNat 0 < sumL (T.map (fun p => p.sigma * p.sigma)))
    (hk : kappa ≤ Scalar.ofNat 1) (hwf : g.WF) :
    FLGameOK L ⟨beta, kappa, tau, lim, .dflt⟩ le neg s g := by
  refine ⟨leavesNonneg_of_bt hK L, hv, hk,
    (MonoArith.rn r).fl1_gammaNonneg_of_tag _ nofun nofun nofun, ?_, hwf⟩
  -- `DivisorsPosRest` of a Bradley–Terry kind is `True`
  rcases hK with h | h
  · rw [h]; trivial
  · rw [h]; trivial

/-- one Bradley–Terry game in the lossy arithmetic `truncRounding 10`, limit_sigma requested per call: no
participant's stored sigma goes up -/
example (L : Leaves (RN (truncRounding 10))) (beta kappa tau : RN (truncRounding 10))
    (s : Store (RN (truncRounding 10))) (teams : List (List Nat)) (hn : teams.flatten.Nodup)
    (hv : ∀ T ∈ inflate tau (loadTeams s
        (⟨.BTF, teams, .omitted, ⟨none, some true⟩⟩ : LeagueGame (RN (truncRounding 10)) Nat)),
      Scalar.ofNat 0 < sumL (T.map (fun p => p.sigma * p.sigma)))
    (hk : kappa ≤ Scalar.ofNat 1) (p : Nat) :
    (playLeague L ⟨beta, kappa, tau, false, .dflt⟩ leNat id s
        [⟨.BTF, teams, .omitted, ⟨none, some true⟩⟩]).sigma p ≤ s.sigma p := by
  apply FL_C06_league_limit_total (MonoArith.rn _)
  · exact ⟨FL_gameOK_rn_BT _ L beta kappa tau false leNat id s _ (Or.inl rfl) hv hk ⟨hn, trivial⟩,
      trivial⟩
  · intro g hg _
    simp only [List.mem_cons, List.not_mem_nil, or_false] at hg
    subst hg; rfl

/-! ### `_rank_data` and `predict_rank` -/

/-- `_rank_data` literal = closed form over ℝ, through the preorder route (same statement as
`rankDataCode_eq`) -/
example (v : List ℝ) : rankDataCode v = rankData v := rankDataCode_eq_mono MonoArith.real v

/-- **`_rank_data` literal = closed form in every rounded arithmetic** -/
theorem rankDataCode_eq_rn (r : Rounding) (v : List (RN r)) : rankDataCode v = rankData v :=
  rankDataCode_eq_mono (MonoArith.rn r) v

/-- **In every rounded arithmetic the literal `predict_rank` IS the model's `predictRank`, for every input**
(no hypothesis left: `0 + a` rounds to `a`). -/
theorem predictRankLoop_eq_rn (r : Rounding) (beta : RN r) (teams : List (List (Rating (RN r)))) :
    predictRankLoop beta teams = predictRank beta teams :=
  predictRankLoop_eq_mono (MonoArith.rn r) beta teams
    (fun _ _ _ _ => ⟨RN.zero_add r _, RN.zero_add r _⟩)

/-- the hypotheses of `predictRankLoop_eq_mono` are satisfiable (every game over ℝ) -/
example (beta : ℝ) (teams : List (List (Rating ℝ))) :
    predictRankLoop beta teams = predictRank beta teams :=
  predictRankLoop_eq_mono MonoArith.real beta teams (fun t _ => pl2_firstPlayer_real t)

/-- a two-point scalar type in which `a ≤ b` always and `a < b` never -/
@[reducible] def fl4_flatScalar : Scalar Bool :=
  { add := fun a _ => a, sub := fun a _ => a, mul := fun a _ => a, div := fun a _ => a, neg := id,
    lt := fun _ _ => False, le := fun _ _ => True, ofNat := fun _ => false, sqrt := id, exp := id,
    Phi := id, phi := id, PhiInv := id,
    decLt := fun _ _ => isFalse id, decLe := fun _ _ => isTrue trivial }

/-- `OrderLaws` does not imply antisymmetry: in `fl4_flatScalar` the four laws hold, `false ≤ true ≤ false`,
and `false ≠ true`.  (`rankDataCode_eq_of_preorder` covers it: every entry gets rank 1.) -/
example : @OrderLaws Bool fl4_flatScalar ∧ fl4_flatScalar.le false true ∧ fl4_flatScalar.le true false
    ∧ false ≠ true :=
  ⟨@OrderLaws.mk Bool fl4_flatScalar (fun _ => trivial) (fun _ _ => trivial) (fun _ _ => Or.inl trivial)
    ⟨fun h => h.elim, fun h => (h trivial).elim⟩, trivial, trivial, by decide⟩

end OS
end
