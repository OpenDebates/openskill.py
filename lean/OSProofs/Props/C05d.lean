import OSProofs.LiftLemmas
/-!
# C05d — direction of learning, at the level of `rate`

`C05b` proves "a team alone in first place never loses mu, a team alone in last place never gains
mu" for `_compute` (teams already rank-sorted, dense ranks given).  Here the statement is lifted to
the public operation

  `rate` = tau inflation → stable sort by the rank values → dense ranks → `_compute` → un-sort →
           optional `limit_sigma` clamp,

on the caller's data: the teams in the caller's order, the ORIGINAL rank values `r` (any type `ρ`
with a total, transitive Boolean comparison `le`), the result in the caller's order.  All five
models, any tau, clamp on or off, no hypothesis on the ratings or on `β`, `κ`, `γ`.  The two
Thurstone–Mosteller models need the leaf facts (`V ≥ 0`), the other three nothing.

"Strictly better than team `q`" is `le r[q] r[i] = false`; by totality this is the same as
`le r[i] r[q] = true ∧ le r[q] r[i] = false`.
-/

noncomputable section
namespace OS
variable {ρ : Type}

/-! ## ranks -/

/-- **Sole winner, `rate` with ranks, all five models.**  If team `i`'s rank value is strictly
better (smaller) than every other team's, then no member of the returned team `i` has a smaller mu
than the corresponding member passed in. -/
theorem C05_rate_sole_first (K : Kind) (L : Leaves ℝ) (hL : K = .TMF ∨ K = .TMP → LeafFacts L)
    (P : Params ℝ) (le : ρ → ρ → Bool) (neg : ρ → ρ)
    (total : ∀ a b, (le a b || le b a) = true)
    (trans : ∀ a b c, le a b = true → le b c = true → le a c = true)
    (teams : List (List (Rating ℝ))) (r : List ρ) (o : CallOpts ℝ)
    (hlen : r.length = teams.length) (i : Nat) (hi : i < teams.length)
    (hfirst : ∀ (q : Nat) (hq : q < teams.length), q ≠ i →
      le (r[q]'(hlen ▸ hq)) (r[i]'(hlen ▸ hi)) = false) :
    List.Forall₂ (fun p p' => p.mu ≤ p'.mu) teams[i]
      ((rate K L P le neg teams (.ranks r) o)[i]'(by
        rw [lft_rate_length K L P le neg teams (.ranks r) o hlen]; exact hi)) :=
  getElem_of_exists_getElem? _ i _ _
    ((lft_rateCore_sole K L hL P le total trans teams r o hlen i hi).1 hfirst)

/-- **Sole loser, `rate` with ranks, all five models.**  If team `i`'s rank value is strictly worse
(larger) than every other team's, then no member of the returned team `i` has a larger mu than the
corresponding member passed in. -/
theorem C05_rate_sole_last (K : Kind) (L : Leaves ℝ) (hL : K = .TMF ∨ K = .TMP → LeafFacts L)
    (P : Params ℝ) (le : ρ → ρ → Bool) (neg : ρ → ρ)
    (total : ∀ a b, (le a b || le b a) = true)
    (trans : ∀ a b c, le a b = true → le b c = true → le a c = true)
    (teams : List (List (Rating ℝ))) (r : List ρ) (o : CallOpts ℝ)
    (hlen : r.length = teams.length) (i : Nat) (hi : i < teams.length)
    (hlast : ∀ (q : Nat) (hq : q < teams.length), q ≠ i →
      le (r[i]'(hlen ▸ hi)) (r[q]'(hlen ▸ hq)) = false) :
    List.Forall₂ (fun p p' => p'.mu ≤ p.mu) teams[i]
      ((rate K L P le neg teams (.ranks r) o)[i]'(by
        rw [lft_rate_length K L P le neg teams (.ranks r) o hlen]; exact hi)) :=
  getElem_of_exists_getElem? _ i _ _
    ((lft_rateCore_sole K L hL P le total trans teams r o hlen i hi).2 hlast)

/-- `C05_rate_sole_first` with the two-sided hypothesis `r[i] ≤ r[q]` and not `r[q] ≤ r[i]`. -/
theorem C05_rate_sole_first' (K : Kind) (L : Leaves ℝ) (hL : K = .TMF ∨ K = .TMP → LeafFacts L)
    (P : Params ℝ) (le : ρ → ρ → Bool) (neg : ρ → ρ)
    (total : ∀ a b, (le a b || le b a) = true)
    (trans : ∀ a b c, le a b = true → le b c = true → le a c = true)
    (teams : List (List (Rating ℝ))) (r : List ρ) (o : CallOpts ℝ)
    (hlen : r.length = teams.length) (i : Nat) (hi : i < teams.length)
    (hfirst : ∀ (q : Nat) (hq : q < teams.length), q ≠ i →
      le (r[i]'(hlen ▸ hi)) (r[q]'(hlen ▸ hq)) = true ∧
      le (r[q]'(hlen ▸ hq)) (r[i]'(hlen ▸ hi)) = false) :
    List.Forall₂ (fun p p' => p.mu ≤ p'.mu) teams[i]
      ((rate K L P le neg teams (.ranks r) o)[i]'(by
        rw [lft_rate_length K L P le neg teams (.ranks r) o hlen]; exact hi)) :=
  C05_rate_sole_first K L hL P le neg total trans teams r o hlen i hi
    (fun q hq hne => (hfirst q hq hne).2)

/-- `C05_rate_sole_last` with the two-sided hypothesis `r[q] ≤ r[i]` and not `r[i] ≤ r[q]`. -/
theorem C05_rate_sole_last' (K : Kind) (L : Leaves ℝ) (hL : K = .TMF ∨ K = .TMP → LeafFacts L)
    (P : Params ℝ) (le : ρ → ρ → Bool) (neg : ρ → ρ)
    (total : ∀ a b, (le a b || le b a) = true)
    (trans : ∀ a b c, le a b = true → le b c = true → le a c = true)
    (teams : List (List (Rating ℝ))) (r : List ρ) (o : CallOpts ℝ)
    (hlen : r.length = teams.length) (i : Nat) (hi : i < teams.length)
    (hlast : ∀ (q : Nat) (hq : q < teams.length), q ≠ i →
      le (r[q]'(hlen ▸ hq)) (r[i]'(hlen ▸ hi)) = true ∧
      le (r[i]'(hlen ▸ hi)) (r[q]'(hlen ▸ hq)) = false) :
    List.Forall₂ (fun p p' => p'.mu ≤ p.mu) teams[i]
      ((rate K L P le neg teams (.ranks r) o)[i]'(by
        rw [lft_rate_length K L P le neg teams (.ranks r) o hlen]; exact hi)) :=
  C05_rate_sole_last K L hL P le neg total trans teams r o hlen i hi
    (fun q hq hne => (hlast q hq hne).2)

/-! ## scores -/

/-- **Sole winner, `rate` with scores.**  Scores reach the models as `neg s[q]`; if team `i`'s
negated score is strictly smaller than every other team's, nobody in team `i` loses mu.  (No
assumption on `neg`.) -/
theorem C05_rate_scores_sole_first (K : Kind) (L : Leaves ℝ)
    (hL : K = .TMF ∨ K = .TMP → LeafFacts L)
    (P : Params ℝ) (le : ρ → ρ → Bool) (neg : ρ → ρ)
    (total : ∀ a b, (le a b || le b a) = true)
    (trans : ∀ a b c, le a b = true → le b c = true → le a c = true)
    (teams : List (List (Rating ℝ))) (s : List ρ) (o : CallOpts ℝ)
    (hlen : s.length = teams.length) (i : Nat) (hi : i < teams.length)
    (hfirst : ∀ (q : Nat) (hq : q < teams.length), q ≠ i →
      le (neg (s[q]'(hlen ▸ hq))) (neg (s[i]'(hlen ▸ hi))) = false) :
    List.Forall₂ (fun p p' => p.mu ≤ p'.mu) teams[i]
      ((rate K L P le neg teams (.scores s) o)[i]'(by
        rw [lft_rate_length K L P le neg teams (.scores s) o hlen]; exact hi)) := by
  have hlen' : (s.map neg).length = teams.length := by rw [List.length_map]; exact hlen
  exact getElem_of_exists_getElem? _ i _ _
    ((lft_rateCore_sole K L hL P le total trans teams (s.map neg) o hlen' i hi).1
      (fun q hq hne => by simpa only [List.getElem_map] using hfirst q hq hne))

/-- **Sole loser, `rate` with scores** (no assumption on `neg`). -/
theorem C05_rate_scores_sole_last (K : Kind) (L : Leaves ℝ)
    (hL : K = .TMF ∨ K = .TMP → LeafFacts L)
    (P : Params ℝ) (le : ρ → ρ → Bool) (neg : ρ → ρ)
    (total : ∀ a b, (le a b || le b a) = true)
    (trans : ∀ a b c, le a b = true → le b c = true → le a c = true)
    (teams : List (List (Rating ℝ))) (s : List ρ) (o : CallOpts ℝ)
    (hlen : s.length = teams.length) (i : Nat) (hi : i < teams.length)
    (hlast : ∀ (q : Nat) (hq : q < teams.length), q ≠ i →
      le (neg (s[i]'(hlen ▸ hi))) (neg (s[q]'(hlen ▸ hq))) = false) :
    List.Forall₂ (fun p p' => p'.mu ≤ p.mu) teams[i]
      ((rate K L P le neg teams (.scores s) o)[i]'(by
        rw [lft_rate_length K L P le neg teams (.scores s) o hlen]; exact hi)) := by
  have hlen' : (s.map neg).length = teams.length := by rw [List.length_map]; exact hlen
  exact getElem_of_exists_getElem? _ i _ _
    ((lft_rateCore_sole K L hL P le total trans teams (s.map neg) o hlen' i hi).2
      (fun q hq hne => by simpa only [List.getElem_map] using hlast q hq hne))

/-- **Strictly highest score.**  When `neg` reverses the comparison (`−a ≤ −b ⇔ b ≤ a`, as unary
minus does): if team `i`'s score is strictly higher than every other team's (`s[i] ≤ s[q]` fails),
nobody in team `i` loses mu. -/
theorem C05_rate_scores_sole_first_of_neg (K : Kind) (L : Leaves ℝ)
    (hL : K = .TMF ∨ K = .TMP → LeafFacts L)
    (P : Params ℝ) (le : ρ → ρ → Bool) (neg : ρ → ρ)
    (hneg : ∀ a b, le (neg a) (neg b) = le b a)
    (total : ∀ a b, (le a b || le b a) = true)
    (trans : ∀ a b c, le a b = true → le b c = true → le a c = true)
    (teams : List (List (Rating ℝ))) (s : List ρ) (o : CallOpts ℝ)
    (hlen : s.length = teams.length) (i : Nat) (hi : i < teams.length)
    (hfirst : ∀ (q : Nat) (hq : q < teams.length), q ≠ i →
      le (s[i]'(hlen ▸ hi)) (s[q]'(hlen ▸ hq)) = false) :
    List.Forall₂ (fun p p' => p.mu ≤ p'.mu) teams[i]
      ((rate K L P le neg teams (.scores s) o)[i]'(by
        rw [lft_rate_length K L P le neg teams (.scores s) o hlen]; exact hi)) :=
  C05_rate_scores_sole_first K L hL P le neg total trans teams s o hlen i hi
    (fun q hq hne => by rw [hneg]; exact hfirst q hq hne)

/-- **Strictly lowest score**: nobody in team `i` gains mu (same assumption on `neg`). -/
theorem C05_rate_scores_sole_last_of_neg (K : Kind) (L : Leaves ℝ)
    (hL : K = .TMF ∨ K = .TMP → LeafFacts L)
    (P : Params ℝ) (le : ρ → ρ → Bool) (neg : ρ → ρ)
    (hneg : ∀ a b, le (neg a) (neg b) = le b a)
    (total : ∀ a b, (le a b || le b a) = true)
    (trans : ∀ a b c, le a b = true → le b c = true → le a c = true)
    (teams : List (List (Rating ℝ))) (s : List ρ) (o : CallOpts ℝ)
    (hlen : s.length = teams.length) (i : Nat) (hi : i < teams.length)
    (hlast : ∀ (q : Nat) (hq : q < teams.length), q ≠ i →
      le (s[q]'(hlen ▸ hq)) (s[i]'(hlen ▸ hi)) = false) :
    List.Forall₂ (fun p p' => p'.mu ≤ p.mu) teams[i]
      ((rate K L P le neg teams (.scores s) o)[i]'(by
        rw [lft_rate_length K L P le neg teams (.scores s) o hlen]; exact hi)) :=
  C05_rate_scores_sole_last K L hL P le neg total trans teams s o hlen i hi
    (fun q hq hne => by rw [hneg]; exact hlast q hq hne)

/-! ## outcome omitted: the order of the list is the outcome -/

/-- **Outcome omitted: the first team is the sole winner.**  Nobody in team `0` loses mu.  (The
comparison `le` is not used at all.) -/
theorem C05_rate_omitted_first (K : Kind) (L : Leaves ℝ) (hL : K = .TMF ∨ K = .TMP → LeafFacts L)
    (P : Params ℝ) (le : ρ → ρ → Bool) (neg : ρ → ρ)
    (teams : List (List (Rating ℝ))) (o : CallOpts ℝ) (h0 : 0 < teams.length) :
    List.Forall₂ (fun p p' => p.mu ≤ p'.mu) teams[0]
      ((rate K L P le neg teams .omitted o)[0]'(by
        rw [lft_rate_length K L P le neg teams .omitted o trivial]; exact h0)) := by
  have h1 : 0 < (inflate (resolveTau P o) teams).length := by rw [inflate_length]; exact h0
  refine getElem_of_exists_getElem? _ 0 _ _ (lft_rateCore_of_raw K L P le teams none o (· ≤ ·) 0 h0 _ _
    (List.getElem?_eq_getElem h1)
    (List.getElem?_eq_getElem (compute_lt h1 (by rw [List.length_range]; exact h1))) ?_)
  refine (compute_sole K L hL P _ _ List.length_range 0 h1).1 fun q hq hne => ?_
  rw [List.getElem_range, List.getElem_range]
  exact Nat.pos_of_ne_zero hne

/-- **Outcome omitted: the last team is the sole loser.**  Nobody in team `n−1` gains mu. -/
theorem C05_rate_omitted_last (K : Kind) (L : Leaves ℝ) (hL : K = .TMF ∨ K = .TMP → LeafFacts L)
    (P : Params ℝ) (le : ρ → ρ → Bool) (neg : ρ → ρ)
    (teams : List (List (Rating ℝ))) (o : CallOpts ℝ) (h0 : 0 < teams.length) :
    List.Forall₂ (fun p p' => p'.mu ≤ p.mu) (teams[teams.length - 1]'(by omega))
      ((rate K L P le neg teams .omitted o)[teams.length - 1]'(by
        rw [lft_rate_length K L P le neg teams .omitted o trivial]; omega)) := by
  have hn : (inflate (resolveTau P o) teams).length = teams.length := inflate_length _ _
  have h1 : teams.length - 1 < (inflate (resolveTau P o) teams).length := by omega
  refine getElem_of_exists_getElem? _ (teams.length - 1) _ _ (lft_rateCore_of_raw K L P le teams none o
    (fun a b => b ≤ a) (teams.length - 1) (by omega) _ _ (List.getElem?_eq_getElem h1)
    (List.getElem?_eq_getElem (compute_lt h1 (by rw [List.length_range]; exact h1))) ?_)
  refine (compute_sole K L hL P _ _ List.length_range _ h1).2 fun q hq hne => ?_
  rw [List.getElem_range, List.getElem_range]
  rw [List.length_range] at hq
  omega

/-! ## non-vacuity -/

theorem intLe_total (a b : Int) : (decide (a ≤ b) || decide (b ≤ a)) = true := by
  simp only [Bool.or_eq_true, decide_eq_true_eq]; exact Int.le_total a b

theorem intLe_trans (a b c : Int) (h1 : decide (a ≤ b) = true) (h2 : decide (b ≤ c) = true) :
    decide (a ≤ c) = true :=
  decide_eq_true (Int.le_trans (of_decide_eq_true h1) (of_decide_eq_true h2))

/-- Python's `≤` on ints is total and transitive, and unary minus reverses it -/
example : (∀ a b : Int, (decide (a ≤ b) || decide (b ≤ a)) = true) ∧
    (∀ a b c : Int, decide (a ≤ b) = true → decide (b ≤ c) = true → decide (a ≤ c) = true) ∧
    (∀ a b : Int, decide (-a ≤ -b) = decide (b ≤ a)) := by
  exact ⟨intLe_total, intLe_trans, fun a b => by simp⟩

/-- three teams given in the order B, A, C with ranks `[2, 1, 3]` (A wins, C is last; the sort is
not the identity): the hypotheses of `C05_rate_sole_first` hold for `i = 1`, those of
`C05_rate_sole_last` for `i = 2`, for every model with the code's leaves and any parameters -/
example (K : Kind) (P : Params ℝ) (o : CallOpts ℝ) (A B C : List (Rating ℝ)) :
    List.Forall₂ (fun p p' => p.mu ≤ p'.mu) A
        ((rate K codeLeaves P (fun a b : Int => decide (a ≤ b)) (fun a => -a) [B, A, C]
          (.ranks [2, 1, 3]) o)[1]'(by
            rw [lft_rate_length _ _ _ _ _ _ _ _ (by rfl)]; simp)) ∧
    List.Forall₂ (fun p p' => p'.mu ≤ p.mu) C
        ((rate K codeLeaves P (fun a b : Int => decide (a ≤ b)) (fun a => -a) [B, A, C]
          (.ranks [2, 1, 3]) o)[2]'(by
            rw [lft_rate_length _ _ _ _ _ _ _ _ (by rfl)]; simp)) := by
  constructor
  · refine C05_rate_sole_first K codeLeaves (fun _ => leafFacts_code) P _ _ intLe_total intLe_trans
      [B, A, C] [2, 1, 3] o rfl 1 (by simp) fun q hq hne => ?_
    have hq' : q < 3 := hq
    interval_cases q
    · rfl
    · exact absurd rfl hne
    · rfl
  · refine C05_rate_sole_last K codeLeaves (fun _ => leafFacts_code) P _ _ intLe_total intLe_trans
      [B, A, C] [2, 1, 3] o rfl 2 (by simp) fun q hq hne => ?_
    have hq' : q < 3 := hq
    interval_cases q
    · rfl
    · rfl
    · exact absurd rfl hne

/-- the same game given by scores `[5, 9, 1]` -/
example (K : Kind) (P : Params ℝ) (o : CallOpts ℝ) (A B C : List (Rating ℝ)) :
    List.Forall₂ (fun p p' => p.mu ≤ p'.mu) A
        ((rate K codeLeaves P (fun a b : Int => decide (a ≤ b)) (fun a => -a) [B, A, C]
          (.scores [5, 9, 1]) o)[1]'(by
            rw [lft_rate_length _ _ _ _ _ _ _ _ (by rfl)]; simp)) := by
  refine C05_rate_scores_sole_first_of_neg K codeLeaves (fun _ => leafFacts_code) P
    (fun a b : Int => decide (a ≤ b)) (fun a => -a) (fun a b => by simp) intLe_total intLe_trans
    [B, A, C] [5, 9, 1] o rfl 1 (by simp) fun q hq hne => ?_
  have hq' : q < 3 := hq
  interval_cases q
  · rfl
  · exact absurd rfl hne
  · rfl

end OS
end
