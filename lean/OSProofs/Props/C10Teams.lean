import OSProofs.Props.C10
import OSProofs.PredictSumLemmas
import OSProofs.Props.FL2
import OSProofs.MonoArithInst
import Mathlib.Data.List.Forall2
import OSProofs.SortLemmas

/-!
# C10, end to end for any number of teams

From `predictDraw_eq_unordered` (`Props/C10.lean`: the model function `predictDraw` as a sum over
the unordered pairs of teams) and the analytic facts about one pair: `predictDraw` is the mean of
the unordered-pair contributions, it is a probability, and equalising the team means does not
lower it.
-/

noncomputable section
namespace OS
open Gauss

/-- the draw margin is non-negative for β ≥ 0 (for N ≥ 2 players because the quantile is ≥ ½;
in the degenerate cases N = 0, 1 the model's `PhiInv` is evaluated at ½ resp. 1 and gives 0) -/
theorem C10_drawMargin_nonneg {β : ℝ} (hβ : 0 ≤ β) (N : ℕ) : 0 ≤ drawMargin β N :=
  drawMargin_nonneg β hβ N

theorem drawMargin_pos {β : ℝ} (hβ : 0 < β) {N : ℕ} (hN : 2 ≤ N) : 0 < drawMargin β N := by
  have hN' : (2 : ℝ) ≤ N := by exact_mod_cast hN
  have hNpos : (0 : ℝ) < N := two_pos.trans_le hN'
  rw [C12_drawMargin]
  refine mul_pos (mul_pos (Real.sqrt_pos.mpr hNpos) hβ) (PhiInv_pos ?_ (marginArg_lt_one hN'))
  exact div_lt_div_of_pos_right (lt_add_of_pos_right 1 (one_div_pos.mpr hNpos)) two_pos

theorem drawPair_sum_nonneg (n : ℕ) (β : ℝ) {m : ℝ} (hm : 0 ≤ m)
    (l : List (TeamAgg ℝ × TeamAgg ℝ)) : 0 ≤ (l.map (drawPair n β m)).sum :=
  List.sum_nonneg (List.forall_mem_map.mpr fun p _ =>
    pairBand_nonneg hm (pairDenom_nonneg n β p.1 p.2) _)

/-- **C10, more than two teams, end to end**: for β > 0 the model's `predictDraw` is the sum of
the `k = n(n−1)/2` unordered-pair contributions divided by `2k = n(n−1)` (the absolute value in
the code is vacuous) and lies in [0, 1]. -/
theorem C10_predictDraw_many_teams (β : ℝ) (hβ : 0 < β) (teams : List (List (Rating ℝ)))
    (hn : 2 < teams.length) :
    predictDraw β teams
        = ((unorderedPairs (aggs teams)).map
            (drawPair teams.length β (drawMargin β (playerCount teams)))).sum
          / (2 * ((unorderedPairs (aggs teams)).length : ℕ))
      ∧ 0 ≤ predictDraw β teams ∧ predictDraw β teams ≤ 1 := by
  -- the bounds hold in every monotone arithmetic (`|Σ of n(n−1) terms in [−1, 1]| ≤ n(n−1)`)
  refine ⟨?_, by simpa using FL_C10_range_many' MonoArith.real β teams hn⟩
  have hk2 : 2 * (unorderedPairs (aggs teams)).length = teams.length * (teams.length - 1) := by
    rw [length_unorderedPairs, length_aggs]
  rw [predictDraw_eq_unordered,
    abs_of_nonneg (drawPair_sum_nonneg _ _ (C10_drawMargin_nonneg hβ.le _) _), if_pos hn,
    ← hk2, Nat.cast_mul, Nat.cast_ofNat]

/-- **C10: `predict_draw` is a probability**, for every game with at least two teams, all of
them non-empty, and β > 0. -/
theorem C10_predictDraw_mem (β : ℝ) (hβ : 0 < β) (teams : List (List (Rating ℝ)))
    (hn : 2 ≤ teams.length) (hne : ∀ t ∈ teams, t ≠ []) :
    0 ≤ predictDraw β teams ∧ predictDraw β teams ≤ 1 := by
  rcases Nat.lt_or_ge 2 teams.length with h | h
  · exact (C10_predictDraw_many_teams β hβ teams h).2
  · have h2 : teams.length = 2 := by omega
    match teams, h2, hne with
    | [ta, tb], _, hne =>
      exact (C10_predictDraw_two_teams β hβ ta tb (hne ta (by simp)) (hne tb (by simp))).2

/-! ### equalising the teams -/

/-- **C10, equalising, end to end** (any number of teams): let `teams'` consist, team by team, of
as many players as `teams`, with the same Σσ² per team, and with all team means equal to one
value `c`.  Then `predictDraw β teams ≤ predictDraw β teams'`: making the teams evenly matched
never lowers the draw probability. -/
theorem C10_predictDraw_equalise (β : ℝ) (hβ : 0 < β) (c : ℝ)
    (teams teams' : List (List (Rating ℝ)))
    (h : List.Forall₂ (fun t t' => t'.length = t.length
        ∧ (teamAgg t' 0).sig2 = (teamAgg t 0).sig2 ∧ (teamAgg t' 0).mu = c) teams teams') :
    predictDraw β teams ≤ predictDraw β teams' := by
  have hlen : teams'.length = teams.length := h.length_eq.symm
  have hpc : playerCount teams' = playerCount teams := by
    unfold playerCount
    rw [map_eq_map_iff_forall₂.2 (h.imp fun _ _ hh => hh.1).flip]
  have hm := C10_drawMargin_nonneg hβ.le (playerCount teams)
  rw [predictDraw_eq_unordered, predictDraw_eq_unordered, hlen, hpc,
    abs_of_nonneg (drawPair_sum_nonneg _ _ hm _), abs_of_nonneg (drawPair_sum_nonneg _ _ hm _)]
  apply div_le_div_of_nonneg_right
  · -- the numerators, pair by pair: same scale, gap 0 on the right
    have hagg : List.Forall₂ (fun a a' : TeamAgg ℝ => a'.sig2 = a.sig2 ∧ a'.mu = c)
        (aggs teams) (aggs teams') := by
      unfold aggs
      rw [List.forall₂_map_left_iff, List.forall₂_map_right_iff]
      exact h.imp (fun _ _ ht => ht.2)
    refine sum_unorderedPairs_le _ _ _ ?_ hagg
    intro a b a' b' ha hb
    unfold drawPair
    rw [pairDenom_congr _ β ha.1 hb.1, ha.2, hb.2, sub_self]
    exact pairBand_le_zero_gap hm (pairDenom_nonneg _ _ _ _) _
  · split_ifs
    · exact Nat.cast_nonneg _
    · exact zero_le_one

/-- the hypothesis of `C10_predictDraw_equalise` is satisfiable (three one-player teams with
means 25, 30, 20 against three with mean 25 each) -/
example : List.Forall₂ (fun t t' : List (Rating ℝ) => t'.length = t.length
      ∧ (teamAgg t' 0).sig2 = (teamAgg t 0).sig2 ∧ (teamAgg t' 0).mu = 25)
    [[⟨0, 25, 8⟩], [⟨1, 30, 8⟩], [⟨2, 20, 8⟩]] [[⟨0, 25, 8⟩], [⟨1, 25, 8⟩], [⟨2, 25, 8⟩]] := by
  refine List.Forall₂.cons ?_ (List.Forall₂.cons ?_ (List.Forall₂.cons ?_ List.Forall₂.nil)) <;>
    simp [teamAgg, sumL_eq_sum]

end OS
end
