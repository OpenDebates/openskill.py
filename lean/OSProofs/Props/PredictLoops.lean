import OSProofs.PredictLoops
import OSProofs.CodeShaped

/-!
# The closed forms of `Predict.lean` and `Sort.lean` are justified by proof

`OSModel/PredictLoops.lean` transliterates `predict_win`, `predict_draw`, `predict_rank` (the same text in
all five model files) and `_unwind` statement by statement: `itertools.permutations(teams, 2)` as the
double index loop of the itertools documentation, the `zip_longest(*[iter(x)] * (n - 1))` idiom as `n - 1`
references to one iterator, `self._calculate_team_ratings([pair_a])` as the literal
`_calculate_team_ratings` (called without ranks, `reduce` without initial value), `max(ranks)`,
`abs(_ - max_ordinal) + 1` on Python ints, `_matrix_transpose`, `zip`, `.sort(key=…)`.
This file proves each of them equal to the closed form every other theorem of the project is about.

* `predictWinLoop_eq`, `predictDrawLoop_eq`, `predictRankLoop_eq`: for EVERY scalar type, under the one
  hypothesis `FirstPlayerZeroAdd` on every team (`0 + mu = mu` and `0 + sigma² = sigma²` for the FIRST
  player of the team: the code starts its `reduce` from the first player, the model's `sumL` from `0`);
  `predictRankLoop_eq` also needs the literal `_rank_data` to agree with its closed form on the one list
  it is applied to (true for every list as soon as the order is a total preorder:
  `rankDataCode_eq_of_preorder`).  No hypothesis on the number of teams.
  The proofs start from the closed form and put the literal pieces back one at a time (`← pl2_regroup`,
  `← pl2_pairLoop_aggs`: in that direction the pair function is read off the closed form) until the
  program text is reached, `rfl`.
* `predictRankLoop_eq_of_preorder`, `predictRankLoop_eq_mono`: that second hypothesis discharged, for a total
  preorder and hence in every monotone arithmetic (`rankDataCode_eq_mono`).
* `pl2_hypothesis_needed`: the hypothesis cannot be dropped for an arbitrary scalar type.
* `unwindCode_eq`: `_unwind`, no hypothesis.

This file does not import the reals; the statements over ℝ are in `OSProofs/Props/LoopsReal.lean`.
-/

namespace OS
open Scalar

/-- the divisibility hypothesis of `zipLongestIter_eq_chunk`, on six items grouped by two -/
example : ([1, 2, 3, 4, 5, 6] : List Nat).length % 2 = 0 := by decide

section
variable {α : Type} [Scalar α]

/-- **`predict_win`, statement by statement, equals the closed form `predictWin`** — two-team special case
and general case alike, any number of teams — for every scalar type, provided every team's first player
satisfies `0 + mu = mu` and `0 + sigma² = sigma²` (`FirstPlayerZeroAdd`; the code's `reduce` starts from
the first player, `sumL` from `0`).  Same operations in the same order otherwise: bit for bit at `Float`
(with the plain left-to-right `sum` of CPython ≤ 3.11). -/
theorem predictWinLoop_eq (beta : α) (teams : List (List (Rating α)))
    (hz : ∀ team ∈ teams, FirstPlayerZeroAdd team) :
    predictWinLoop beta teams = predictWin beta teams := by
  by_cases h2 : teams.length = 2
  · -- the two-team special case
    match teams, h2 with
    | [t0, t1], _ =>
      unfold predictWinLoop
      simp only [List.length_cons, List.length_nil, if_true, List.getD_cons_zero, List.getD_cons_succ]
      rw [← playerCount_pair, calcTeamRatingsNoRanks_eq [t0, t1] hz]
      rfl
  · rw [predictWin_of_length_ne_two beta teams h2, ← pl2_regroup, ← pl2_pairLoop_aggs _ teams hz]
    unfold predictWinLoop
    simp only [h2, if_false]
    rfl

/-- **`predict_draw`, statement by statement, equals the closed form `predictDraw`**, for every scalar
type, under the same hypothesis on the first player of every team. -/
theorem predictDrawLoop_eq (beta : α) (teams : List (List (Rating α)))
    (hz : ∀ team ∈ teams, FirstPlayerZeroAdd team) :
    predictDrawLoop beta teams = predictDraw beta teams := by
  unfold predictDraw
  simp only []
  rw [← pl2_pairLoop_aggs _ teams hz, ← apply_ite (ofNat : Nat → α)]
  rfl

/-- **`predict_rank`, statement by statement** (with the literal `_rank_data`, `max(ranks)`,
`abs(_ - max_ordinal) + 1` on Python ints, the final `zip`) **equals the closed form `predictRank`**, for
every scalar type, under the hypothesis on first players and provided the literal `_rank_data` agrees
with its closed form on the list of probabilities (it does for every list over ℝ). -/
theorem predictRankLoop_eq (beta : α) (teams : List (List (Rating α)))
    (hz : ∀ team ∈ teams, FirstPlayerZeroAdd team)
    (hrd : rankDataCode (predictRankProbs beta teams) = rankData (predictRankProbs beta teams)) :
    predictRankLoop beta teams = predictRank beta teams := by
  unfold predictRank
  simp only []
  rw [← hrd, ← pl2_reverse_ranks]
  unfold predictRankProbs
  simp only []
  rw [← pl2_regroup, ← pl2_pairLoop_aggs _ teams hz]
  rfl

end

/-- **`_unwind(tenet, objects)`, statement by statement** (`matrix`, `_matrix_transpose`, `zip`, the stable
`.sort(key=item[0])`, the two comprehensions) **equals `unwind`**, for every comparison `le`, every key and
object type, every pair of lists.  (When `tenet` is shorter than `objects` Python raises `IndexError`; both
sides then keep the rows that exist.) -/
theorem unwindCode_eq {κ β : Type} (le : κ → κ → Bool) (tenet : List κ) (objs : List β) :
    unwindCode le tenet objs = unwind le tenet objs := by
  unfold unwindCode unwind sortByKey
  simp only []
  rw [zipIdx_filterMap_getElem?_eq_zip objs tenet fun xi => (xi.1, xi.2), List.map_id'' fun _ => rfl]
  cases hm : tenet.zip objs.zipIdx with
  | nil => simp [matrixTranspose2]
  | cons row rows =>
    simp only [matrixTranspose2]
    rw [← List.zip_of_prod rfl rfl, List.map_map, List.map_map]
    rfl

/-! ## the hypothesis cannot be dropped

A scalar type in which `ofNat 0 + a ≠ a` (the integers with `ofNat n = n + 1`): the literal `predict_win`
(whose `reduce` never adds a `0`) and the closed form (whose `sumL` does) differ on two one-player teams. -/

/-- the integers with a shifted `ofNat`; `sqrt`, `Phi`, … are the identity -/
@[reducible] def pl2_shifted : Scalar Int :=
  { ofNat := fun n => (n : Int) + 1, sqrt := id, exp := id, Phi := id, phi := id, PhiInv := id,
    decLt := fun a b => inferInstanceAs (Decidable (a < b)),
    decLe := fun a b => inferInstanceAs (Decidable (a ≤ b)) }

theorem pl2_hypothesis_needed :
    @predictWinLoop Int pl2_shifted 1 [[⟨0, 100, 1⟩], [⟨1, 0, 1⟩]]
      ≠ @predictWin Int pl2_shifted 1 [[⟨0, 100, 1⟩], [⟨1, 0, 1⟩]] := by
  decide

/-! ## The literal definitions compute what Python computes

`#guard` evaluates the definitions at `Float` (compile-time check, no axiom).  The expected values are the
outputs of the pinned Python library (CPython 3.12.1, whose `sum` is compensated: agreement to rounding):
```
m = PlackettLuce(); mk = lambda mu, s: m.rating(mu=mu, sigma=s)
T = [[mk(25.0, 8.0), mk(30.0, 4.0)], [mk(27.0, 6.0)], [mk(20.0, 7.5), mk(22.0, 3.0), mk(31.0, 9.0)], [mk(24.0, 5.0)]]
m.predict_win(T); m.predict_draw(T); m.predict_rank(T); m.predict_win(T[:2]); …
``` -/

private def pl2_beta : Float := 25.0 / 6.0

private def pl2_T : List (List (Rating Float)) :=
  [[⟨0, 25.0, 8.0⟩, ⟨1, 30.0, 4.0⟩], [⟨2, 27.0, 6.0⟩], [⟨3, 20.0, 7.5⟩, ⟨4, 22.0, 3.0⟩, ⟨5, 31.0, 9.0⟩],
   [⟨6, 24.0, 5.0⟩]]

private def pl2_bits (l : List Float) : List UInt64 := l.map (·.toBits)

private def pl2_close (l e : List Float) : Bool :=
  l.length == e.length && (l.zip e).all (fun p => (p.1 - p.2).abs < 1e-12)

-- four teams: the loop versions equal the closed forms bit for bit
#guard pl2_bits (predictWinLoop pl2_beta pl2_T) == pl2_bits (predictWin pl2_beta pl2_T)
#guard (predictDrawLoop pl2_beta pl2_T).toBits == (predictDraw pl2_beta pl2_T).toBits
#guard (predictRankLoop pl2_beta pl2_T).map (fun p => (p.1, p.2.toBits))
  == (predictRank pl2_beta pl2_T).map (fun p => (p.1, p.2.toBits))
-- two teams (the special case of `predict_win`) and three teams
#guard [2, 3].all (fun k =>
  pl2_bits (predictWinLoop pl2_beta (pl2_T.take k)) == pl2_bits (predictWin pl2_beta (pl2_T.take k)) &&
  (predictDrawLoop pl2_beta (pl2_T.take k)).toBits == (predictDraw pl2_beta (pl2_T.take k)).toBits &&
  (predictRankLoop pl2_beta (pl2_T.take k)).map (fun p => (p.1, p.2.toBits))
    == (predictRank pl2_beta (pl2_T.take k)).map (fun p => (p.1, p.2.toBits)))
-- the values are Python's
#guard pl2_close (predictWinLoop pl2_beta pl2_T)
  [0.3530430466342251, 0.10422513395522026, 0.474955804788076, 0.06777601462247862]
#guard ((predictDrawLoop pl2_beta pl2_T) - 0.03512539293302167).abs < 1e-12
#guard (predictRankLoop pl2_beta pl2_T).map (·.1) == [2, 3, 1, 4]
#guard pl2_close ((predictRankLoop pl2_beta pl2_T).map (·.2))
  [0.34675451382308253, 0.09175149968683466, 0.4700302883797827, 0.05633830517727837]
#guard pl2_close (predictWinLoop pl2_beta (pl2_T.take 2)) [0.9846024879599927, 0.015397512040007277]
#guard ((predictDrawLoop pl2_beta (pl2_T.take 2)) - 0.03133071876072546).abs < 1e-12
#guard (predictRankLoop pl2_beta (pl2_T.take 2)).map (·.1) == [1, 2]
#guard pl2_close ((predictRankLoop pl2_beta (pl2_T.take 2)).map (·.2)) [0.9786946929822499, 0.00563994763738736]
-- the itertools idioms and `_unwind` on Python's own examples
#guard permutations2 [1, 2, 3] == [(1, 2), (1, 3), (2, 1), (2, 3), (3, 1), (3, 2)]
#guard zipLongestIter 2 [1, 2, 3, 4, 5] == [[some 1, some 2], [some 3, some 4], [some 5, none]]
#guard unwindCode leNat [3, 1, 2, 1] ["a", "b", "c", "d"] == (["b", "d", "c", "a"], [1, 3, 2, 0])
#guard unwindCode leNat [3, 1, 2, 1, 0] ["a", "b", "c", "d"] == (["b", "d", "c", "a"], [1, 3, 2, 0])
#guard unwindCode leNat ([] : List Nat) ([] : List String) == ([], [])
-- `mu = -0.0` for a team's first player is the one `float` for which `FirstPlayerZeroAdd` fails:
-- the literal `_calculate_team_ratings` keeps `-0.0`, `teamAgg` gives `+0.0`
#guard ((calcTeamRatingsNoRanks [[(⟨0, -0.0, 1.0⟩ : Rating Float)]]).map (·.mu.toBits)) == [(-0.0 : Float).toBits]
#guard ((aggs [[(⟨0, -0.0, 1.0⟩ : Rating Float)]]).map (·.mu.toBits)) == [(0.0 : Float).toBits]

/-! ## `_rank_data` for every total preorder

`OrderLaws α` — `≤` is a total preorder and `<` its strict part — are the first four fields of `MonoArith`
(`MonoArith.orderLaws`).  Over them the literal `_rank_data` equals the closed form `rankData` on every list
(`rankDataCode_eq_of_preorder`, in `OSProofs/CodeShaped.lean`), hence in every monotone arithmetic. -/

section
variable {α : Type} [Scalar α]

theorem rankDataCode_eq_mono (M : MonoArith α) (v : List α) : rankDataCode v = rankData v :=
  rankDataCode_eq_of_preorder M.orderLaws v

/-- **`predict_rank`, statement by statement** (literal `_rank_data`, `_arg_sort`, `max(ranks)`,
`abs(_ - max_ordinal) + 1`, the final `zip`) **equals the closed form `predictRank` whenever the order is a
total preorder** and every team's first player satisfies `0 + mu = mu`, `0 + sigma² = sigma²`
(`FirstPlayerZeroAdd`; the code's `reduce` starts from the first player, the model's `sumL` from `0`). -/
theorem predictRankLoop_eq_of_preorder (O : OrderLaws α) (beta : α) (teams : List (List (Rating α)))
    (hz : ∀ team ∈ teams, FirstPlayerZeroAdd team) :
    predictRankLoop beta teams = predictRank beta teams :=
  predictRankLoop_eq beta teams hz (rankDataCode_eq_of_preorder O _)

/-- **The literal `predict_rank` equals the model's `predictRank` in every monotone arithmetic**, under
`FirstPlayerZeroAdd` on every team: the hypothesis `hrd` of `predictRankLoop_eq` is discharged. -/
theorem predictRankLoop_eq_mono (M : MonoArith α) (beta : α) (teams : List (List (Rating α)))
    (hz : ∀ team ∈ teams, FirstPlayerZeroAdd team) :
    predictRankLoop beta teams = predictRank beta teams :=
  predictRankLoop_eq_of_preorder M.orderLaws beta teams hz

/-! ### signed zeros at `Float`

`+0.0` and `-0.0` are equivalent (`≤` both ways) but not identical; the literal code and the closed form
treat them as one run.  Expected values: the pinned Python library,
`_rank_data([0.0,-0.0,1.0,-0.0]), _arg_sort([0.0,-0.0,1.0,-0.0])` prints `[1, 1, 4, 1] [0, 1, 3, 2]`;
`_rank_data([-0.0,0.5,0.0,0.5]), _arg_sort(…)` prints `[1, 3, 1, 3] [0, 2, 1, 3]`. -/

#guard argSortCode ([0.0, -0.0, 1.0, -0.0] : List Float) == [0, 1, 3, 2]
#guard rankDataCode ([0.0, -0.0, 1.0, -0.0] : List Float) == [1, 1, 4, 1]
#guard rankData ([0.0, -0.0, 1.0, -0.0] : List Float) == [1, 1, 4, 1]
#guard argSortCode ([-0.0, 0.5, 0.0, 0.5] : List Float) == [0, 2, 1, 3]
#guard rankDataCode ([-0.0, 0.5, 0.0, 0.5] : List Float) == [1, 3, 1, 3]
#guard rankData ([-0.0, 0.5, 0.0, 0.5] : List Float) == [1, 3, 1, 3]

end

end OS
