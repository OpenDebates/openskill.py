import OSProofs.FL3Lemmas

/-!
# FL3 — the two-team direction of learning (C05, second clause) in every monotone arithmetic

A two-team game `[t0, t1]`; the same two teams (same `mu`, `sig2`, players) with three rank vectors:
team 0 ahead (`rw0 < rw1`), tied (`rd = rd`), behind (`rl1 < rl0`).  `FL3_omega0 K L P t0 t1 r0 r1` is team 0's
`ω` as `omegaDelta K L P [t0 with rank r0, t1 with rank r1]` computes it (`FL_C05_two_team_omegaDelta`),
`FL3_omega1` team 1's.  `FL3Chain lo dr wi` is `lo ≤ dr ∧ dr ≤ wi ∧ lo ≤ 0 ∧ 0 ≤ wi`.

**Laws beyond `MonoArith`.**  The chain compares products with a factor of unknown or negative sign (the
draw `ω`), which `MonoArith.mul_le_mul'` does not cover.  The four laws this needs (`ChainLaws`; which model
uses which is said at their definitions in `OSProofs/FL3Lemmas.lean`) are not derivable from `MonoArith`;
they hold in ℝ and in every "exact, then monotone rounding" arithmetic (`Props/FL3Inst.lean`).
-/

namespace OS
open Scalar
variable {α : Type} [Scalar α]

/-- `FL3_omega0`, `FL3_omega1` are what `omegaDelta` returns for the two-team game -/
theorem FL_C05_two_team_omegaDelta (K : Kind) (L : Leaves α) (P : Params α) (t0 t1 : TeamAgg α)
    (r0 r1 : Nat) :
    (omegaDelta K L P [fl3_wr t0 r0, fl3_wr t1 r1]).map (·.1)
      = [FL3_omega0 K L P t0 t1 r0 r1, FL3_omega1 K L P t0 t1 r0 r1] := by
  rw [omegaDelta_eq]
  rfl

section
variable (M : MonoArith α)
include M

/-! ### the computed `ω` -/

/-- **Bradley–Terry (full and partial pairing), team 0**: `ω_loss ≤ ω_draw ≤ ω_win`, `ω_loss ≤ 0 ≤ ω_win`,
as computed: `ω = 0 + σ²₀/c · (s − p)` with `s = 0, 1/2, 1`.  Hypotheses: team 0's variance `≥ 0`, the
computed `c_01 > 0`. -/
theorem FL_C05_two_team_omega_BT (hL : MulLeftMonoNonpos α) (K : Kind) (hK : K = .BTF ∨ K = .BTP)
    (L : Leaves α) (P : Params α) (t0 t1 : TeamAgg α) (hs : 𝟘 ≤ t0.sig2)
    (hc : 𝟘 < fl3_ciq P.beta t0 t1) {rw0 rw1 rd rl0 rl1 : Nat} (hw : rw0 < rw1) (hl : rl1 < rl0) :
    FL3Chain (FL3_omega0 K L P t0 t1 rl0 rl1) (FL3_omega0 K L P t0 t1 rd rd)
      (FL3_omega0 K L P t0 t1 rw0 rw1) := by
  simp only [fl3_omega0_BT K hK, fl3_btPair_fst, if_pos hw, if_neg (Nat.lt_asymm hl),
    if_neg (Nat.ne_of_lt hl), Nat.lt_irrefl, if_false, if_true]
  -- `s2c · (s − p)` is monotone in the score `s`, and `0 ≤ 1/2 ≤ 1`, `p ∈ [0, 1]`
  have hk := M.div_nonneg' hs hc
  have hp := M.logistic_mem ((t1.mu - t0.mu) / fl3_ciq P.beta t0 t1)
  exact M.fl3_chain_singleton
    ⟨M.mul_le_mul_of_nonneg_left hL hk (M.sub_le_sub' M.half_nonneg (M.le_refl' _)),
     M.mul_le_mul_of_nonneg_left hL hk (M.sub_le_sub' M.half_le_one (M.le_refl' _)),
     M.mul_nonpos_right' hk (M.sub_nonpos' hp.1), M.mul_nonneg' hk (M.sub_nonneg' hp.2)⟩

/-- **Bradley–Terry, team 1** (it wins when `rw1 < rw0`) -/
theorem FL_C05_two_team_omega_BT_team1 (hL : MulLeftMonoNonpos α) (K : Kind)
    (hK : K = .BTF ∨ K = .BTP) (L : Leaves α) (P : Params α) (t0 t1 : TeamAgg α) (hs : 𝟘 ≤ t1.sig2)
    (hc : 𝟘 < fl3_ciq P.beta t1 t0) {rw0 rw1 rd rl0 rl1 : Nat} (hw : rw1 < rw0) (hl : rl0 < rl1) :
    FL3Chain (FL3_omega1 K L P t0 t1 rl0 rl1) (FL3_omega1 K L P t0 t1 rd rd)
      (FL3_omega1 K L P t0 t1 rw0 rw1) := by
  have hPL : K ≠ .PL := by rintro rfl; simp at hK
  simp only [fl3_omega1_swap hPL]
  exact FL_C05_two_team_omega_BT M hL K hK L P t1 t0 hs hc hw hl

/-- **Plackett–Luce, team 0.**  With `e_i = exp(μ_i/c)`, `S = (0 + e₀) + e₁`, `p = e₀/S`, `w = σ²₀/c`:
`ω_win = (0 + (1 − p)/1)·w`, `ω_draw = ((0 + (1 − p)/2) + −(p/2))·w`,
`ω_loss = ((0 + (1 − e₀/(0 + e₀))/1) + −(p/1))·w`, and `ω_loss ≤ ω_draw ≤ ω_win`, `ω_loss ≤ 0 ≤ ω_win`.
Hypotheses: team 0's variance `≥ 0`, the computed `c > 0` and `exp(μ₀/c) > 0`. -/
theorem FL_C05_two_team_omega_PL (hR : MulRightMonoNonpos α) (hH : HalfLeOne α)
    (L : Leaves α) (P : Params α) (t0 t1 : TeamAgg α) (hs : 𝟘 ≤ t0.sig2)
    (hc : 𝟘 < plC P.beta [t0, t1]) (he : 𝟘 < exp (t0.mu / plC P.beta [t0, t1]))
    {rw0 rw1 rd rl0 rl1 : Nat} (hw : rw0 < rw1) (hl : rl1 < rl0) :
    FL3Chain (FL3_omega0 .PL L P t0 t1 rl0 rl1) (FL3_omega0 .PL L P t0 t1 rd rd)
      (FL3_omega0 .PL L P t0 t1 rw0 rw1) := by
  simp only [fl3_omega0_PL, fl3_pl0_loss _ _ _ _ hl, fl3_pl0_draw, fl3_pl0_win _ _ _ _ hw]
  exact (M.fl3_pl_chain hR hH he
    (M.le_sumL_pair (M.orderLaws.le_of_lt he) (M.exp_nonneg' (t1.mu / plC P.beta [t0, t1]))).1
    (M.div_nonneg' hs hc)).1

/-- **Plackett–Luce, team 1** (its own term comes last in the sums) -/
theorem FL_C05_two_team_omega_PL_team1 (hR : MulRightMonoNonpos α) (hH : HalfLeOne α)
    (L : Leaves α) (P : Params α) (t0 t1 : TeamAgg α) (hs : 𝟘 ≤ t1.sig2)
    (hc : 𝟘 < plC P.beta [t0, t1]) (he : 𝟘 < exp (t1.mu / plC P.beta [t0, t1]))
    {rw0 rw1 rd rl0 rl1 : Nat} (hw : rw1 < rw0) (hl : rl0 < rl1) :
    FL3Chain (FL3_omega1 .PL L P t0 t1 rl0 rl1) (FL3_omega1 .PL L P t0 t1 rd rd)
      (FL3_omega1 .PL L P t0 t1 rw0 rw1) := by
  simp only [fl3_omega1_PL, fl3_pl1_loss _ _ _ _ hl, fl3_pl1_draw, fl3_pl1_win _ _ _ _ hw]
  exact (M.fl3_pl_chain hR hH he
    (M.le_sumL_pair (M.exp_nonneg' (t0.mu / plC P.beta [t0, t1])) (M.orderLaws.le_of_lt he)).2
    (M.div_nonneg' hs hc)).2

/-- **Thurstone–Mosteller (full and partial pairing), team 0**, under `LeavesChainAt` at the two arguments the
pair is evaluated at: `ω_win = 0 + s2c·v(x,t)`, `ω_draw = 0 + s2c·vt(x,t)`, `ω_loss = 0 + (−s2c)·v(−x,t)`. -/
theorem FL_C05_two_team_omega_TM (hL : MulLeftMonoNonpos α) (hN : NegMulLe α) (K : Kind)
    (hK : K = .TMF ∨ K = .TMP) (L : Leaves α) (P : Params α) (t0 t1 : TeamAgg α)
    (hs : 𝟘 ≤ t0.sig2) (hc : 𝟘 < fl3_tmC (fl3_cmul K) P.beta t0 t1)
    (hLv : LeavesChainAt L (fl3_tmD (fl3_cmul K) P.beta t0 t1)
      (fl3_tmT (fl3_cmul K) P.beta P.kappa t0 t1))
    {rw0 rw1 rd rl0 rl1 : Nat} (hw : rw0 < rw1) (hl : rl1 < rl0) :
    FL3Chain (FL3_omega0 K L P t0 t1 rl0 rl1) (FL3_omega0 K L P t0 t1 rd rd)
      (FL3_omega0 K L P t0 t1 rw0 rw1) := by
  simp only [fl3_omega0_TM K hK, fl3_tmPair_fst, if_pos hw, if_neg (Nat.lt_asymm hl), if_pos hl,
    Nat.lt_irrefl, if_false]
  have hk := M.div_nonneg' hs hc
  exact M.fl3_chain_singleton
    ⟨M.le_trans' (hN _ _) (M.mul_le_mul_of_nonneg_left hL hk hLv.neg_v_le_vt),
     M.mul_le_mul_of_nonneg_left hL hk hLv.vt_le_v,
     M.mul_nonpos_left' (M.neg_nonpos' hk) hLv.v_neg_nonneg, M.mul_nonneg' hk hLv.v_nonneg⟩

theorem FL_C05_two_team_omega_TM_team1 (hL : MulLeftMonoNonpos α) (hN : NegMulLe α) (K : Kind)
    (hK : K = .TMF ∨ K = .TMP) (L : Leaves α) (P : Params α) (t0 t1 : TeamAgg α)
    (hs : 𝟘 ≤ t1.sig2) (hc : 𝟘 < fl3_tmC (fl3_cmul K) P.beta t1 t0)
    (hLv : LeavesChainAt L (fl3_tmD (fl3_cmul K) P.beta t1 t0)
      (fl3_tmT (fl3_cmul K) P.beta P.kappa t1 t0))
    {rw0 rw1 rd rl0 rl1 : Nat} (hw : rw1 < rw0) (hl : rl0 < rl1) :
    FL3Chain (FL3_omega1 K L P t0 t1 rl0 rl1) (FL3_omega1 K L P t0 t1 rd rd)
      (FL3_omega1 K L P t0 t1 rw0 rw1) := by
  have hPL : K ≠ .PL := by rintro rfl; simp at hK
  simp only [fl3_omega1_swap hPL]
  exact FL_C05_two_team_omega_TM M hL hN K hK L P t1 t0 hs hc hLv hw hl

/-- **All five models, team 0**: the `ω` chain from the four extra laws, the positive computed divisors
(`DivisorsPos` of `OSProofs/FL1Lemmas.lean`; it does not mention ranks) and, for Thurstone–Mosteller, the
leaf facts. -/
theorem FL_C05_two_team_omega (hC : ChainLaws α) (K : Kind) (L : Leaves α) (P : Params α)
    (t0 t1 : TeamAgg α) (hs : 𝟘 ≤ t0.sig2) (hd : DivisorsPos K P [t0, t1])
    (hLv : K = .TMF ∨ K = .TMP → LeavesChainAt L (fl3_tmD (fl3_cmul K) P.beta t0 t1)
      (fl3_tmT (fl3_cmul K) P.beta P.kappa t0 t1))
    {rw0 rw1 rd rl0 rl1 : Nat} (hw : rw0 < rw1) (hl : rl1 < rl0) :
    FL3Chain (FL3_omega0 K L P t0 t1 rl0 rl1) (FL3_omega0 K L P t0 t1 rd rd)
      (FL3_omega0 K L P t0 t1 rw0 rw1) := by
  have m0 : t0 ∈ [t0, t1] := List.mem_cons_self
  have m1 : t1 ∈ [t0, t1] := List.mem_cons_of_mem _ List.mem_cons_self
  rcases K.pl_or_bt_or_tm with rfl | hK | hK
  · exact FL_C05_two_team_omega_PL M hC.mulR hC.half L P t0 t1 hs hd.1 (hd.2.2 t0 m0) hw hl
  · exact FL_C05_two_team_omega_BT M hC.mulL K hK L P t0 t1 hs (hd.bt hK t0 m0 t1 m1) hw hl
  · exact FL_C05_two_team_omega_TM M hC.mulL hC.negMul K hK L P t0 t1 hs (hd.tm hK t0 m0 t1 m1)
      (hLv hK) hw hl

theorem FL_C05_two_team_omega_team1 (hC : ChainLaws α) (K : Kind) (L : Leaves α) (P : Params α)
    (t0 t1 : TeamAgg α) (hs : 𝟘 ≤ t1.sig2) (hd : DivisorsPos K P [t0, t1])
    (hLv : K = .TMF ∨ K = .TMP → LeavesChainAt L (fl3_tmD (fl3_cmul K) P.beta t1 t0)
      (fl3_tmT (fl3_cmul K) P.beta P.kappa t1 t0))
    {rw0 rw1 rd rl0 rl1 : Nat} (hw : rw1 < rw0) (hl : rl0 < rl1) :
    FL3Chain (FL3_omega1 K L P t0 t1 rl0 rl1) (FL3_omega1 K L P t0 t1 rd rd)
      (FL3_omega1 K L P t0 t1 rw0 rw1) := by
  have m0 : t0 ∈ [t0, t1] := List.mem_cons_self
  have m1 : t1 ∈ [t0, t1] := List.mem_cons_of_mem _ List.mem_cons_self
  rcases K.pl_or_bt_or_tm with rfl | hK | hK
  · exact FL_C05_two_team_omega_PL_team1 M hC.mulR hC.half L P t0 t1 hs hd.1 (hd.2.2 t1 m1) hw hl
  · exact FL_C05_two_team_omega_BT_team1 M hC.mulL K hK L P t0 t1 hs (hd.bt hK t1 m1 t0 m0) hw hl
  · exact FL_C05_two_team_omega_TM_team1 M hC.mulL hC.negMul K hK L P t0 t1 hs
      (hd.tm hK t1 m1 t0 m0) (hLv hK) hw hl

/-! ### lifted through `applyTeam` / `compute`

`FL3ComputeChain K L P T0 T1 i T rl0 rl1 rd rw0 rw1` says: slot `i` of
`compute K L P [T0, T1] [rl0, rl1]`, of `compute … [rd, rd]` and of `compute … [rw0, rw1]` exist (`Tl`, `Td`, `Tw`), and
for every member `p` at position `j` of the prior team `T` there are `pl`, `pd`, `pw` at position `j` of
`Tl`, `Td`, `Tw` with the same id and `pl.mu ≤ pd.mu ≤ pw.mu`, `pl.mu ≤ p.mu ≤ pw.mu` — exactly, as computed
(`mu' = mu + σ²/Σσ² · ω`). -/

/-- **`mu + share·ω` is monotone in `ω`** (`share = σ·σ/Σσ² ≥ 0`): the chain of the `ω` becomes a chain of
every member's posterior mu. -/
theorem FL_applyTeam_mu_chain (hL : MulLeftMonoNonpos α) {kappa : α} (t : TeamAgg α)
    (hs : 𝟘 < t.sig2) {ol od ow : α} (h : FL3Chain ol od ow) (dl dd dw : α) :
    FL3TeamChain t.players (applyTeam kappa t ol dl) (applyTeam kappa t od dd)
      (applyTeam kappa t ow dw) := by
  simp only [fl1_applyTeam_eq_map]
  exact M.fl3_team_chain hL hs h dl dd dw t.players

theorem fl3_pair_sig2_nonneg (T0 T1 : List (Rating α)) :
    ∀ t ∈ [teamAgg T0 0, teamAgg T1 0], 𝟘 ≤ t.sig2 :=
  List.forall_mem_cons.2 ⟨M.fl1_teamAgg_sig2_nonneg T0 0,
    List.forall_mem_cons.2 ⟨M.fl1_teamAgg_sig2_nonneg T1 0, nofun⟩⟩

/-- **C05 two-team chain, Bradley–Terry (full and partial pairing), team 0.**  Only hypothesis on the game:
the computed variance of team 0 is `> 0` (that of team 1 is `≥ 0` by the laws, and `c_01 > 0` follows).
Every member of team 0: `mu'_loss ≤ mu'_draw ≤ mu'_win` and `mu'_loss ≤ mu ≤ mu'_win`. -/
theorem FL_C05_two_team_chain_BT (hL : MulLeftMonoNonpos α) (K : Kind) (hK : K = .BTF ∨ K = .BTP)
    (L : Leaves α) (P : Params α) (T0 T1 : List (Rating α))
    (hv : 𝟘 < sumL (T0.map (fun p => p.sigma * p.sigma)))
    {rw0 rw1 rd rl0 rl1 : Nat} (hw : rw0 < rw1) (hl : rl1 < rl0) :
    FL3ComputeChain K L P T0 T1 0 T0 rl0 rl1 rd rw0 rw1 :=
  M.fl3_lift0 hL K L P T0 T1 hv
    (FL_C05_two_team_omega_BT M hL K hK L P _ _ (M.orderLaws.le_of_lt hv)
      (M.fl1_ciq_pos P.beta (teamAgg T0 0) (teamAgg T1 0) hv (M.fl1_teamAgg_sig2_nonneg T1 0)) hw hl)

/-- **Bradley–Terry, team 1** (it wins when `rw1 < rw0`) -/
theorem FL_C05_two_team_chain_BT_team1 (hL : MulLeftMonoNonpos α) (K : Kind)
    (hK : K = .BTF ∨ K = .BTP) (L : Leaves α) (P : Params α) (T0 T1 : List (Rating α))
    (hv : 𝟘 < sumL (T1.map (fun p => p.sigma * p.sigma)))
    {rw0 rw1 rd rl0 rl1 : Nat} (hw : rw1 < rw0) (hl : rl0 < rl1) :
    FL3ComputeChain K L P T0 T1 1 T1 rl0 rl1 rd rw0 rw1 :=
  M.fl3_lift1 hL K L P T0 T1 hv
    (FL_C05_two_team_omega_BT_team1 M hL K hK L P _ _ (M.orderLaws.le_of_lt hv)
      (M.fl1_ciq_pos P.beta (teamAgg T1 0) (teamAgg T0 0) hv (M.fl1_teamAgg_sig2_nonneg T0 0)) hw hl)

/-- **C05 two-team chain, Plackett–Luce, team 0.**  Hypotheses on the game: team 0's computed variance `> 0`
and `exp(μ₀/c) > 0` (no underflow of the exponential); `c > 0` follows. -/
theorem FL_C05_two_team_chain_PL (hL : MulLeftMonoNonpos α) (hR : MulRightMonoNonpos α)
    (hH : HalfLeOne α) (L : Leaves α) (P : Params α) (T0 T1 : List (Rating α))
    (hv : 𝟘 < sumL (T0.map (fun p => p.sigma * p.sigma)))
    (he : 𝟘 < exp ((teamAgg T0 0).mu / plC P.beta [teamAgg T0 0, teamAgg T1 0]))
    {rw0 rw1 rd rl0 rl1 : Nat} (hw : rw0 < rw1) (hl : rl1 < rl0) :
    FL3ComputeChain .PL L P T0 T1 0 T0 rl0 rl1 rd rw0 rw1 :=
  M.fl3_lift0 hL .PL L P T0 T1 hv
    (FL_C05_two_team_omega_PL M hR hH L P _ _ (M.orderLaws.le_of_lt hv)
      (M.fl1_plC_pos P.beta _ (fl3_pair_sig2_nonneg M T0 T1) List.mem_cons_self hv)
      he hw hl)

theorem FL_C05_two_team_chain_PL_team1 (hL : MulLeftMonoNonpos α) (hR : MulRightMonoNonpos α)
    (hH : HalfLeOne α) (L : Leaves α) (P : Params α) (T0 T1 : List (Rating α))
    (hv : 𝟘 < sumL (T1.map (fun p => p.sigma * p.sigma)))
    (he : 𝟘 < exp ((teamAgg T1 0).mu / plC P.beta [teamAgg T0 0, teamAgg T1 0]))
    {rw0 rw1 rd rl0 rl1 : Nat} (hw : rw1 < rw0) (hl : rl0 < rl1) :
    FL3ComputeChain .PL L P T0 T1 1 T1 rl0 rl1 rd rw0 rw1 :=
  M.fl3_lift1 hL .PL L P T0 T1 hv
    (FL_C05_two_team_omega_PL_team1 M hR hH L P _ _ (M.orderLaws.le_of_lt hv)
      (M.fl1_plC_pos P.beta _ (fl3_pair_sig2_nonneg M T0 T1) (List.mem_cons_of_mem _ List.mem_cons_self) hv)
      he hw hl)

/-- **C05 two-team chain, Thurstone–Mosteller, team 0**, under the leaf facts `LeavesChainAt` and a positive
computed divisor `cmul · c_01`. -/
theorem FL_C05_two_team_chain_TM (hL : MulLeftMonoNonpos α) (hN : NegMulLe α) (K : Kind)
    (hK : K = .TMF ∨ K = .TMP) (L : Leaves α) (P : Params α) (T0 T1 : List (Rating α))
    (hv : 𝟘 < sumL (T0.map (fun p => p.sigma * p.sigma)))
    (hc : 𝟘 < fl3_tmC (fl3_cmul K) P.beta (teamAgg T0 0) (teamAgg T1 0))
    (hLv : LeavesChainAt L (fl3_tmD (fl3_cmul K) P.beta (teamAgg T0 0) (teamAgg T1 0))
      (fl3_tmT (fl3_cmul K) P.beta P.kappa (teamAgg T0 0) (teamAgg T1 0)))
    {rw0 rw1 rd rl0 rl1 : Nat} (hw : rw0 < rw1) (hl : rl1 < rl0) :
    FL3ComputeChain K L P T0 T1 0 T0 rl0 rl1 rd rw0 rw1 :=
  M.fl3_lift0 hL K L P T0 T1 hv
    (FL_C05_two_team_omega_TM M hL hN K hK L P _ _ (M.orderLaws.le_of_lt hv) hc hLv hw hl)

theorem FL_C05_two_team_chain_TM_team1 (hL : MulLeftMonoNonpos α) (hN : NegMulLe α) (K : Kind)
    (hK : K = .TMF ∨ K = .TMP) (L : Leaves α) (P : Params α) (T0 T1 : List (Rating α))
    (hv : 𝟘 < sumL (T1.map (fun p => p.sigma * p.sigma)))
    (hc : 𝟘 < fl3_tmC (fl3_cmul K) P.beta (teamAgg T1 0) (teamAgg T0 0))
    (hLv : LeavesChainAt L (fl3_tmD (fl3_cmul K) P.beta (teamAgg T1 0) (teamAgg T0 0))
      (fl3_tmT (fl3_cmul K) P.beta P.kappa (teamAgg T1 0) (teamAgg T0 0)))
    {rw0 rw1 rd rl0 rl1 : Nat} (hw : rw1 < rw0) (hl : rl0 < rl1) :
    FL3ComputeChain K L P T0 T1 1 T1 rl0 rl1 rd rw0 rw1 :=
  M.fl3_lift1 hL K L P T0 T1 hv
    (FL_C05_two_team_omega_TM_team1 M hL hN K hK L P _ _ (M.orderLaws.le_of_lt hv) hc hLv hw hl)

/-- **`FL_C05_two_team_chain (K)`: the two-team chain for all five models, team 0.**  In every monotone
arithmetic that also satisfies the four `ChainLaws`: for a two-team game whose team 0 has a positive computed
variance and whose remaining computed divisors are positive (`DivisorsPosRest`: nothing for Bradley–Terry;
`0 < c·c`, `0 < exp(μ_t/c)` for Plackett–Luce; `0 < cmul·c_iq` for Thurstone–Mosteller, where the leaf facts
`LeavesChainAt` are needed too), every member of team 0 has
`mu'_loss ≤ mu'_draw ≤ mu'_win` and `mu'_loss ≤ mu ≤ mu'_win`, exactly as computed. -/
theorem FL_C05_two_team_chain (hC : ChainLaws α) (K : Kind) (L : Leaves α) (P : Params α)
    (T0 T1 : List (Rating α)) (hv : 𝟘 < sumL (T0.map (fun p => p.sigma * p.sigma)))
    (hd : DivisorsPosRest K P [teamAgg T0 0, teamAgg T1 0])
    (hLv : K = .TMF ∨ K = .TMP →
      LeavesChainAt L (fl3_tmD (fl3_cmul K) P.beta (teamAgg T0 0) (teamAgg T1 0))
        (fl3_tmT (fl3_cmul K) P.beta P.kappa (teamAgg T0 0) (teamAgg T1 0)))
    {rw0 rw1 rd rl0 rl1 : Nat} (hw : rw0 < rw1) (hl : rl1 < rl0) :
    FL3ComputeChain K L P T0 T1 0 T0 rl0 rl1 rd rw0 rw1 := by
  have m0 : teamAgg T0 0 ∈ [teamAgg T0 0, teamAgg T1 0] := List.mem_cons_self
  have m1 : teamAgg T1 0 ∈ [teamAgg T0 0, teamAgg T1 0] := List.mem_cons_of_mem _ List.mem_cons_self
  rcases K.pl_or_bt_or_tm with rfl | hK | hK
  · exact FL_C05_two_team_chain_PL M hC.mulL hC.mulR hC.half L P T0 T1 hv (hd.2 _ m0) hw hl
  · exact FL_C05_two_team_chain_BT M hC.mulL K hK L P T0 T1 hv hw hl
  · -- `DivisorsPosRest.tm`, then `DivisorsPos.tm`
    exact FL_C05_two_team_chain_TM M hC.mulL hC.negMul K hK L P T0 T1 hv
      ((hd.tm hK).tm hK _ m0 _ m1) (hLv hK) hw hl

/-- **the two-team chain for all five models, team 1** (it wins when `rw1 < rw0`) -/
theorem FL_C05_two_team_chain_team1 (hC : ChainLaws α) (K : Kind) (L : Leaves α) (P : Params α)
    (T0 T1 : List (Rating α)) (hv : 𝟘 < sumL (T1.map (fun p => p.sigma * p.sigma)))
    (hd : DivisorsPosRest K P [teamAgg T0 0, teamAgg T1 0])
    (hLv : K = .TMF ∨ K = .TMP →
      LeavesChainAt L (fl3_tmD (fl3_cmul K) P.beta (teamAgg T1 0) (teamAgg T0 0))
        (fl3_tmT (fl3_cmul K) P.beta P.kappa (teamAgg T1 0) (teamAgg T0 0)))
    {rw0 rw1 rd rl0 rl1 : Nat} (hw : rw1 < rw0) (hl : rl0 < rl1) :
    FL3ComputeChain K L P T0 T1 1 T1 rl0 rl1 rd rw0 rw1 := by
  have m0 : teamAgg T0 0 ∈ [teamAgg T0 0, teamAgg T1 0] := List.mem_cons_self
  have m1 : teamAgg T1 0 ∈ [teamAgg T0 0, teamAgg T1 0] := List.mem_cons_of_mem _ List.mem_cons_self
  rcases K.pl_or_bt_or_tm with rfl | hK | hK
  · exact FL_C05_two_team_chain_PL_team1 M hC.mulL hC.mulR hC.half L P T0 T1 hv (hd.2 _ m1) hw hl
  · exact FL_C05_two_team_chain_BT_team1 M hC.mulL K hK L P T0 T1 hv hw hl
  · exact FL_C05_two_team_chain_TM_team1 M hC.mulL hC.negMul K hK L P T0 T1 hv
      ((hd.tm hK).tm hK _ m1 _ m0) (hLv hK) hw hl

/-! ### the hypotheses are satisfiable -/

/-- `0 ≤ 1/2 ≤ 1` as computed: derived from `div_nonneg'`, `div_le_one'`, `ofNat_le'`, `ofNat_lt'` -/
example : (𝟘 : α) ≤ 𝟙 / ofNat 2 ∧ (𝟙 : α) / ofNat 2 ≤ 𝟙 := ⟨M.half_nonneg, M.half_le_one⟩

/-- `LeavesChainAt` has a model in every monotone arithmetic (the zero leaves) -/
example (x t : α) :
    LeavesChainAt (⟨fun _ _ => 𝟘, fun _ _ => 𝟘, fun _ _ => 𝟘, fun _ _ => 𝟘⟩ : Leaves α) x t :=
  ⟨M.le_refl' _, M.le_refl' _, M.le_refl' _, M.neg_nonpos' (M.le_refl' _)⟩

/-- `HalfLeOne` follows from "division by 1 is exact" -/
example (h : ∀ a : α, a / ofNat 1 = a) : HalfLeOne α := M.fl3_halfLeOne_of_div_one h

/-- the dense ranks `rate` produces for a two-team game are an instance: win `[0, 1]`, tie `[0, 0]`,
loss `[1, 0]` -/
example (hL : MulLeftMonoNonpos α) (L : Leaves α) (P : Params α) (T0 T1 : List (Rating α))
    (hv : 𝟘 < sumL (T0.map (fun p => p.sigma * p.sigma))) :
    FL3ComputeChain .BTF L P T0 T1 0 T0 1 0 0 0 1 :=
  FL_C05_two_team_chain_BT M hL .BTF (Or.inl rfl) L P T0 T1 hv (by decide) (by decide)

end

end OS
