import OSProofs.C07Lemmas
/-!
# C07 — no rating inflation

Every member `j` of team `i` receives `Δμ_ij = (σ̂_ij² / sig2_i) · Ω_i` with `sig2_i = Σ_j σ̂_ij²`
(`applyTeam`), so the total mu change of team `i` is exactly `Ω_i` (`team_total_change`) and the
precision-weighted mu change of a game is `Σ_i Ω_i / sig2_i`.  For a team list `ts` this quantity is
written `(((omegaDelta K L P ts).zip ts).map (fun x => x.1.1 / x.2.sig2)).sum` below.

* Plackett–Luce, Bradley–Terry (full and partial pairing): the quantity is exactly `0`, for every
  number of teams and every rank vector (ties included, no sortedness needed).
* Thurstone–Mosteller (full and partial pairing): exactly `0` unless two tied teams that are paired
  have exactly equal mu; each such pair contributes at most `2κ / c_iq²`.
-/
namespace OS
open Scalar Finset

/-- **C07, Plackett–Luce.** The precision-weighted mu change `Σ_i Ω_i / sig2_i` is zero, for every
number of teams and every rank vector.  (No hypothesis on `c = plC β ts` is needed.) -/
theorem C07_PL (L : Leaves ℝ) (P : Params ℝ) (ts : List (TeamAgg ℝ))
    (hs : ∀ t ∈ ts, t.sig2 ≠ 0) :
    (((omegaDelta .PL L P ts).zip ts).map (fun x => x.1.1 / x.2.sig2)).sum = 0 := by
  rw [C01_PL, c07_sum_ofFn]
  exact SpecPL_zero_sum (gameOf ts) P.beta fun i => hs _ (List.get_mem ts i)

/-- The Bradley–Terry pair term is antisymmetric after dividing by the team variances:
`Ω_iq / sig2_i + Ω_qi / sig2_q = 0` (because `c_iq = c_qi`, `p_iq + p_qi = 1`, `s_iq + s_qi = 1`). -/
theorem btPair_antisymm (β : ℝ) (g : GammaFn ℝ) (n : Nat) (ti tq : TeamAgg ℝ)
    (hi : 0 < ti.sig2) (hq : 0 < tq.sig2) :
    (btPair β g n ti tq).1 / ti.sig2 + (btPair β g n tq ti).1 / tq.sig2 = 0 := by
  have h2 := btPair_fst β g n tq ti
  rw [pairC_symm β ti tq] at h2
  refine (pairSym_eq (btPair_fst β g n ti tq) h2 hi.ne' hq.ne').trans ?_
  rw [sub_add_sub_comm, byOutcome_score_add, btP_add, sub_self, zero_div]

/-- **C07, Bradley–Terry full pairing.** `Σ_i Ω_i / sig2_i = 0` for every number of teams and every
rank vector. -/
theorem C07_BTF (L : Leaves ℝ) (P : Params ℝ) (ts : List (TeamAgg ℝ))
    (hs : ∀ t ∈ ts, 0 < t.sig2) :
    (((omegaDelta .BTF L P ts).zip ts).map (fun x => x.1.1 / x.2.sig2)).sum = 0 := by
  exact c07_full_zero ts (btPair P.beta P.gamma ts.length) fun i q _ =>
    btPair_antisymm _ _ _ _ _ (hs _ (List.get_mem ts i)) (hs _ (List.get_mem ts q))

/-- **C07, Bradley–Terry partial pairing.** `Σ_i Ω_i / sig2_i = 0`: the neighbour relation is
symmetric, so the ladder sum regroups into antisymmetric pairs. -/
theorem C07_BTP (L : Leaves ℝ) (P : Params ℝ) (ts : List (TeamAgg ℝ))
    (hs : ∀ t ∈ ts, 0 < t.sig2) :
    (((omegaDelta .BTP L P ts).zip ts).map (fun x => x.1.1 / x.2.sig2)).sum = 0 := by
  exact c07_partial_zero ts (btPair P.beta P.gamma ts.length) fun j hj =>
    btPair_antisymm _ _ _ _ _ (hs _ (List.getElem_mem _)) (hs _ (List.getElem_mem _))

/-- Different ranks: the win term of one team and the loss term of the other are `±V` evaluated at
the same argument, so they cancel exactly (no fact about `V` is needed). -/
theorem tmPair_antisymm_of_rank_ne (L : Leaves ℝ) (cmul β κ : ℝ) (g : GammaFn ℝ) (n : ℕ)
    (ti tq : TeamAgg ℝ) (hi : ti.sig2 ≠ 0) (hq : tq.sig2 ≠ 0) (hr : ti.rank ≠ tq.rank) :
    (tmPair L cmul β κ g n ti tq).1 / ti.sig2 + (tmPair L cmul β κ g n tq ti).1 / tq.sig2 = 0 :=
  (tmPair_pairSym L cmul β κ g n ti tq hi hq fun h => absurd h hr).trans (if_neg fun h => hr h.1)

/-- Tied teams with different mu: the draw terms cancel because `Ṽ` is odd (`hr` is not needed: teams
that are not tied cancel anyway). -/
theorem tmPair_antisymm_of_mu_ne (L : Leaves ℝ) (hL : LeafFacts L) (cmul β κ : ℝ) (g : GammaFn ℝ)
    (n : ℕ) (ti tq : TeamAgg ℝ) (hc : 0 < cmul) (hi : 0 < ti.sig2) (hq : 0 < tq.sig2)
    (hr : ti.rank = tq.rank) (hmu : ti.mu ≠ tq.mu) :
    (tmPair L cmul β κ g n ti tq).1 / ti.sig2 + (tmPair L cmul β κ g n tq ti).1 / tq.sig2 = 0 :=
  (tmPair_pairSym_of_leafFacts L hL cmul β κ g n ti tq hc hi hq).trans (if_neg fun h => hmu h.2)

/-- Tied teams with exactly equal mu: the two updates need not cancel, but their precision-weighted
sum is at most `2κ/c²` in absolute value -/
theorem tmPair_antisymm_bound (L : Leaves ℝ) (hL : LeafFacts L) (cmul β κ : ℝ) (g : GammaFn ℝ)
    (n : ℕ) (ti tq : TeamAgg ℝ) (hc : 0 < cmul) (hk : 0 ≤ κ) (hi : 0 < ti.sig2) (hq : 0 < tq.sig2)
    (hr : ti.rank = tq.rank) (hmu : ti.mu = tq.mu) :
    |(tmPair L cmul β κ g n ti tq).1 / ti.sig2 + (tmPair L cmul β κ g n tq ti).1 / tq.sig2|
      ≤ tmSlack cmul β κ ti tq := by
  have hcpos : 0 < cmul * pairC β ti tq := mul_pos hc (pairC_pos_of_sig2 β hi hq.le)
  -- both directions are `Ṽ(0, t)`, and `|Ṽ(0, t)| ≤ t = κ / c`
  obtain ⟨h1, h2⟩ := hL.vt_mem 0 _ (div_nonneg hk hcpos.le)
  rw [sub_zero] at h1 h2
  rw [show _ + _ = _ from tmPair_pairSym_of_leafFacts L hL cmul β κ g n ti tq hc hi hq,
    if_pos ⟨hr, hmu⟩, tmSlack_eq cmul β κ hi.le hq.le, abs_div, abs_of_pos hcpos, abs_mul, abs_two]
  exact div_le_div_of_nonneg_right (mul_le_mul_of_nonneg_left (abs_le.2 ⟨h1, h2⟩) zero_le_two)
    hcpos.le

/-- The Thurstone–Mosteller pair term is antisymmetric after dividing by the team variances whenever
the two teams are not (tied with exactly equal mu). -/
theorem tmPair_antisymm (L : Leaves ℝ) (hL : LeafFacts L) (cmul β κ : ℝ) (g : GammaFn ℝ)
    (n : ℕ) (ti tq : TeamAgg ℝ) (hc : 0 < cmul) (hi : 0 < ti.sig2) (hq : 0 < tq.sig2)
    (h : ti.rank = tq.rank → ti.mu ≠ tq.mu) :
    (tmPair L cmul β κ g n ti tq).1 / ti.sig2 + (tmPair L cmul β κ g n tq ti).1 / tq.sig2 = 0 :=
  (tmPair_pairSym_of_leafFacts L hL cmul β κ g n ti tq hc hi hq).trans
    (if_neg fun h' => h h'.1 h'.2)

theorem tmPair_abs_le (L : Leaves ℝ) (hL : LeafFacts L) (cmul β κ : ℝ) (g : GammaFn ℝ)
    (n : ℕ) (ti tq : TeamAgg ℝ) (hc : 0 < cmul) (hk : 0 ≤ κ) (hi : 0 < ti.sig2) (hq : 0 < tq.sig2) :
    |pairSym (tmPair L cmul β κ g n) ti tq|
      ≤ if ti.rank = tq.rank ∧ ti.mu = tq.mu then tmSlack cmul β κ ti tq else 0 := by
  split_ifs with h
  · exact tmPair_antisymm_bound L hL cmul β κ g n ti tq hc hk hi hq h.1 h.2
  · exact (abs_eq_zero.2 (tmPair_antisymm L hL cmul β κ g n ti tq hc hi hq
      fun hr hm => h ⟨hr, hm⟩)).le

/-- **C07, Thurstone–Mosteller full pairing, exact form.** If no two tied teams have exactly equal
mu then `Σ_i Ω_i / sig2_i = 0`. -/
theorem C07_TMF (L : Leaves ℝ) (hL : LeafFacts L) (P : Params ℝ) (ts : List (TeamAgg ℝ))
    (hs : ∀ t ∈ ts, 0 < t.sig2)
    (hne : ∀ i q : Fin ts.length, i ≠ q → ts[i].rank = ts[q].rank → ts[i].mu ≠ ts[q].mu) :
    (((omegaDelta .TMF L P ts).zip ts).map (fun x => x.1.1 / x.2.sig2)).sum = 0 := by
  rw [omegaDelta_TMF]
  exact c07_full_zero ts _ fun i q hiq =>
    tmPair_antisymm L hL _ _ _ _ _ _ _ one_pos (hs _ (List.get_mem ts i)) (hs _ (List.get_mem ts q))
      (hne i q hiq.ne)

/-- **C07, Thurstone–Mosteller full pairing, general form.** `|Σ_i Ω_i / sig2_i|` is at most the sum
of `2κ / c_iq²` over the unordered pairs of tied teams with exactly equal mu. -/
theorem C07_TMF_bound (L : Leaves ℝ) (hL : LeafFacts L) (P : Params ℝ) (ts : List (TeamAgg ℝ))
    (hk : 0 ≤ P.kappa) (hs : ∀ t ∈ ts, 0 < t.sig2) :
    |(((omegaDelta .TMF L P ts).zip ts).map (fun x => x.1.1 / x.2.sig2)).sum|
      ≤ ∑ i : Fin ts.length, ∑ q : Fin ts.length,
          if i < q then
            (if ts[i].rank = ts[q].rank ∧ ts[i].mu = ts[q].mu
              then tmSlack 1 P.beta P.kappa ts[i] ts[q] else 0)
          else 0 := by
  rw [omegaDelta_TMF]
  exact c07_full_abs_le ts _ _ fun i q _ =>
    tmPair_abs_le L hL 1 _ _ _ _ _ _ one_pos hk (hs _ (List.get_mem ts i)) (hs _ (List.get_mem ts q))

/-- **C07, Thurstone–Mosteller partial pairing, exact form.** If no two adjacent tied teams have
exactly equal mu then `Σ_i Ω_i / sig2_i = 0`. -/
theorem C07_TMP (L : Leaves ℝ) (hL : LeafFacts L) (P : Params ℝ) (ts : List (TeamAgg ℝ))
    (hs : ∀ t ∈ ts, 0 < t.sig2)
    (hne : ∀ (j : ℕ) (hj : j + 1 < ts.length),
      ts[j].rank = ts[j + 1].rank → ts[j].mu ≠ ts[j + 1].mu) :
    (((omegaDelta .TMP L P ts).zip ts).map (fun x => x.1.1 / x.2.sig2)).sum = 0 := by
  rw [omegaDelta_TMP]
  exact c07_partial_zero ts _ fun j hj =>
    tmPair_antisymm L hL _ _ _ _ _ _ _ two_pos (hs _ (List.getElem_mem _)) (hs _ (List.getElem_mem _))
      (hne j hj)

/-- **C07, Thurstone–Mosteller partial pairing, general form.** `|Σ_i Ω_i / sig2_i|` is at most the
sum of `2κ / c²` (`c = 2·√(…)`) over the adjacent pairs of tied teams with exactly equal mu. -/
theorem C07_TMP_bound (L : Leaves ℝ) (hL : LeafFacts L) (P : Params ℝ) (ts : List (TeamAgg ℝ))
    (hk : 0 ≤ P.kappa) (hs : ∀ t ∈ ts, 0 < t.sig2) :
    |(((omegaDelta .TMP L P ts).zip ts).map (fun x => x.1.1 / x.2.sig2)).sum|
      ≤ ∑ j ∈ Finset.range (ts.length - 1),
          if hj : j + 1 < ts.length then
            (if ts[j].rank = ts[j + 1].rank ∧ ts[j].mu = ts[j + 1].mu
              then tmSlack 2 P.beta P.kappa ts[j] ts[j + 1] else 0)
          else 0 := by
  rw [omegaDelta_TMP]
  exact c07_partial_abs_le ts _ _ fun j hj =>
    tmPair_abs_le L hL 2 _ _ _ _ _ _ two_pos hk (hs _ (List.getElem_mem _)) (hs _ (List.getElem_mem _))

/-- The mu changes of the members of a team add up to the team's `Ω`: the shares
`σ̂_j² / sig2` sum to one. -/
theorem team_total_change (κ : ℝ) (team : List (Rating ℝ)) (r : ℕ) (ω δ : ℝ)
    (h : (teamAgg team r).sig2 ≠ 0) :
    (((applyTeam κ (teamAgg team r) ω δ).zip (teamAgg team r).players).map
      (fun x => x.1.mu - x.2.mu)).sum = ω := by
  unfold applyTeam
  rw [List.zip_map_left, List.zip_eq_zipWith, List.zipWith_self, List.map_map, List.map_map]
  -- each member moves by `σ̂_j²·(ω / sig2)`, and the `σ̂_j²` add up to `sig2`
  rw [List.map_congr_left (g := fun p => p.sigma * p.sigma * (ω / (teamAgg team r).sig2))
    fun p _ => by
      simp only [Function.comp, Prod.map, id]
      rw [add_sub_cancel_left, div_mul_eq_mul_div, mul_div_assoc],
    List.sum_map_mul_right, ← sumL_eq_sum]
  exact mul_div_cancel₀ ω h

/-- the precision-weighted mu change of the ratings returned by `compute` is `Σ_i Ω_i / sig2_i` -/
theorem compute_weighted_change (K : Kind) (L : Leaves ℝ) (P : Params ℝ)
    (teams : List (List (Rating ℝ))) (dense : List ℕ)
    (hs : ∀ t ∈ teamAggs teams dense, t.sig2 ≠ 0) :
    (((compute K L P teams dense).zip (teamAggs teams dense)).map (fun x =>
        ((x.1.zip x.2.players).map (fun y => y.1.mu - y.2.mu)).sum / x.2.sig2)).sum
      = (((omegaDelta K L P (teamAggs teams dense)).zip (teamAggs teams dense)).map
          (fun x => x.1.1 / x.2.sig2)).sum := by
  -- both lists are images of `zip(teams, omegaDelta)` and agree entry by entry
  have hl : (compute K L P teams dense).zip (teamAggs teams dense)
      = ((teamAggs teams dense).zip (omegaDelta K L P (teamAggs teams dense))).map
          (fun x => (applyTeam P.kappa x.1 x.2.1 x.2.2, x.1)) :=
    (congrArg _ (List.map_fst_zip (omegaDelta_length K L P (teamAggs teams dense)).ge).symm).trans
      List.zip_map'
  rw [hl, ← List.zip_swap (teamAggs teams dense), List.map_map, List.map_map]
  refine congrArg List.sum (List.map_congr_left ?_)
  rintro ⟨t, ω, δ⟩ hx
  have ht := (List.of_mem_zip hx).1
  obtain ⟨S, -, r, rfl⟩ := mem_teamAggs ht
  simp only [Function.comp, Prod.swap, team_total_change P.kappa S r ω δ (hs _ ht)]

/-- **C07 on the ratings returned by `compute`** (Plackett–Luce and both Bradley–Terry models):
summing, over the teams, the total mu change of the team's players divided by the team's variance
gives exactly zero. -/
theorem C07_compute (K : Kind) (hK : K = .PL ∨ K = .BTF ∨ K = .BTP) (L : Leaves ℝ) (P : Params ℝ)
    (teams : List (List (Rating ℝ))) (dense : List ℕ)
    (hs : ∀ t ∈ teamAggs teams dense, 0 < t.sig2) :
    (((compute K L P teams dense).zip (teamAggs teams dense)).map (fun x =>
        ((x.1.zip x.2.players).map (fun y => y.1.mu - y.2.mu)).sum / x.2.sig2)).sum = 0 := by
  rw [compute_weighted_change K L P teams dense (fun t ht => (hs t ht).ne')]
  rcases hK with rfl | rfl | rfl
  · exact C07_PL L P _ (fun t ht => (hs t ht).ne')
  · exact C07_BTF L P _ hs
  · exact C07_BTP L P _ hs

/-- **C07 on the ratings returned by `compute`, Thurstone–Mosteller full pairing**, when no two tied
teams have exactly equal mu. -/
theorem C07_compute_TMF (L : Leaves ℝ) (hL : LeafFacts L) (P : Params ℝ)
    (teams : List (List (Rating ℝ))) (dense : List ℕ)
    (hs : ∀ t ∈ teamAggs teams dense, 0 < t.sig2)
    (hne : ∀ i q : Fin (teamAggs teams dense).length, i ≠ q →
      (teamAggs teams dense)[i].rank = (teamAggs teams dense)[q].rank →
      (teamAggs teams dense)[i].mu ≠ (teamAggs teams dense)[q].mu) :
    (((compute .TMF L P teams dense).zip (teamAggs teams dense)).map (fun x =>
        ((x.1.zip x.2.players).map (fun y => y.1.mu - y.2.mu)).sum / x.2.sig2)).sum = 0 := by
  rw [compute_weighted_change .TMF L P teams dense (fun t ht => (hs t ht).ne')]
  exact C07_TMF L hL P _ hs hne

/-- **C07 on the ratings returned by `compute`, Thurstone–Mosteller partial pairing**, when no two
adjacent tied teams have exactly equal mu. -/
theorem C07_compute_TMP (L : Leaves ℝ) (hL : LeafFacts L) (P : Params ℝ)
    (teams : List (List (Rating ℝ))) (dense : List ℕ)
    (hs : ∀ t ∈ teamAggs teams dense, 0 < t.sig2)
    (hne : ∀ (j : ℕ) (hj : j + 1 < (teamAggs teams dense).length),
      (teamAggs teams dense)[j].rank = (teamAggs teams dense)[j + 1].rank →
      (teamAggs teams dense)[j].mu ≠ (teamAggs teams dense)[j + 1].mu) :
    (((compute .TMP L P teams dense).zip (teamAggs teams dense)).map (fun x =>
        ((x.1.zip x.2.players).map (fun y => y.1.mu - y.2.mu)).sum / x.2.sig2)).sum = 0 := by
  rw [compute_weighted_change .TMP L P teams dense (fun t ht => (hs t ht).ne')]
  exact C07_TMP L hL P _ hs hne

/-- If all teams have the same variance `s ≠ 0`, a zero precision-weighted sum is a zero plain sum:
the mu gained by some teams is exactly the mu lost by the others. -/
theorem C07_equal_variance (K : Kind) (L : Leaves ℝ) (P : Params ℝ) (ts : List (TeamAgg ℝ))
    (s : ℝ) (hs : s ≠ 0) (h : ∀ t ∈ ts, t.sig2 = s)
    (h0 : (((omegaDelta K L P ts).zip ts).map (fun x => x.1.1 / x.2.sig2)).sum = 0) :
    ((omegaDelta K L P ts).map (·.1)).sum = 0 := by
  -- with every divisor equal to `s` the weighted sum is `(Σ_i Ω_i) · s⁻¹`
  rw [List.map_congr_left (g := fun x => x.1.1 * s⁻¹) fun x hx => by
      rw [h _ (List.of_mem_zip hx).2, div_eq_mul_inv],
    List.sum_map_mul_right] at h0
  rw [← List.map_fst_zip (omegaDelta_length K L P ts).le, List.map_map]
  exact (mul_eq_zero.1 h0).resolve_right (inv_ne_zero hs)

/-- Plackett–Luce with equal team variances: `Σ_i Ω_i = 0`. -/
theorem C07_equal_variance_PL (L : Leaves ℝ) (P : Params ℝ) (ts : List (TeamAgg ℝ))
    (s : ℝ) (hs : s ≠ 0) (h : ∀ t ∈ ts, t.sig2 = s) :
    ((omegaDelta .PL L P ts).map (·.1)).sum = 0 :=
  C07_equal_variance .PL L P ts s hs h (C07_PL L P ts (fun t ht => by rw [h t ht]; exact hs))

/-- Bradley–Terry full pairing with equal team variances: `Σ_i Ω_i = 0`. -/
theorem C07_equal_variance_BTF (L : Leaves ℝ) (P : Params ℝ) (ts : List (TeamAgg ℝ))
    (s : ℝ) (hs : 0 < s) (h : ∀ t ∈ ts, t.sig2 = s) :
    ((omegaDelta .BTF L P ts).map (·.1)).sum = 0 :=
  C07_equal_variance .BTF L P ts s hs.ne' h (C07_BTF L P ts (fun t ht => by rw [h t ht]; exact hs))

/-- Bradley–Terry partial pairing with equal team variances: `Σ_i Ω_i = 0`. -/
theorem C07_equal_variance_BTP (L : Leaves ℝ) (P : Params ℝ) (ts : List (TeamAgg ℝ))
    (s : ℝ) (hs : 0 < s) (h : ∀ t ∈ ts, t.sig2 = s) :
    ((omegaDelta .BTP L P ts).map (·.1)).sum = 0 :=
  C07_equal_variance .BTP L P ts s hs.ne' h (C07_BTP L P ts (fun t ht => by rw [h t ht]; exact hs))

/-! ### non-vacuity -/

/-- a three-team game, the first two teams tied (with different mu) -/
noncomputable def exampleTeams : List (TeamAgg ℝ) :=
  [⟨25, 69, 0, []⟩, ⟨27, 50, 0, []⟩, ⟨20, 70, 1, []⟩]

theorem exampleTeams_pos : ∀ t ∈ exampleTeams, 0 < t.sig2 := by
  simp [exampleTeams]

/-- three teams, the first two tied: the hypotheses of `C07_PL`, `C07_BTF`, `C07_BTP` hold -/
example : ∀ t ∈ ([⟨25, 69, 0, []⟩, ⟨27, 50, 0, []⟩, ⟨20, 70, 1, []⟩] : List (TeamAgg ℝ)),
    0 < t.sig2 :=
  exampleTeams_pos

/-- equal variances, ties: the hypotheses of the `C07_equal_variance_*` corollaries hold -/
example : ∀ t ∈ ([⟨25, 69, 0, []⟩, ⟨27, 69, 0, []⟩, ⟨20, 69, 1, []⟩] : List (TeamAgg ℝ)),
    t.sig2 = 69 := by
  simp

/-- `LeafFacts` is satisfiable (here by a crude stand-in; the code's leaves satisfy it by
`leafFacts_code`) -/
example : LeafFacts ⟨fun x t => max 0 (t - x), fun _ _ => 0, fun x _ => -x, fun _ _ => 0⟩ where
  v_nonneg := fun x t => le_max_left _ _
  v_ge := fun x t => le_max_right _ _
  w_nonneg := fun _ _ => le_rfl
  wt_nonneg := fun _ _ _ => le_rfl
  vt_mem := fun x t ht => ⟨by simp only; linarith, by simp only; linarith⟩
  vt_odd := fun x t _ => rfl

/-- the hypotheses of `C07_TMF` / `C07_TMP` hold for `exampleTeams` -/
example : ∀ i q : Fin exampleTeams.length, i ≠ q →
    exampleTeams[i].rank = exampleTeams[q].rank → exampleTeams[i].mu ≠ exampleTeams[q].mu := by
  intro i q
  have h3 : exampleTeams.length = 3 := rfl
  rcases i with ⟨i, hi⟩; rcases q with ⟨q, hq⟩
  have : i < 3 := h3 ▸ hi
  have : q < 3 := h3 ▸ hq
  interval_cases i <;> interval_cases q <;> simp [exampleTeams]

/-- the theorems apply to `exampleTeams` -/
example (L : Leaves ℝ) (P : Params ℝ) :
    (((omegaDelta .PL L P exampleTeams).zip exampleTeams).map (fun x => x.1.1 / x.2.sig2)).sum = 0 :=
  C07_PL L P exampleTeams fun t ht => (exampleTeams_pos t ht).ne'

example (L : Leaves ℝ) (P : Params ℝ) :
    (((omegaDelta .BTP L P exampleTeams).zip exampleTeams).map (fun x => x.1.1 / x.2.sig2)).sum = 0 :=
  C07_BTP L P exampleTeams exampleTeams_pos

/-- The hypothesis "no tied teams with equal mu" of `C07_TMF` cannot be dropped on the basis of
`LeafFacts` alone, and the bound `tmSlack` is attained: a `Ṽ` that, like the code's `vt` below its
`1e-5` guard, returns `t` at `x = 0` satisfies `LeafFacts`, and two identical tied teams then both
gain. -/
theorem tmPair_tie_slack_attained (cmul β κ : ℝ) (g : GammaFn ℝ) (n : ℕ) (t : TeamAgg ℝ)
    (hc : 0 < cmul) (ht : 0 < t.sig2) :
    ∃ L : Leaves ℝ, LeafFacts L ∧
      (tmPair L cmul β κ g n t t).1 / t.sig2 + (tmPair L cmul β κ g n t t).1 / t.sig2
        = tmSlack cmul β κ t t := by
  have hL : LeafFacts ⟨fun x t => max 0 (t - x), fun _ _ => 0, fun x t => if x = 0 then t else -x,
      fun _ _ => 0⟩ := by
    refine ⟨fun x t => le_max_left _ _, fun x t => le_max_right _ _, fun _ _ => le_rfl,
      fun _ _ _ => le_rfl, fun x t ht => ?_, fun x t hx => ?_⟩
    · by_cases hx : x = 0
      · subst hx; simp only [if_true]; constructor <;> linarith
      · simp only [hx, if_false]; constructor <;> linarith
    · simp [hx]
  refine ⟨_, hL, (tmPair_pairSym_of_leafFacts _ hL cmul β κ g n t t hc ht ht).trans ?_⟩
  dsimp only
  rw [if_pos ⟨rfl, rfl⟩, if_pos rfl, tmSlack_eq cmul β κ ht.le ht.le]

end OS
