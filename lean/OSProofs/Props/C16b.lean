import OSProofs.Props.C16
import OSProofs.RealSums
/-!
# C16 — results do not depend on the unit or origin of the skill scale (game level)

The pair-level facts are in `OSProofs/Props/C16.lean`; here they are lifted to whole games, over `ℝ`.
The lifting is the same for both changes (and for the replacement of ids of C20): what the change
does to a team aggregate, to `(Ω, Δ)`, to the per-player update and to the tau inflation is proved
here; that `omegaDelta`, `_compute` and `rate` then commute with it is `omegaDelta_map` /
`compute_map` / `rateCore_map` of `OSProofs/RateMap.lean`, and the predictions are `predict…_map` there.

* **Change of unit** (`k > 0`): every `mu`, `sigma`, `beta`, `tau` (model default and per-call value)
  is multiplied by `k`.  Inputs: `scaleTeams k teams`, `scaleParams k P`, `scaleOpts k o`.
  For Plackett–Luce and both Bradley–Terry models — and any gamma callback that is a pure number
  (`GammaScaleInv`: its value does not change when its arguments `c`, `mu`, the players' `mu`,
  `sigma` are multiplied by `k` and `sigma_squared` by `k²`; every member of the tagged family is, and
  so is the team-reading callback `gammaTeamSigma`) — `_compute` and `rate` return the old result in
  the new unit; the limit-sigma clamp, the rank sort/unsort and the `kappa` floor are unaffected.  No
  positivity condition on `beta` or the sigmas is needed (every identity used, `√(k²x) = k√x`,
  `kx/(kc) = x/c`, also holds at `c = 0`).  The Thurstone–Mosteller models use `kappa / c_iq` as a
  draw margin, so with a fixed `kappa` they are unit-free only for `kappa = 0` (`…_kappa0`).
* **Change of origin** (`d` added to every `mu`), all five models, when all teams have the same
  number `m` of players: every team mu moves by `m·d`, every omega and delta is unchanged, so every
  posterior `mu` moves by `d` and every `sigma` is unchanged.  Gamma: any callback whose value is
  unchanged when the players' `mu` move by `d` and the team `mu` by (team size)·`d` (`GammaShiftInv`:
  the tagged family, `gammaTeamSigma`, …).
* The `…_tagged` versions state the game-level theorems for the tagged family with no hypothesis on
  gamma.
* **Predictions** (`predict_win`, `predict_draw`, `predict_rank`; the text is shared by the five
  models) are invariant under both.
-/
noncomputable section
namespace OS
open Scalar

def scalePlayer (k : ℝ) (p : Rating ℝ) : Rating ℝ := { p with mu := k * p.mu, sigma := k * p.sigma }

def scaleTeams (k : ℝ) (teams : List (List (Rating ℝ))) : List (List (Rating ℝ)) :=
  teams.map (·.map (scalePlayer k))

def shiftPlayer (d : ℝ) (p : Rating ℝ) : Rating ℝ := { p with mu := p.mu + d }

def shiftTeams (d : ℝ) (teams : List (List (Rating ℝ))) : List (List (Rating ℝ)) :=
  teams.map (·.map (shiftPlayer d))

/-- the per-call options in rescaled units (only a per-call `tau` carries a unit) -/
def scaleOpts (k : ℝ) (o : CallOpts ℝ) : CallOpts ℝ := { o with tau := o.tau.map (k * ·) }

/-- the parameters in rescaled units: `beta` and `tau` carry the unit, `kappa` and the gamma
    callbacks of the tagged family are pure numbers -/
def scaleParams (k : ℝ) (P : Params ℝ) : Params ℝ := { P with beta := k * P.beta, tau := k * P.tau }

/-- a team aggregate whose players are shifted by `d` and whose total mu is shifted by `D` -/
def TeamAgg.shiftP (d D : ℝ) (t : TeamAgg ℝ) : TeamAgg ℝ :=
  { t with mu := t.mu + D, players := t.players.map (shiftPlayer d) }

theorem TeamAgg.scale_players (k : ℝ) (t : TeamAgg ℝ) :
    (t.scale k).players = t.players.map (scalePlayer k) := rfl

/-- the models whose update is built from logistic (Bradley–Terry / Plackett–Luce) terms -/
def Kind.logistic (K : Kind) : Prop := K = .PL ∨ K = .BTF ∨ K = .BTP

/-- the gamma call `_compute` makes for team `t` is the same after the shift (players by `d`, team mu
by `D`) -/
def gam_ShiftAt (g : GammaFn ℝ) (d D : ℝ) (t : TeamAgg ℝ) : Prop :=
  ∀ (c : ℝ) (n : Nat),
    gammaVal g c n (t.mu + D) t.sig2 (t.players.map (shiftPlayer d)) t.rank
      = gammaVal g c n t.mu t.sig2 t.players t.rank

theorem sumPairs_scale (k : ℝ) (prs : List (ℝ × ℝ)) :
    sumPairs (prs.map (fun od => (k * od.1, od.2))) = (k * (sumPairs prs).1, (sumPairs prs).2) := by
  simp only [sumPairs, List.map_map, Function.comp_def, sumL_map_mul_left]

/-- `scaleParams` is the record the statement of C16 talks about -/
theorem scaleParams_eq (k : ℝ) (P : Params ℝ) :
    scaleParams k P = { P with beta := k * P.beta, tau := k * P.tau } := rfl

/-- `TeamAgg.scale` also rescales the players the aggregate carries -/
theorem C16_teamAgg_scale (k : ℝ) (team : List (Rating ℝ)) (r : Nat) :
    teamAgg (team.map (scalePlayer k)) r = (teamAgg team r).scale k := by
  simp only [teamAgg, TeamAgg.scale, List.map_map, Function.comp_def, scalePlayer,
    mul_mul_mul_comm k _ k, ← pow_two k, sumL_map_mul_left]
  rfl

/-- restates `teamAgg_sig2_nonneg` -/
theorem c16_teamAgg_sig2_nonneg (team : List (Rating ℝ)) (r : Nat) : 0 ≤ (teamAgg team r).sig2 :=
  teamAgg_sig2_nonneg team r

theorem applyTeam_scale (k κ : ℝ) (hk : k ≠ 0) (t : TeamAgg ℝ) (ω δ : ℝ) :
    applyTeam κ (t.scale k) (k * ω) δ = (applyTeam κ t ω δ).map (scalePlayer k) := by
  simp only [applyTeam, TeamAgg.scale, List.map_map, Function.comp_def, scalePlayer,
    mul_mul_mul_comm k _ k, ← pow_two k, mul_div_mul_left _ _ (pow_ne_zero 2 hk)]
  refine List.map_congr_left (fun p _ => ?_)
  congr 1
  · ring
  · ring

theorem inflate_scale (k τ : ℝ) (hk : 0 < k) (teams : List (List (Rating ℝ))) :
    inflate (k * τ) (scaleTeams k teams) = scaleTeams k (inflate τ teams) := by
  simp only [inflate, scaleTeams, List.map_map, Function.comp_def, scalePlayer, sc_sqrt,
    mul_mul_mul_comm k _ k, ← mul_add, ← pow_two k, sqrt_scale k _ hk]

theorem resolveTau_scale (k : ℝ) (P : Params ℝ) (o : CallOpts ℝ) :
    resolveTau (scaleParams k P) (scaleOpts k o) = k * resolveTau P o := by
  unfold resolveTau scaleOpts scaleParams
  cases o.tau <;> rfl

theorem resolveLimit_scale (k : ℝ) (P : Params ℝ) (o : CallOpts ℝ) :
    resolveLimit (scaleParams k P) (scaleOpts k o) = resolveLimit P o := rfl

theorem plC_scale (k β : ℝ) (hk : 0 < k) (ts : List (TeamAgg ℝ)) :
    plC (k * β) (ts.map (TeamAgg.scale k)) = k * plC β ts := by
  simp only [plC, sc_sqrt, List.map_map, Function.comp_def, TeamAgg.scale,
    mul_mul_mul_comm k _ k, ← pow_two k, ← mul_add, sumL_map_mul_left, sqrt_scale k _ hk]

theorem plSumQ_scale (k c : ℝ) (hk : k ≠ 0) (ts : List (TeamAgg ℝ)) :
    plSumQ (ts.map (TeamAgg.scale k)) (k * c) = plSumQ ts c := by
  simp only [plSumQ, List.map_map, List.filter_map, Function.comp_def, TeamAgg.scale,
    mul_div_mul_left _ _ hk]
  rfl

/-- the first `simp only` pushes `map (TeamAgg.scale k)` through the `zip`/`zipIdx`/`filter` of the loop; the
second is `k·e/(k·c) = e/c`, `k²σ²/(kc) = k(σ²/c)`, `k²σ²/(kc)² = σ²/c²` and the invariance of gamma -/
theorem plOmegaDelta_scale (k : ℝ) (hk : 0 < k) (g : GammaFn ℝ) (hg : GammaScaleInv g)
    (ts : List (TeamAgg ℝ)) (c : ℝ)
    (sq : List ℝ) (a : List Nat) (i : Nat) (ti : TeamAgg ℝ) :
    plOmegaDelta g (ts.map (TeamAgg.scale k)) (k * c) sq a i (ti.scale k)
      = (k * (plOmegaDelta g ts c sq a i ti).1, (plOmegaDelta g ts c sq a i ti).2) := by
  simp only [plOmegaDelta, List.zip_map_left, List.zipIdx_map, List.filter_map, List.map_map,
    Function.comp_def, Prod.map, id, List.length_map]
  simp only [TeamAgg.scale, mul_div_mul_left _ _ hk.ne', sq_mul_div_scale k _ _ hk.ne',
    sq_mul_div_sq_scale k _ _ hk.ne', hg k hk]
  exact Prod.ext (mul_left_comm _ _ _) rfl

/-- in rescaled units every omega is multiplied by the unit and every delta is unchanged; `P'` is any
parameter set with `beta` in the new unit and, for the Thurstone–Mosteller models, `kappa` too -/
theorem omegaDelta_scale_gen (K : Kind) (L : Leaves ℝ) (k : ℝ) (hk : 0 < k) (P P' : Params ℝ)
    (hb : P'.beta = k * P.beta) (hγ : P'.gamma = P.gamma) (hg : GammaScaleInv P.gamma)
    (hK : K.logistic ∨ P'.kappa = k * P.kappa) (ts : List (TeamAgg ℝ)) :
    omegaDelta K L P' (ts.map (TeamAgg.scale k))
      = (omegaDelta K L P ts).map (fun od => (k * od.1, od.2)) := by
  refine omegaDelta_map K L P P' (TeamAgg.scale k) _ ts (sumPairs_scale k) (fun _ x _ => ?_)
    (fun _ ti _ tq => ?_) (fun hT cmul ti _ tq => ?_)
  · simp only [fl1_od, hb, hγ, plC_scale k _ hk, plSumQ_scale k _ hk.ne',
      plA_congr (TeamAgg.scale k) ts fun _ => rfl]
    exact plOmegaDelta_scale k hk _ hg ts _ _ _ _ _
  · rw [hb, hγ]
    exact btPair_scale k _ hk _ hg _ ti tq
  · rw [hb, hγ, hK.resolve_left (by rcases hT with rfl | rfl <;> (unfold Kind.logistic; decide))]
    exact tmPair_scale L cmul k P.beta P.kappa hk _ hg _ ti tq

theorem omegaDelta_scale (K : Kind) (hK : K.logistic) (L : Leaves ℝ) (k : ℝ) (hk : 0 < k)
    (P : Params ℝ) (hg : GammaScaleInv P.gamma) (ts : List (TeamAgg ℝ)) :
    omegaDelta K L (scaleParams k P) (ts.map (TeamAgg.scale k))
      = (omegaDelta K L P ts).map (fun od => (k * od.1, od.2)) :=
  omegaDelta_scale_gen K L k hk P (scaleParams k P) rfl rfl hg (.inl hK) ts

/-- **omega scales with the unit, delta does not** — Plackett–Luce and both Bradley–Terry models,
    every scale-invariant gamma callback (in particular the tagged family: default, constant, `1/k`,
    rank dependent, `σ²/c²`, zero).
    Only `beta` has to be rescaled for this statement (tau does not enter `omegaDelta`). -/
theorem C16_omegaDelta_scale (K : Kind) (hK : K = .PL ∨ K = .BTF ∨ K = .BTP) (L : Leaves ℝ)
    (k : ℝ) (hk : 0 < k) (P : Params ℝ) (hg : GammaScaleInv P.gamma) (ts : List (TeamAgg ℝ)) :
    omegaDelta K L { P with beta := k * P.beta } (ts.map (TeamAgg.scale k))
      = (omegaDelta K L P ts).map (fun od => (k * od.1, od.2)) :=
  omegaDelta_scale_gen K L k hk P { P with beta := k * P.beta } rfl rfl hg (.inl hK) ts

theorem compute_scale (K : Kind) (L : Leaves ℝ) (k : ℝ) (hk : 0 < k)
    (P : Params ℝ) (hg : GammaScaleInv P.gamma) (hK : K.logistic ∨ P.kappa = 0)
    (teams : List (List (Rating ℝ))) (dense : List Nat) :
    compute K L (scaleParams k P) (scaleTeams k teams) dense
      = scaleTeams k (compute K L P teams dense) :=
  compute_map K L P (scaleParams k P) (scalePlayer k) (TeamAgg.scale k) (fun od => (k * od.1, od.2))
    teams dense (fun tr _ => C16_teamAgg_scale k tr.1 tr.2)
    (omegaDelta_scale_gen K L k hk P (scaleParams k P) rfl rfl hg
      (hK.imp_right fun h0 => show P.kappa = k * P.kappa by rw [h0, mul_zero]) _)
    (fun t od => applyTeam_scale k P.kappa hk.ne' t od.1 od.2)

/-- `_compute` in the new unit returns the old posterior in the new unit (dense ranks are pure
    numbers and stay as they are) -/
theorem C16_compute_scale (K : Kind) (hK : K = .PL ∨ K = .BTF ∨ K = .BTP) (L : Leaves ℝ)
    (k : ℝ) (hk : 0 < k) (P : Params ℝ) (hg : GammaScaleInv P.gamma)
    (teams : List (List (Rating ℝ))) (dense : List Nat) :
    compute K L (scaleParams k P) (scaleTeams k teams) dense
      = scaleTeams k (compute K L P teams dense) :=
  compute_scale K L k hk P hg (Or.inl hK) teams dense

theorem rateCore_scale {ρ : Type} (K : Kind) (L : Leaves ℝ) (k : ℝ) (hk : 0 < k)
    (P : Params ℝ) (hg : GammaScaleInv P.gamma) (hK : K.logistic ∨ P.kappa = 0) (le : ρ → ρ → Bool)
    (teams : List (List (Rating ℝ))) (ranks : Option (List ρ)) (o : CallOpts ℝ) :
    rateCore K L (scaleParams k P) le (scaleTeams k teams) ranks (scaleOpts k o)
      = scaleTeams k (rateCore K L P le teams ranks o) :=
  rateCore_map K L P (scaleParams k P) o (scaleOpts k o) le (scalePlayer k) (fun _ => True) rfl
    (fun ts => (congrArg (inflate · _) (resolveTau_scale k P o)).trans (inflate_scale k _ hk ts))
    (fun ts dense _ => compute_scale K L k hk P hg hK ts dense)
    (fun _ _ => mul_le_mul_iff_right₀ hk) (fun _ _ => rfl) teams (fun _ _ => trivial) ranks

/-- `rate` after validation, in the new unit: the tau inflation, the sort by rank, `_compute`, the
    sort back and the limit-sigma clamp all commute with the change of unit -/
theorem C16_rateCore_scale {ρ : Type} (K : Kind) (hK : K = .PL ∨ K = .BTF ∨ K = .BTP)
    (L : Leaves ℝ) (k : ℝ) (hk : 0 < k) (P : Params ℝ) (hg : GammaScaleInv P.gamma) (le : ρ → ρ → Bool)
    (teams : List (List (Rating ℝ))) (ranks : Option (List ρ)) (o : CallOpts ℝ) :
    rateCore K L (scaleParams k P) le (scaleTeams k teams) ranks (scaleOpts k o)
      = scaleTeams k (rateCore K L P le teams ranks o) :=
  rateCore_scale K L k hk P hg (Or.inl hK) le teams ranks o

theorem C16_rate_scale {ρ : Type} (K : Kind) (hK : K = .PL ∨ K = .BTF ∨ K = .BTP)
    (L : Leaves ℝ) (k : ℝ) (hk : 0 < k) (P : Params ℝ) (hg : GammaScaleInv P.gamma)
    (le : ρ → ρ → Bool) (neg : ρ → ρ)
    (teams : List (List (Rating ℝ))) (oc : Outcome ρ) (o : CallOpts ℝ) :
    rate K L (scaleParams k P) le neg (scaleTeams k teams) oc (scaleOpts k o)
      = scaleTeams k (rate K L P le neg teams oc o) := by
  rw [rate_eq_rateCore, rate_eq_rateCore]
  exact C16_rateCore_scale K hK L k hk P hg le teams _ o

theorem C16_rate_scale_tagged {ρ : Type} (K : Kind) (hK : K = .PL ∨ K = .BTF ∨ K = .BTP)
    (L : Leaves ℝ) (k : ℝ) (hk : 0 < k) (P : Params ℝ) (hg : P.gamma.Tagged)
    (le : ρ → ρ → Bool) (neg : ρ → ρ)
    (teams : List (List (Rating ℝ))) (oc : Outcome ρ) (o : CallOpts ℝ) :
    rate K L (scaleParams k P) le neg (scaleTeams k teams) oc (scaleOpts k o)
      = scaleTeams k (rate K L P le neg teams oc o) :=
  C16_rate_scale K hK L k hk P (Gamma_tagged_scaleInv _ hg) le neg teams oc o

theorem C16_omegaDelta_scale_tagged (K : Kind) (hK : K = .PL ∨ K = .BTF ∨ K = .BTP) (L : Leaves ℝ)
    (k : ℝ) (hk : 0 < k) (P : Params ℝ) (hg : P.gamma.Tagged) (ts : List (TeamAgg ℝ)) :
    omegaDelta K L { P with beta := k * P.beta } (ts.map (TeamAgg.scale k))
      = (omegaDelta K L P ts).map (fun od => (k * od.1, od.2)) :=
  C16_omegaDelta_scale K hK L k hk P (Gamma_tagged_scaleInv _ hg) ts

/-- with `kappa = 0` the change of unit is sound for all five models (for the Thurstone–Mosteller
    models `kappa / c_iq` is the draw margin, so a non-zero `kappa` carries the unit there while it is
    a pure number in the variance floor) -/
theorem C16_rateCore_scale_kappa0 {ρ : Type} (K : Kind) (L : Leaves ℝ) (k : ℝ) (hk : 0 < k)
    (P : Params ℝ) (hg : GammaScaleInv P.gamma) (hκ : P.kappa = 0) (le : ρ → ρ → Bool)
    (teams : List (List (Rating ℝ))) (ranks : Option (List ρ)) (o : CallOpts ℝ) :
    rateCore K L (scaleParams k P) le (scaleTeams k teams) ranks (scaleOpts k o)
      = scaleTeams k (rateCore K L P le teams ranks o) :=
  rateCore_scale K L k hk P hg (Or.inr hκ) le teams ranks o

theorem C16_scale_player (k : ℝ) (p : Rating ℝ) :
    (scalePlayer k p).id = p.id ∧ (scalePlayer k p).mu = k * p.mu
      ∧ (scalePlayer k p).sigma = k * p.sigma := ⟨rfl, rfl, rfl⟩

theorem C16_teamAgg_shift (d : ℝ) (team : List (Rating ℝ)) (r : Nat) :
    teamAgg (team.map (shiftPlayer d)) r = (teamAgg team r).shiftP d (team.length * d) := by
  simp only [teamAgg, TeamAgg.shiftP, List.map_map, Function.comp_def, shiftPlayer]
  congr 1
  rw [sumL_eq_sum, sumL_eq_sum, List.sum_map_add, List.map_const', List.sum_replicate, nsmul_eq_mul]

theorem applyTeam_shift (κ d D : ℝ) (t : TeamAgg ℝ) (ω δ : ℝ) :
    applyTeam κ (t.shiftP d D) ω δ = (applyTeam κ t ω δ).map (shiftPlayer d) := by
  simp only [applyTeam, TeamAgg.shiftP, List.map_map, Function.comp_def, shiftPlayer, add_right_comm]

theorem inflate_shift (d τ : ℝ) (teams : List (List (Rating ℝ))) :
    inflate τ (shiftTeams d teams) = shiftTeams d (inflate τ teams) := by
  simp only [inflate, shiftTeams, List.map_map, Function.comp_def, shiftPlayer]

theorem pairDenom_shiftP (d D β : ℝ) (nb : Nat) (a b : TeamAgg ℝ) :
    pairDenom nb β (a.shiftP d D) (b.shiftP d D) = pairDenom nb β a b := rfl

theorem plSumQ_shift (d D c : ℝ) (ts : List (TeamAgg ℝ)) :
    plSumQ (ts.map (TeamAgg.shiftP d D)) c = (plSumQ ts c).map (fun s => Real.exp (D / c) * s) := by
  simp only [plSumQ, List.map_map, List.filter_map, Function.comp_def, TeamAgg.shiftP, sc_exp,
    exp_shift, sumL_map_mul_left]
  rfl

/-- as for `plOmegaDelta_scale`: the shifted teams are pushed through the loop's list functions, then
`exp((μ+D)/c) = exp(D/c)·exp(μ/c)` cancels between `e_i` and `sum_q` -/
theorem plOmegaDelta_shift (d D : ℝ) (g : GammaFn ℝ) (ts : List (TeamAgg ℝ)) (c : ℝ)
    (sq : List ℝ) (a : List Nat) (i : Nat) (ti : TeamAgg ℝ) (hg : gam_ShiftAt g d D ti) :
    plOmegaDelta g (ts.map (TeamAgg.shiftP d D)) c (sq.map (fun s => Real.exp (D / c) * s)) a i
        (ti.shiftP d D)
      = plOmegaDelta g ts c sq a i ti := by
  simp only [plOmegaDelta, List.zip_map_left, List.zip_map_right, List.zipIdx_map, List.filter_map,
    List.map_map, Function.comp_def, Prod.map, id, List.length_map]
  simp only [TeamAgg.shiftP, sc_exp, exp_shift, mul_div_mul_left _ _ (Real.exp_ne_zero _),
    hg c ts.length]
  rfl

/-- moving every team mu by the same amount `D` (and the mu of the players the aggregates carry by
    `d`) changes no omega and no delta — all five models, either leaf implementation, every gamma
    callback whose call for each team is unchanged (`gam_ShiftAt`; for a `GammaShiftInv` callback: when
    `D` = (team size)·`d`) -/
theorem C16_omegaDelta_shift (K : Kind) (L : Leaves ℝ) (d D : ℝ) (P : Params ℝ)
    (ts : List (TeamAgg ℝ)) (hg : ∀ t ∈ ts, gam_ShiftAt P.gamma d D t) :
    omegaDelta K L P (ts.map (TeamAgg.shiftP d D)) = omegaDelta K L P ts := by
  refine (omegaDelta_map K L P P (TeamAgg.shiftP d D) id ts sumPairs_map_id (fun _ x hx => ?_)
    (fun _ ti hti tq => ?_) (fun _ cmul ti hti tq => ?_)).trans (List.map_id _)
  · simp only [fl1_od, plC_congr (TeamAgg.shiftP d D) ts _ fun _ => rfl, plSumQ_shift,
      plA_congr (TeamAgg.shiftP d D) ts fun _ => rfl]
    exact plOmegaDelta_shift d D _ ts _ _ _ _ _ (hg _ (List.fst_mem_of_mem_zipIdx hx))
  · exact btPair_congr _ _ _ _ (add_sub_add_right_eq_sub _ _ _) rfl rfl rfl rfl
      (fun c => hg ti hti c _)
  · exact tmPair_congr _ _ _ _ _ _ _ (add_sub_add_right_eq_sub _ _ _) rfl rfl rfl rfl
      (fun c => hg ti hti c _)

theorem C16_omegaDelta_shift_tagged (K : Kind) (L : Leaves ℝ) (d D : ℝ) (P : Params ℝ)
    (hg : P.gamma.Tagged) (ts : List (TeamAgg ℝ)) :
    omegaDelta K L P (ts.map (TeamAgg.shiftP d D)) = omegaDelta K L P ts :=
  C16_omegaDelta_shift K L d D P ts
    (fun t _ c n => gam_tagged_mu_team hg c n t.mu _ t.sig2 t.players _ t.rank)

/-- restates `C16_omegaDelta_shift_tagged` -/
theorem omegaDelta_shift_tagged (K : Kind) (L : Leaves ℝ) (d D : ℝ) (P : Params ℝ)
    (hg : P.gamma.Tagged) (ts : List (TeamAgg ℝ)) :
    omegaDelta K L P (ts.map (TeamAgg.shiftP d D)) = omegaDelta K L P ts :=
  C16_omegaDelta_shift_tagged K L d D P hg ts

/-- `_compute` with the origin moved by `d`, all teams of the same size: every posterior mu moves by
    `d`, every posterior sigma is unchanged -/
theorem C16_compute_shift (K : Kind) (L : Leaves ℝ) (d : ℝ) (m : Nat) (P : Params ℝ)
    (hg : GammaShiftInv P.gamma)
    (teams : List (List (Rating ℝ))) (hm : ∀ t ∈ teams, t.length = m) (dense : List Nat) :
    compute K L P (shiftTeams d teams) dense = shiftTeams d (compute K L P teams dense) := by
  refine compute_map K L P P (shiftPlayer d) (TeamAgg.shiftP d (m * d)) id teams dense
    (fun tr h => hm _ (List.of_mem_zip h).1 ▸ C16_teamAgg_shift d tr.1 tr.2)
    ((C16_omegaDelta_shift K L d _ P _ (fun t ht c n => ?_)).trans (List.map_id _).symm)
    (fun t od => applyTeam_shift P.kappa d _ t od.1 od.2)
  obtain ⟨tr, htr, rfl⟩ := List.mem_map.1 ht
  exact hm _ (List.of_mem_zip htr).1 ▸ hg d c n _ _ tr.1 tr.2

theorem C16_rateCore_shift {ρ : Type} (K : Kind) (L : Leaves ℝ) (d : ℝ) (m : Nat)
    (P : Params ℝ) (hg : GammaShiftInv P.gamma) (le : ρ → ρ → Bool) (teams : List (List (Rating ℝ)))
    (hm : ∀ t ∈ teams, t.length = m) (ranks : Option (List ρ)) (o : CallOpts ℝ) :
    rateCore K L P le (shiftTeams d teams) ranks o
      = shiftTeams d (rateCore K L P le teams ranks o) :=
  rateCore_map K L P P o o le (shiftPlayer d) (· = m) rfl (inflate_shift d _)
    (fun ts dense h => C16_compute_shift K L d m P hg ts h dense)
    (fun _ _ => Iff.rfl) (fun _ _ => rfl) teams hm ranks

theorem C16_rate_shift {ρ : Type} (K : Kind) (L : Leaves ℝ) (d : ℝ) (m : Nat)
    (P : Params ℝ) (hg : GammaShiftInv P.gamma) (le : ρ → ρ → Bool) (neg : ρ → ρ)
    (teams : List (List (Rating ℝ)))
    (hm : ∀ t ∈ teams, t.length = m) (oc : Outcome ρ) (o : CallOpts ℝ) :
    rate K L P le neg (shiftTeams d teams) oc o = shiftTeams d (rate K L P le neg teams oc o) := by
  rw [rate_eq_rateCore, rate_eq_rateCore]
  exact C16_rateCore_shift K L d m P hg le teams hm _ o

theorem C16_rate_shift_tagged {ρ : Type} (K : Kind) (L : Leaves ℝ) (d : ℝ) (m : Nat)
    (P : Params ℝ) (hg : P.gamma.Tagged) (le : ρ → ρ → Bool) (neg : ρ → ρ)
    (teams : List (List (Rating ℝ)))
    (hm : ∀ t ∈ teams, t.length = m) (oc : Outcome ρ) (o : CallOpts ℝ) :
    rate K L P le neg (shiftTeams d teams) oc o = shiftTeams d (rate K L P le neg teams oc o) :=
  C16_rate_shift K L d m P (Gamma_tagged_shiftInv _ hg).1 le neg teams hm oc o

theorem C16_shift_player (d : ℝ) (p : Rating ℝ) :
    (shiftPlayer d p).id = p.id ∧ (shiftPlayer d p).mu = p.mu + d
      ∧ (shiftPlayer d p).sigma = p.sigma := ⟨rfl, rfl, rfl⟩

theorem C16_predictWin_scale (k β : ℝ) (hk : 0 < k) (teams : List (List (Rating ℝ))) :
    predictWin (k * β) (scaleTeams k teams) = predictWin β teams :=
  predictWin_map β (k * β) (scalePlayer k) (TeamAgg.scale k) teams
    (fun t _ => C16_teamAgg_scale k t 0)
    (fun nb x y => by simpa only [mul_zero, sub_zero] using predArg_scale k β hk nb x y 0)

theorem C16_predictDraw_scale (k β : ℝ) (hk : 0 < k) (teams : List (List (Rating ℝ))) :
    predictDraw (k * β) (scaleTeams k teams) = predictDraw β teams := by
  refine predictDraw_map β (k * β) (scalePlayer k) (TeamAgg.scale k) teams
    (fun t _ => C16_teamAgg_scale k t 0) (fun nb x y => ?_)
  rw [C16_drawMargin_scale]
  refine ⟨?_, predArg_scale k β hk nb x y _⟩
  rw [pairDenom_scale k β hk]
  show (k * _ - k * x.mu + k * y.mu) / _ = _
  rw [← mul_sub, ← mul_add, mul_div_mul_left _ _ hk.ne']

theorem C16_predictRank_scale (k β : ℝ) (hk : 0 < k) (teams : List (List (Rating ℝ))) :
    predictRank (k * β) (scaleTeams k teams) = predictRank β teams :=
  predictRank_map β (k * β) (scalePlayer k) (TeamAgg.scale k) teams
    (fun t _ => C16_teamAgg_scale k t 0)
    (fun nb x y => by rw [C16_drawMargin_scale]; exact predArg_scale k β hk nb x y _)

theorem shiftP_mu_sub (d D : ℝ) (a b : TeamAgg ℝ) :
    (a.shiftP d D).mu - (b.shiftP d D).mu = a.mu - b.mu := add_sub_add_right_eq_sub _ _ _

theorem teamAgg_shift_of_length (d : ℝ) (m : Nat) (teams : List (List (Rating ℝ)))
    (hm : ∀ t ∈ teams, t.length = m) :
    ∀ t ∈ teams, teamAgg (t.map (shiftPlayer d)) 0 = (teamAgg t 0).shiftP d (m * d) :=
  fun t ht => hm t ht ▸ C16_teamAgg_shift d t 0

theorem C16_predictWin_shift (d β : ℝ) (m : Nat) (teams : List (List (Rating ℝ)))
    (hm : ∀ t ∈ teams, t.length = m) :
    predictWin β (shiftTeams d teams) = predictWin β teams :=
  predictWin_map β β (shiftPlayer d) (TeamAgg.shiftP d (m * d)) teams
    (teamAgg_shift_of_length d m teams hm)
    (fun nb x y => congrArg (· / pairDenom nb β x y) (shiftP_mu_sub d _ x y))

theorem C16_predictDraw_shift (d β : ℝ) (m : Nat) (teams : List (List (Rating ℝ)))
    (hm : ∀ t ∈ teams, t.length = m) :
    predictDraw β (shiftTeams d teams) = predictDraw β teams :=
  predictDraw_map β β (shiftPlayer d) (TeamAgg.shiftP d (m * d)) teams
    (teamAgg_shift_of_length d m teams hm)
    (fun nb x y =>
      ⟨congrArg (· / pairDenom nb β x y) (by rw [sub_add, sub_add, shiftP_mu_sub]),
       congrArg (fun z => (z - _) / pairDenom nb β x y) (shiftP_mu_sub d _ x y)⟩)

theorem C16_predictRank_shift (d β : ℝ) (m : Nat) (teams : List (List (Rating ℝ)))
    (hm : ∀ t ∈ teams, t.length = m) :
    predictRank β (shiftTeams d teams) = predictRank β teams :=
  predictRank_map β β (shiftPlayer d) (TeamAgg.shiftP d (m * d)) teams
    (teamAgg_shift_of_length d m teams hm)
    (fun nb x y => congrArg (fun z => (z - _) / pairDenom nb β x y) (shiftP_mu_sub d _ x y))

/-! the hypotheses are satisfiable, the statements are not about empty games -/

example : (Kind.PL).logistic ∧ (Kind.BTF).logistic ∧ (Kind.BTP).logistic :=
  ⟨Or.inl rfl, Or.inr (Or.inl rfl), Or.inr (Or.inr rfl)⟩

example : ∀ t ∈ ([[⟨0, 25, 8⟩, ⟨1, 20, 7⟩], [⟨2, 30, 5⟩, ⟨3, 22, 6⟩]] : List (List (Rating ℝ))),
    t.length = 2 := by
  decide

end OS
end
