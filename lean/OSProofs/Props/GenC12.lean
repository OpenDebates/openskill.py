import OSProofs.PredictLemmas
import OSProofs.OrderLaws
import OSProofs.RankLemmas

/-!
# The prediction closed forms for EVERY scalar type

`Props/C12.lean` proves over ℝ (with `List.sum`) that `predict_win`, the `predict_rank` probabilities and
`predict_draw` are the documented per-team closed forms.  Here the same closed forms are proved as
*equalities of the model's own terms for every `[Scalar α]`*: only list structure is used
(`chunk (n-1) ∘ orderedPairs` = "for each team, its opponents"), no arithmetic law whatsoever — so the
equalities hold bit for bit at `Float`.  Sums are `sumL` (the left fold from `0`, Python's `sum` / `+=`
loop), in the order stated; opponents of team `i` are `othersOf (aggs teams) i` from
`OSModel/Compute.lean` (all other indices, in input order).

Two remarks on "bit for bit":
* the equalities are between terms of the *model*; that the model at `Float` is the library is the tested
  correspondence of the project, and there is one known limit to it that concerns exactly these sums: CPython ≥ 3.12
  evaluates the builtin `sum(...)` of floats (used by `predict_win`, `predict_rank`, `predict_draw`) with
  compensated (Neumaier) summation, whereas `sumL` is the plain left fold;
* the library rejects fewer than two teams (`_check_teams`); the model does not, and for exactly one team it
  returns `[]` — which is why `GEN_C12_win_many_partial`, `GEN_C12_rank_probs`, `GEN_C12_length` exclude
  `teams.length = 1`.
-/

namespace OS
open Scalar
variable {α : Type} [Scalar α]

/-- **`predict_win`, any number of teams but 1 and 2** (0, or 3 and more): entry `i` (input order) is the
LEFT-FOLD sum, over the opponents of team `i` in input order, of `Φ((θi − θb) / √(n β² + s²i + s²b))`,
divided by the computed `n(n−1) / 2`.

`h1` cannot be dropped: for exactly one team the code returns `[]` (there are no pairs, `zip_longest` of zero
iterators yields nothing) while the right-hand side has one entry — `GEN_C12_win_one` and the `example` after
it. -/
theorem GEN_C12_win_many_partial (β : α) (teams : List (List (Rating α)))
    (hn : teams.length ≠ 2) (h1 : teams.length ≠ 1) :
    predictWin β teams = (aggs teams).zipIdx.map (fun a =>
      sumL ((othersOf (aggs teams) a.2).map (fun b =>
        Phi ((a.1.mu - b.mu) / pairDenom teams.length β a.1 b)))
        / (ofNat (teams.length * (teams.length - 1)) / ofNat 2)) := by
  rw [predictWin_of_length_ne_two β teams hn]
  exact chunk_orderedPairs_sumL_div (aggs teams) teams.length (length_aggs teams) h1
    (fun a b => Phi ((a.mu - b.mu) / pairDenom teams.length β a b)) _

/-- three or more teams: the case the library documents -/
theorem GEN_C12_win_many (β : α) (teams : List (List (Rating α))) (hn : 3 ≤ teams.length) :
    predictWin β teams = (aggs teams).zipIdx.map (fun a =>
      sumL ((othersOf (aggs teams) a.2).map (fun b =>
        Phi ((a.1.mu - b.mu) / pairDenom teams.length β a.1 b)))
        / (ofNat (teams.length * (teams.length - 1)) / ofNat 2)) :=
  GEN_C12_win_many_partial β teams (by omega) (by omega)

/-- **one team**: `predict_win` returns the empty list -/
theorem GEN_C12_win_one (β : α) (t : List (Rating α)) : predictWin β [t] = [] := by
  simp [predictWin, aggs, orderedPairs_singleton, chunk_nil]

/-- for one team the two sides of `GEN_C12_win_many_partial` have different lengths -/
example (β : α) (t : List (Rating α)) :
    (predictWin β [t]).length ≠ ((aggs [t]).zipIdx.map (fun a =>
      sumL ((othersOf (aggs [t]) a.2).map (fun b =>
        Phi ((a.1.mu - b.mu) / pairDenom 1 β a.1 b))) / (ofNat (1 * (1 - 1)) / ofNat 2))).length := by
  rw [GEN_C12_win_one]
  simp [aggs]

/-- **`predict_win`, exactly two teams** `[a, b]`: `[r, 1 − r]` with
`r = Φ((θa − θb) / √(N β² + s²a + s²b))`, `N = playerCount [a, b]` the number of players; the second
entry is the computed subtraction `1 − r`, not a second evaluation of Φ. -/
theorem GEN_C12_win_two (β : α) (a b : List (Rating α)) :
    predictWin β [a, b] =
      [Phi (((teamAgg a 0).mu - (teamAgg b 0).mu)
          / pairDenom (playerCount [a, b]) β (teamAgg a 0) (teamAgg b 0)),
       𝟙 - Phi (((teamAgg a 0).mu - (teamAgg b 0).mu)
          / pairDenom (playerCount [a, b]) β (teamAgg a 0) (teamAgg b 0))] := rfl

theorem GEN_C12_win_two' (β : α) (teams : List (List (Rating α))) (hn : teams.length = 2) :
    ∃ a b, teams = [a, b] ∧ predictWin β teams =
      [Phi (((teamAgg a 0).mu - (teamAgg b 0).mu)
          / pairDenom (playerCount teams) β (teamAgg a 0) (teamAgg b 0)),
       𝟙 - Phi (((teamAgg a 0).mu - (teamAgg b 0).mu)
          / pairDenom (playerCount teams) β (teamAgg a 0) (teamAgg b 0))] := by
  match teams, hn with
  | [a, b], _ => exact ⟨a, b, rfl, rfl⟩

/-- **`predict_rank` probabilities, any number of teams but 1** (also 2: there is no special two-team
path): entry `i` is `sabs` of the LEFT-FOLD sum over the opponents of team `i`, in input order, of
`Φ((θi − θb − m) / √(n β² + s²i + s²b))`, divided by the computed `n(n−1) / 2`; `m = drawMargin β N`.
(For one team the code returns `[]`: `GEN_C12_rank_probs_one`.) -/
theorem GEN_C12_rank_probs (β : α) (teams : List (List (Rating α))) (h1 : teams.length ≠ 1) :
    predictRankProbs β teams = (aggs teams).zipIdx.map (fun a =>
      sabs (sumL ((othersOf (aggs teams) a.2).map (fun b =>
        Phi ((a.1.mu - b.mu - drawMargin β (playerCount teams)) / pairDenom teams.length β a.1 b)))
        / (ofNat (teams.length * (teams.length - 1)) / ofNat 2))) := by
  have hl : (aggs teams).length = teams.length := length_aggs teams
  unfold predictRankProbs
  dsimp only
  rw [chunk_orderedPairs_sumL_div (aggs teams) teams.length hl h1
    (fun a b => Phi ((a.mu - b.mu - drawMargin β (playerCount teams)) / pairDenom teams.length β a b)),
    List.map_map]
  rfl

theorem GEN_C12_rank_probs_one (β : α) (t : List (Rating α)) : predictRankProbs β [t] = [] := by
  simp [predictRankProbs, aggs, orderedPairs_singleton, chunk_nil]

/-- **`predict_draw`, any number of teams**: `sabs` of the LEFT-FOLD sum, over all ordered pairs of teams in
the order of `itertools.permutations(teams, 2)` (`orderedPairs`), of
`Φ((m − θa + θb)/s_ab) − Φ((θa − θb − m)/s_ab)`, divided by `n(n−1)` if `n > 2` and by `1` otherwise
(the division by `1` is performed).  `s_ab = √(n β² + s²a + s²b)`, `m = drawMargin β N`. -/
theorem GEN_C12_draw (β : α) (teams : List (List (Rating α))) :
    predictDraw β teams =
      sabs (sumL ((orderedPairs (aggs teams)).map (fun ab =>
        Phi ((drawMargin β (playerCount teams) - ab.1.mu + ab.2.mu)
            / pairDenom teams.length β ab.1 ab.2)
          - Phi ((ab.1.mu - ab.2.mu - drawMargin β (playerCount teams))
            / pairDenom teams.length β ab.1 ab.2))))
      / (if teams.length > 2 then ofNat (teams.length * (teams.length - 1)) else 𝟙) := rfl

/-- **`predict_draw`, regrouped by team as far as that is possible without reassociating**: the sum over
the ordered pairs is the nested loop "for each team `a` in input order, for each opponent `b` of `a` in input
order: `acc += term a b`" with ONE accumulator running through all teams.

The per-team form of `C12_draw` — the sum over the teams of the per-team sums,
`sumL (teams.map (fun a => sumL (opponents.map (term a))))` — is *not* equal to this in general: it starts
every inner sum from a fresh `0` and adds the inner totals afterwards, i.e. it reassociates
`((0 + x₁) + x₂) + x₃ + …` into `(0 + ((0 + x₁) + x₂)) + ((0 + x₃) + …)`, which needs associativity of `+`
(false at `Float`) and `0 + x = x`.  See `fl3_toy_regroup_fails` for a scalar type in which the two differ. -/
theorem GEN_C12_draw_nested (β : α) (teams : List (List (Rating α))) :
    predictDraw β teams =
      sabs ((aggs teams).zipIdx.foldl (fun acc a =>
        ((othersOf (aggs teams) a.2).map (fun b =>
          Phi ((drawMargin β (playerCount teams) - a.1.mu + b.mu) / pairDenom teams.length β a.1 b)
            - Phi ((a.1.mu - b.mu - drawMargin β (playerCount teams))
              / pairDenom teams.length β a.1 b))).foldl (· + ·) acc) 𝟘)
      / (if teams.length > 2 then ofNat (teams.length * (teams.length - 1)) else 𝟙) := by
  rw [GEN_C12_draw, sumL_orderedPairs (aggs teams) (fun a b =>
    Phi ((drawMargin β (playerCount teams) - a.mu + b.mu) / pairDenom teams.length β a b)
      - Phi ((a.mu - b.mu - drawMargin β (playerCount teams)) / pairDenom teams.length β a b))]

/-- **lengths**: `predict_win`, the `predict_rank` probabilities and `predict_rank` return one entry per
team for every number of teams but 1 (where all three return `[]`) -/
theorem GEN_C12_length (β : α) (teams : List (List (Rating α))) (h1 : teams.length ≠ 1) :
    (predictWin β teams).length = teams.length
    ∧ (predictRankProbs β teams).length = teams.length
    ∧ (predictRank β teams).length = teams.length := by
  have hl : (aggs teams).length = teams.length := length_aggs teams
  have hr : (predictRankProbs β teams).length = teams.length := by
    rw [GEN_C12_rank_probs β teams h1, List.length_map, List.length_zipIdx, hl]
  refine ⟨?_, hr, ?_⟩
  · by_cases h2 : teams.length = 2
    · obtain ⟨a, b, rfl, h⟩ := GEN_C12_win_two' β teams h2
      rw [h]; rfl
    · rw [GEN_C12_win_many_partial β teams h2 h1, List.length_map, List.length_zipIdx, hl]
  · exact (predictRank_length β teams).trans hr

theorem GEN_C12_length_one (β : α) (t : List (Rating α)) :
    predictWin β [t] = [] ∧ predictRankProbs β [t] = [] ∧ predictRank β [t] = [] := by
  refine ⟨GEN_C12_win_one β t, GEN_C12_rank_probs_one β t, ?_⟩
  simp [predictRank, GEN_C12_rank_probs_one, rankData]

end OS
