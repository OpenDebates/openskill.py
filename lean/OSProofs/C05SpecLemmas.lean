import OSProofs.C05Lemmas
import OSProofs.Props.C01
import Mathlib.Logic.Equiv.Basic
/-!
# Helper lemmas for C05b and C05c (sole first / last, place exchange, identical teams)

Every statement about `Ω_i` of a game of `n` teams starts from one rewrite, `omegaDelta_fst_eq_omegaAt`:
entry `i` of `omegaDelta` is a `Finset` sum over `Fin n`.  For Plackett–Luce that is the closed form `SpecPL.Ω`
(`C01_PL`), and what is proved here about it is proved for every `Game n`.  For the four pairwise models it is the
sum of the code's own pair terms `(btPair … ts[i] ts[q]).1`, `(tmPair … ts[i] ts[q]).1` over the opponent positions
(`pairing_full_eq`, `pairing_part_eq`, the step before `btPair_eq` / `tmPair_eq` in `C01_BTF` … `C01_TMP`), so
the facts about one pair are those of `PairLemmas` and `Props/C05`; `SpecBT.ω`, `SpecTM.ω` do not occur.
The index type is `Fin n` for a given `n = ts.length` (`gameAt`, `omegaAt`), so that two games of the same length are
summed over the same set.  Only the two-team theorems of `Props/C05b` take another way (`omegaTwo` is `FL3_omega0`,
whose closed forms `FL3Lemmas` proves for every scalar type).
-/
noncomputable section
namespace OS
open Finset

/-! ### from `omegaDelta` on a list to sums over `Fin n` -/

/-- the game read off a list whose length is known to be `n`: two lists of the same length give games over
the same `Fin n`; `gameAt ts ts.length rfl` is `gameOf ts` -/
def gameAt (ts : List (TeamAgg ℝ)) (n : ℕ) (h : ts.length = n) : Game n :=
  { θ := fun p => (ts[p.1]'(by omega)).mu,
    s2 := fun p => (ts[p.1]'(by omega)).sig2,
    r := fun p => (ts[p.1]'(by omega)).rank }

/-- `Ω_i` as a sum over `Fin n`, by model: the closed form of Plackett–Luce; the pair terms of the code summed
over every other position (full pairing) or over the ladder neighbours (partial pairing) -/
def omegaAt (K : Kind) (L : Leaves ℝ) (P : Params ℝ) (ts : List (TeamAgg ℝ)) (n : ℕ)
    (h : ts.length = n) (i : Fin n) : ℝ :=
  let t (p : Fin n) : TeamAgg ℝ := ts[p.1]'(h ▸ p.2)
  match K with
  | .PL => SpecPL.Ω (gameAt ts n h) P.beta i
  | .BTF => ∑ q ∈ univ.filter (· ≠ i), (btPair P.beta P.gamma ts.length (t i) (t q)).1
  | .BTP => ∑ q ∈ nbrs i, (btPair P.beta P.gamma ts.length (t i) (t q)).1
  | .TMF => ∑ q ∈ univ.filter (· ≠ i), (tmPair L 1 P.beta P.kappa P.gamma ts.length (t i) (t q)).1
  | .TMP => ∑ q ∈ nbrs i, (tmPair L 2 P.beta P.kappa P.gamma ts.length (t i) (t q)).1

theorem omegaDelta_fst_eq_omegaAt (K : Kind) (L : Leaves ℝ) (P : Params ℝ) (ts : List (TeamAgg ℝ))
    (n : ℕ) (h : ts.length = n) (i : Nat) (hi : i < ts.length) :
    ((omegaDelta K L P ts)[i]'(omegaDelta_lt L P ts hi)).1 = omegaAt K L P ts n h ⟨i, h ▸ hi⟩ := by
  subst h
  -- in each case the list is a `List.ofFn`; what `rfl` then closes is the definition of `omegaAt`
  cases K
  · simp only [C01_PL, List.getElem_ofFn]
    rfl
  · simp only [show omegaDelta .BTF L P ts = _ from pairing_full_eq ts _, List.getElem_ofFn]
    rfl
  · simp only [show omegaDelta .BTP L P ts = _ from pairing_part_eq ts _, List.getElem_ofFn]
    rfl
  · simp only [(omegaDelta_TMF L P ts).trans (pairing_full_eq ts _), List.getElem_ofFn]
    rfl
  · simp only [(omegaDelta_TMP L P ts).trans (pairing_part_eq ts _), List.getElem_ofFn]
    rfl

theorem ne_of_mem_nbrs {n : ℕ} {i q : Fin n} (h : q ∈ nbrs i) : q ≠ i := by
  rintro rfl
  simp only [nbrs, mem_filter, mem_univ, true_and] at h
  omega

/-- full pairing, positions `i` and `k` compared: each sum is the sum over everybody minus the own term -/
theorem sum_ne_twin_le {n : ℕ} (F G : Fin n → ℝ) (i k : Fin n) (hle : ∀ q, G q ≤ F q)
    (hself : G k = F i) :
    ∑ q ∈ univ.filter (· ≠ k), G q ≤ ∑ q ∈ univ.filter (· ≠ i), F q := by
  rw [Finset.filter_ne', Finset.filter_ne', Finset.sum_erase_eq_sub (mem_univ k),
    Finset.sum_erase_eq_sub (mem_univ i), hself]
  exact sub_le_sub_right (Finset.sum_le_sum fun q _ => hle q) _

/-! ### Plackett–Luce: `Ω_i = (s2_i/c)·(1/A_i − U(e_i, r_i))` -/
namespace SpecPL
variable {n : ℕ} (G : Game n) (β : ℝ)

theorem S_nonneg (q : Fin n) : 0 ≤ S G β q :=
  Finset.sum_nonneg fun _ _ => (Real.exp_pos _).le

theorem A_pos (q : Fin n) : 0 < A G q :=
  Finset.card_pos.mpr ⟨q, mem_filter.2 ⟨mem_univ q, rfl⟩⟩

/-- `U(x, m) = Σ_{p : r_p ≤ m} (x / S_p) / A_p` -/
def U (x : ℝ) (m : ℕ) : ℝ :=
  ∑ p ∈ univ.filter (fun p => G.r p ≤ m), x / S G β p / (A G p : ℝ)

theorem U_mono (x : ℝ) (hx : 0 ≤ x) {m m' : ℕ} (h : m ≤ m') :
    U G β x m ≤ U G β x m' := by
  unfold U
  refine Finset.sum_le_sum_of_subset_of_nonneg ?_ ?_
  · intro p hp
    simp only [Finset.mem_filter, Finset.mem_univ, true_and] at hp ⊢
    omega
  · intro p _ _
    exact div_nonneg (div_nonneg hx (S_nonneg G β p)) (Nat.cast_nonneg _)

theorem Ω_eq (i : Fin n) :
    Ω G β i = (G.s2 i / c G β) * (1 / (A G i : ℝ) - U G β (e G β i) (G.r i)) := by
  unfold Ω p U
  congr 1
  simp only [sub_div]
  rw [Finset.sum_sub_distrib]
  congr 1
  -- of the indicator terms only `q = i` is left
  rw [Finset.sum_eq_single_of_mem i (mem_filter.2 ⟨mem_univ i, le_refl (G.r i)⟩)
    (fun b _ hb => by rw [if_neg hb, zero_div]), if_pos rfl]

/-- the credit `1/A − U(x, r)` of a place does not grow towards the back of the field, as long as
the tie groups do not shrink -/
theorem place_le (x : ℝ) (hx : 0 ≤ x) (a b : Fin n) (hr : G.r a ≤ G.r b) (hA : A G a ≤ A G b) :
    1 / (A G b : ℝ) - U G β x (G.r b) ≤ 1 / (A G a : ℝ) - U G β x (G.r a) :=
  sub_le_sub (one_div_le_one_div_of_le (Nat.cast_pos.2 (A_pos G a)) (Nat.cast_le.2 hA))
    (U_mono G β x hx hr)

theorem Ω_twins (i k : Fin n) (hθ : G.θ i = G.θ k) (hs2 : G.s2 i = G.s2 k)
    (hs : 0 ≤ G.s2 i) (hr : G.r i < G.r k) (hA : A G i ≤ A G k) : Ω G β k ≤ Ω G β i := by
  rw [Ω_eq, Ω_eq, show e G β k = e G β i by unfold e; rw [hθ], ← hs2]
  exact mul_le_mul_of_nonneg_left (place_le G β (e G β i) (Real.exp_pos _).le i k hr.le hA)
    (div_nonneg hs (Real.sqrt_nonneg _))

/-- alone in first place only the own term `(1 − p_ii)/A_i` is summed; alone in last place every
other term is `−p_iq/A_q` and the own term vanishes (`S_i = e_i`) -/
theorem Ω_sole (i : Fin n) (hs : 0 ≤ G.s2 i) :
    ((∀ q, q ≠ i → G.r i < G.r q) → 0 ≤ Ω G β i) ∧ ((∀ q, q ≠ i → G.r q < G.r i) → Ω G β i ≤ 0) := by
  have hk : 0 ≤ G.s2 i / c G β := div_nonneg hs (Real.sqrt_nonneg _)
  refine ⟨fun h => mul_nonneg hk (Finset.sum_nonneg fun q hq => ?_),
    fun h => mul_nonpos_of_nonneg_of_nonpos hk (Finset.sum_nonpos fun q _ => ?_)⟩
  · have hqi : q = i := by
      by_contra hne
      exact absurd (h q hne) (not_lt.2 (mem_filter.1 hq).2)
    subst hqi
    have hle : e G β q ≤ S G β q := Finset.single_le_sum (f := e G β)
      (fun _ _ => (Real.exp_pos _).le) (mem_filter.2 ⟨mem_univ q, le_rfl⟩)
    rw [if_pos rfl]
    exact div_nonneg (sub_nonneg.2 (div_le_one_of_le₀ hle (S_nonneg G β q))) (Nat.cast_nonneg _)
  · by_cases hqi : q = i
    · subst hqi
      have hS : S G β q = e G β q := by
        unfold S
        rw [Finset.sum_eq_single_of_mem q
          (show q ∈ univ.filter (fun j => G.r q ≤ G.r j) from mem_filter.2 ⟨mem_univ q, le_rfl⟩)]
        intro j hj hne
        exact absurd (h j hne) (not_lt.2 (mem_filter.1 hj).2)
      rw [if_pos rfl, p, hS, e, div_self (Real.exp_pos _).ne', sub_self, zero_div]
    · rw [if_neg hqi, zero_sub]
      exact div_nonpos_of_nonpos_of_nonneg (neg_nonpos.2 (div_nonneg (Real.exp_pos _).le
        (S_nonneg G β q))) (Nat.cast_nonneg _)

end SpecPL

/-! ### Plackett–Luce: exchanging the ranks of `i` and `q` -/
namespace SpecPL
variable {n : ℕ} (G G' : Game n) (β : ℝ)

theorem swp_c_congr (hs2 : G'.s2 = G.s2) : c G' β = c G β := by unfold c; rw [hs2]

theorem swp_e_congr (hθ : G'.θ = G.θ) (hs2 : G'.s2 = G.s2) : e G' β = e G β := by
  funext j; unfold e; rw [swp_c_congr G G' β hs2, hθ]

theorem swp_A_swap (σ : Equiv.Perm (Fin n)) (hr' : ∀ p, G'.r p = G.r (σ p)) (p : Fin n) :
    A G' p = A G (σ p) := by
  unfold A
  refine Finset.card_equiv σ (fun s => ?_)
  simp only [Finset.mem_filter, Finset.mem_univ, true_and, hr']

/-! `G'` is `G` with the ranks of `i` and `q` exchanged, `q` placed strictly better than `i` -/
variable (hθ : G'.θ = G.θ) (hs2 : G'.s2 = G.s2) (i q : Fin n)
  (hr' : ∀ p, G'.r p = G.r (Equiv.swap i q p)) (hr : G.r q < G.r i)
include hθ hs2 hr' hr

/-- at the places not behind `q`'s, `{j : r_j ≥ r_p}` — hence `S_p` — is the same before and after -/
theorem swp_S_swap (p : Fin n) (hp : G.r (Equiv.swap i q p) ≤ G.r q) :
    S G' β p = S G β (Equiv.swap i q p) := by
  unfold S
  rw [swp_e_congr G G' β hθ hs2]
  refine Finset.sum_congr (Finset.filter_congr fun j _ => ?_) (fun _ _ => rfl)
  rw [hr' p, hr' j]
  by_cases hji : j = i
  · subst hji
    rw [Equiv.swap_apply_left]
    exact ⟨fun _ => by omega, fun _ => by omega⟩
  · by_cases hjq : j = q
    · subst hjq
      rw [Equiv.swap_apply_right]
      exact ⟨fun _ => by omega, fun _ => by omega⟩
    · rw [Equiv.swap_apply_of_ne_of_ne hji hjq]

theorem swp_U_swap (x : ℝ) : U G' β x (G'.r i) = U G β x (G.r q) := by
  unfold U
  have hri : G'.r i = G.r q := by rw [hr' i, Equiv.swap_apply_left]
  rw [hri]
  refine Finset.sum_equiv (Equiv.swap i q) (fun p => ?_) (fun p hp => ?_)
  · simp only [Finset.mem_filter, Finset.mem_univ, true_and, hr']
  · simp only [Finset.mem_filter, Finset.mem_univ, true_and, hr'] at hp
    rw [swp_S_swap G G' β hθ hs2 i q hr' hr p hp, swp_A_swap G G' (Equiv.swap i q) hr' p]

/-- after the exchange team `i` is credited for the place `q` had -/
theorem swp_Ω_exchange :
    Ω G' β i = G.s2 i / c G β * (1 / (A G q : ℝ) - U G β (e G β i) (G.r q)) := by
  rw [Ω_eq, swp_c_congr G G' β hs2, swp_e_congr G G' β hθ hs2, hs2,
    swp_U_swap G G' β hθ hs2 i q hr' hr, swp_A_swap G G' (Equiv.swap i q) hr' i,
    Equiv.swap_apply_left]

theorem swp_PL_exchange (hs : 0 ≤ G.s2 i) (hA : A G q ≤ A G i) : Ω G β i ≤ Ω G' β i := by
  rw [swp_Ω_exchange G G' β hθ hs2 i q hr' hr, Ω_eq]
  exact mul_le_mul_of_nonneg_left (place_le G β (e G β i) (Real.exp_pos _).le q i hr.le hA)
    (div_nonneg hs (Real.sqrt_nonneg _))

/-- read backwards, the exchange moves `q` up -/
theorem swp_PL_exchange_down (hs : 0 ≤ G.s2 q) (hA : A G q ≤ A G i) : Ω G' β q ≤ Ω G β q := by
  refine swp_PL_exchange G' G β hθ.symm hs2.symm q i
    (fun p => by rw [hr', Equiv.swap_comm, Equiv.swap_apply_self]) ?_ (by rw [hs2]; exact hs) ?_
  · rw [hr', hr', Equiv.swap_apply_left, Equiv.swap_apply_right]
    exact hr
  · rw [swp_A_swap G G' _ hr', swp_A_swap G G' _ hr', Equiv.swap_apply_left,
      Equiv.swap_apply_right]
    exact hA

theorem swp_PL_exchange_twins (hθiq : G.θ i = G.θ q) (hsiq : G.s2 i = G.s2 q) :
    Ω G' β i = Ω G β q := by
  rw [swp_Ω_exchange G G' β hθ hs2 i q hr' hr, Ω_eq G β q, hsiq,
    show e G β i = e G β q by unfold e; rw [hθiq]]

end SpecPL

/-! ### the same on lists -/

/-- the number of teams whose rank is `r`; at `r = ts[i].rank` it is entry `i` of the model's `plA ts` -/
def C05_tieGroup (ts : List (TeamAgg ℝ)) (r : Nat) : Nat :=
  (ts.filter (fun t => decide (t.rank = r))).length

theorem C05_tieGroup_eq (ts : List (TeamAgg ℝ)) (t : TeamAgg ℝ) :
    C05_tieGroup ts t.rank = fl1_plCnt ts t :=
  congrArg List.length (List.filter_congr fun _ _ => decide_eq_decide.2 eq_comm)

theorem SpecPL.A_gameAt (ts : List (TeamAgg ℝ)) (i : Nat) (hi : i < ts.length) :
    SpecPL.A (gameAt ts ts.length rfl) ⟨i, hi⟩ = C05_tieGroup ts ts[i].rank :=
  (plA_entry ts ⟨i, hi⟩).symm.trans (C05_tieGroup_eq ts ts[i]).symm

theorem swp_swap_ranks (ts ts' : List (TeamAgg ℝ)) (hlen : ts'.length = ts.length)
    (i q : Nat) (hi : i < ts.length) (hq : q < ts.length)
    (hri : (ts'[i]'(by omega)).rank = ts[q].rank) (hrq : (ts'[q]'(by omega)).rank = ts[i].rank)
    (hro : ∀ (p : Nat) (hp : p < ts.length), p ≠ i → p ≠ q → (ts'[p]'(by omega)).rank = ts[p].rank)
    (p : Fin ts.length) :
    (gameAt ts' ts.length hlen).r p
      = (gameAt ts ts.length rfl).r (Equiv.swap ⟨i, hi⟩ ⟨q, hq⟩ p) := by
  by_cases hpi : p = ⟨i, hi⟩
  · subst hpi
    rw [Equiv.swap_apply_left]
    exact hri
  · by_cases hpq : p = ⟨q, hq⟩
    · subst hpq
      rw [Equiv.swap_apply_right]
      exact hrq
    · rw [Equiv.swap_apply_of_ne_of_ne hpi hpq]
      exact hro p.1 p.2 (fun e => hpi (Fin.ext e)) (fun e => hpq (Fin.ext e))

theorem tieGroup_pos (ts : List (TeamAgg ℝ)) (i : Nat) (hi : i < ts.length) :
    0 < C05_tieGroup ts ts[i].rank :=
  C05_tieGroup_eq ts ts[i] ▸ fl1_plCnt_pos (List.getElem_mem hi)

theorem tieGroup_eq_one (ts : List (TeamAgg ℝ)) (i : Nat) (hi : i < ts.length)
    (h : ∀ (p : Nat) (hp : p < ts.length), p ≠ i → ts[p].rank ≠ ts[i].rank) :
    C05_tieGroup ts ts[i].rank = 1 := by
  rw [← SpecPL.A_gameAt ts i hi, SpecPL.A, Finset.card_eq_one]
  refine ⟨⟨i, hi⟩, Finset.ext fun p => ?_⟩
  simp only [Finset.mem_filter, Finset.mem_univ, true_and, Finset.mem_singleton]
  exact ⟨fun hp => by_contra fun hne => h p.1 p.2 (fun e => hne (Fin.ext e)) hp, fun e => e ▸ rfl⟩

/-! ### the rank exchange as an operation on the list -/

/-- the game `ts` with the ranks of the teams at positions `i` and `q` exchanged (everything else,
including the order of the list, unchanged) -/
def C05_exchangeRanks (ts : List (TeamAgg ℝ)) (i q : Nat) : List (TeamAgg ℝ) :=
  ts.zipIdx.map (fun x =>
    if x.2 = i then { x.1 with rank := (ts[q]?.getD x.1).rank }
    else if x.2 = q then { x.1 with rank := (ts[i]?.getD x.1).rank } else x.1)

@[simp] theorem swp_exchangeRanks_length (ts : List (TeamAgg ℝ)) (i q : Nat) :
    (C05_exchangeRanks ts i q).length = ts.length := by simp [C05_exchangeRanks]

theorem swp_exchangeRanks_getElem (ts : List (TeamAgg ℝ)) (i q : Nat) (hi : i < ts.length)
    (hq : q < ts.length) (p : Nat) (hp : p < ts.length) :
    (C05_exchangeRanks ts i q)[p]'(by simpa using hp) =
      if p = i then { ts[p] with rank := ts[q].rank }
      else if p = q then { ts[p] with rank := ts[i].rank } else ts[p] := by
  simp [C05_exchangeRanks, hi, hq]

theorem swp_exchangeRanks_spec (ts : List (TeamAgg ℝ)) (i q : Nat) (hi : i < ts.length)
    (hq : q < ts.length) :
    (∀ (p : Nat) (hp : p < ts.length),
      ((C05_exchangeRanks ts i q)[p]'(by simpa using hp)).mu = ts[p].mu ∧
      ((C05_exchangeRanks ts i q)[p]'(by simpa using hp)).sig2 = ts[p].sig2 ∧
      ((C05_exchangeRanks ts i q)[p]'(by simpa using hp)).players = ts[p].players) ∧
    ((C05_exchangeRanks ts i q)[i]'(by simpa using hi)).rank = ts[q].rank ∧
    ((C05_exchangeRanks ts i q)[q]'(by simpa using hq)).rank = ts[i].rank ∧
    (∀ (p : Nat) (hp : p < ts.length), p ≠ i → p ≠ q →
      ((C05_exchangeRanks ts i q)[p]'(by simpa using hp)).rank = ts[p].rank) := by
  refine ⟨fun p hp => ?_, ?_, ?_, fun p hp h1 h2 => ?_⟩
  · rw [swp_exchangeRanks_getElem ts i q hi hq p hp]
    split_ifs
    · exact ⟨rfl, rfl, rfl⟩
    · exact ⟨rfl, rfl, rfl⟩
    · exact ⟨rfl, rfl, rfl⟩
  · rw [swp_exchangeRanks_getElem ts i q hi hq i hi, if_pos rfl]
  · rw [swp_exchangeRanks_getElem ts i q hi hq q hq]
    by_cases h : q = i
    · subst h
      rw [if_pos rfl]
    · rw [if_neg h, if_pos rfl]
  · rw [swp_exchangeRanks_getElem ts i q hi hq p hp, if_neg h1, if_neg h2]

theorem swp_exchangeRanks_twins (L : Leaves ℝ) (P : Params ℝ) (ts : List (TeamAgg ℝ)) (i q : Nat)
    (hi : i < ts.length) (hq : q < ts.length) (hr : ts[q].rank < ts[i].rank)
    (hmu : ts[i].mu = ts[q].mu) (hsig : ts[i].sig2 = ts[q].sig2) :
    ((omegaDelta .PL L P (C05_exchangeRanks ts i q))[i]'(omegaDelta_lt L P _ (by simpa using hi))).1
      = ((omegaDelta .PL L P ts)[q]'(omegaDelta_lt L P ts hq)).1 := by
  obtain ⟨h1, h2, h3, h4⟩ := swp_exchangeRanks_spec ts i q hi hq
  have hlen := swp_exchangeRanks_length ts i q
  simp only [omegaDelta_fst_eq_omegaAt .PL L P ts ts.length rfl q hq,
    omegaDelta_fst_eq_omegaAt .PL L P _ ts.length hlen i (by rw [hlen]; exact hi), omegaAt]
  exact SpecPL.swp_PL_exchange_twins (gameAt ts ts.length rfl) _ P.beta
    (funext fun p => (h1 p.1 p.2).1) (funext fun p => (h1 p.1 p.2).2.1) ⟨i, hi⟩ ⟨q, hq⟩
    (swp_swap_ranks ts _ hlen i q hi hq h2 h3 h4) hr hmu hsig

/-! ### partial pairing: a ladder of identical teams -/

/-- `Ω` at position `i` of a ladder of `n` identical teams listed by place, `w` the win term of a
pair: a loss against the team above, a win against the team below -/
def ladderΩ (w : ℝ) (n i : ℕ) : ℝ := (if 0 < i then -w else 0) + (if i + 1 < n then w else 0)

theorem ladderΩ_mid (w : ℝ) {n i : ℕ} (h0 : 0 < i) (h1 : i + 1 < n) : ladderΩ w n i = 0 := by
  rw [ladderΩ, if_pos h0, if_pos h1, neg_add_cancel]

theorem ladderΩ_nonneg {w : ℝ} (hw : 0 ≤ w) {n i : ℕ} (h1 : i + 1 < n) :
    0 ≤ ladderΩ w n i := by
  rw [ladderΩ, if_pos h1]
  split_ifs
  · rw [neg_add_cancel]
  · rw [zero_add]; exact hw

theorem ladderΩ_nonpos {w : ℝ} (hw : 0 ≤ w) {n i : ℕ} (h0 : 0 < i) :
    ladderΩ w n i ≤ 0 := by
  rw [ladderΩ, if_pos h0]
  split_ifs
  · rw [neg_add_cancel]
  · rw [add_zero]; exact neg_nonpos.2 hw

theorem ladderΩ_sum (F : TeamAgg ℝ → TeamAgg ℝ → ℝ) (w : ℝ) (ts : List (TeamAgg ℝ))
    (hsorted : ∀ (p q : Nat) (hp : p < ts.length) (hq : q < ts.length), p < q →
      ts[p].rank < ts[q].rank)
    (hF : ∀ ti ∈ ts, ∀ tq ∈ ts,
      (ti.rank < tq.rank → F ti tq = w) ∧ (tq.rank < ti.rank → F ti tq = -w))
    (i : Nat) (hi : i < ts.length) :
    ∑ q ∈ nbrs (⟨i, hi⟩ : Fin ts.length), F ts[i] (ts[q.1]'q.2) = ladderΩ w ts.length i := by
  rw [sum_nbrs, ladderΩ]
  dsimp only
  congr 1
  · split_ifs with h0
    · exact (hF _ (List.getElem_mem hi) _ (List.getElem_mem _)).2
        (hsorted (i - 1) i (by omega) hi (by omega))
    · rfl
  · split_ifs with h1
    · exact (hF _ (List.getElem_mem hi) _ (List.getElem_mem h1)).1
        (hsorted i (i + 1) hi h1 (by omega))
    · rfl

theorem btPair_fst_identical (β : ℝ) (g : GammaFn ℝ) (n : Nat) (m s : ℝ) (ti tq : TeamAgg ℝ)
    (hi : ti.mu = m ∧ ti.sig2 = s) (hq : tq.mu = m ∧ tq.sig2 = s) :
    (ti.rank < tq.rank → (btPair β g n ti tq).1 = s / Real.sqrt (s + s + 2 * (β * β)) * (1 / 2)) ∧
    (tq.rank < ti.rank → (btPair β g n ti tq).1 = -(s / Real.sqrt (s + s + 2 * (β * β)) * (1 / 2))) := by
  have hP : btP β ti tq = 1 / 2 := btP_eq_half β (hi.1.trans hq.1.symm)
  have hC : pairC β ti tq = Real.sqrt (s + s + 2 * (β * β)) := by unfold pairC; rw [hi.2, hq.2]
  rw [btPair_fst, hP, hC, hi.2]
  exact ⟨fun h => by rw [byOutcome_win h]; norm_num, fun h => by rw [byOutcome_loss h]; ring⟩

theorem tmPair_fst_identical (L : Leaves ℝ) (cmul β κ : ℝ) (g : GammaFn ℝ) (n : Nat) (m s : ℝ)
    (ti tq : TeamAgg ℝ) (hi : ti.mu = m ∧ ti.sig2 = s) (hq : tq.mu = m ∧ tq.sig2 = s) :
    (ti.rank < tq.rank → (tmPair L cmul β κ g n ti tq).1 =
      s / (cmul * Real.sqrt (s + s + 2 * (β * β))) *
        L.v 0 (κ / (cmul * Real.sqrt (s + s + 2 * (β * β))))) ∧
    (tq.rank < ti.rank → (tmPair L cmul β κ g n ti tq).1 =
      -(s / (cmul * Real.sqrt (s + s + 2 * (β * β))) *
        L.v 0 (κ / (cmul * Real.sqrt (s + s + 2 * (β * β)))))) := by
  have hC : pairC β ti tq = Real.sqrt (s + s + 2 * (β * β)) := by unfold pairC; rw [hi.2, hq.2]
  rw [tmPair_fst, hC, hi.1, hq.1, hi.2, sub_self, zero_div, neg_zero]
  exact ⟨fun h => by rw [byOutcome_win h], fun h => by rw [byOutcome_loss h, mul_neg]⟩

/-! ### a game with a tie for first place (counter-model for the Plackett–Luce statements) -/

/-- five identical teams; the first two tie for first place -/
def swp_exTiesPL : List (TeamAgg ℝ) :=
  [⟨0, 1, 0, []⟩, ⟨0, 1, 0, []⟩, ⟨0, 1, 1, []⟩, ⟨0, 1, 2, []⟩, ⟨0, 1, 3, []⟩]

theorem swp_exTies_s2 (j : Fin 5) : (gameAt swp_exTiesPL 5 rfl).s2 j = 1 := by
  fin_cases j <;> rfl

theorem swp_exTies_e (β : ℝ) (j : Fin 5) : SpecPL.e (gameAt swp_exTiesPL 5 rfl) β j = 1 := by
  have : (gameAt swp_exTiesPL 5 rfl).θ j = 0 := by
    fin_cases j <;> rfl
  unfold SpecPL.e
  rw [this, zero_div, Real.exp_zero]

/-- every strength is `1`, so `S_q` counts the teams placed at or behind `q` -/
theorem swp_exTies_S (β : ℝ) (q : Fin 5) (N : ℕ)
    (h : (univ.filter fun j => (gameAt swp_exTiesPL 5 rfl).r q
      ≤ (gameAt swp_exTiesPL 5 rfl).r j).card = N) :
    SpecPL.S (gameAt swp_exTiesPL 5 rfl) β q = N := by
  rw [← h]
  simp only [SpecPL.S, swp_exTies_e, Finset.sum_const, nsmul_eq_mul, mul_one]

theorem swp_exTies_vals (β : ℝ) :
    SpecPL.Ω (gameAt swp_exTiesPL 5 rfl) β 0 = 1 / SpecPL.c (gameAt swp_exTiesPL 5 rfl) β * (3 / 10) ∧
    SpecPL.Ω (gameAt swp_exTiesPL 5 rfl) β 2 = 1 / SpecPL.c (gameAt swp_exTiesPL 5 rfl) β * (7 / 15) := by
  -- the places at or before 0 and 2, and `S`, `A` there
  have hF0 : univ.filter (fun q => (gameAt swp_exTiesPL 5 rfl).r q
      ≤ (gameAt swp_exTiesPL 5 rfl).r 0) = {0, 1} := by decide
  have hF2 : univ.filter (fun q => (gameAt swp_exTiesPL 5 rfl).r q
      ≤ (gameAt swp_exTiesPL 5 rfl).r 2) = {0, 1, 2} := by decide
  have hS0 := swp_exTies_S β 0 5 (by decide)
  have hS1 := swp_exTies_S β 1 5 (by decide)
  have hS2 := swp_exTies_S β 2 3 (by decide)
  obtain ⟨hA0, hA1, hA2⟩ : SpecPL.A (gameAt swp_exTiesPL 5 rfl) 0 = 2 ∧
      SpecPL.A (gameAt swp_exTiesPL 5 rfl) 1 = 2 ∧
      SpecPL.A (gameAt swp_exTiesPL 5 rfl) 2 = 1 := by decide
  unfold SpecPL.Ω SpecPL.p
  rw [hF0, hF2, Finset.sum_pair (by decide), Finset.sum_insert (by decide),
    Finset.sum_pair (by decide)]
  simp only [swp_exTies_s2, swp_exTies_e, hS0, hS1, hS2, hA0, hA1, hA2, Fin.reduceEq, ↓reduceIte]
  norm_num

theorem swp_exTies_len : swp_exTiesPL.length = 5 := rfl

end OS
end
