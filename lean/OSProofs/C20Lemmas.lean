import OSProofs.Props.C02
import OSProofs.Props.C20
/-!
# Helper lemmas for C20b (`rate` reads a rating only through its (mu, sigma))

Generic over the scalar type; nothing here looks at a number.
-/
namespace OS
open Scalar
variable {α ρ : Type} [Scalar α]

def reidP (f : Nat → Nat) (p : Rating α) : Rating α := { p with id := f p.id }

def reidT (f : Nat → Nat) (t : List (Rating α)) : List (Rating α) :=
  t.map (fun p => { p with id := f p.id })

def reidAgg (f : Nat → Nat) (t : TeamAgg α) : TeamAgg α :=
  { t with players := t.players.map (fun p => { p with id := f p.id }) }

omit [Scalar α] in
theorem reid_eq_map (f : Nat → Nat) (teams : List (List (Rating α))) :
    reid f teams = teams.map (reidT f) := rfl

omit [Scalar α] in
@[simp] theorem reidAgg_mu (f : Nat → Nat) (t : TeamAgg α) : (reidAgg f t).mu = t.mu := rfl
omit [Scalar α] in
@[simp] theorem reidAgg_sig2 (f : Nat → Nat) (t : TeamAgg α) : (reidAgg f t).sig2 = t.sig2 := rfl
omit [Scalar α] in
@[simp] theorem reidAgg_rank (f : Nat → Nat) (t : TeamAgg α) : (reidAgg f t).rank = t.rank := rfl

theorem teamAgg_reidT (f : Nat → Nat) (t : List (Rating α)) (rk : Nat) :
    teamAgg (reidT f t) rk = reidAgg f (teamAgg t rk) := by
  simp only [teamAgg, reidT, reidAgg, List.map_map, Function.comp_def]

theorem applyTeam_reidAgg (f : Nat → Nat) (kappa : α) (t : TeamAgg α) (om de : α) :
    applyTeam kappa (reidAgg f t) om de = reidT f (applyTeam kappa t om de) := by
  simp only [applyTeam, reidAgg, reidT, List.map_map, Function.comp_def]

/-- the limit_sigma clamp of one slot: `clampPlayer` of `WrapBasics.lean` on a pair -/
def c20_clampP (pq : Rating α × Rating α) : Rating α :=
  if pq.1.sigma ≤ pq.2.sigma then pq.1 else { pq.1 with sigma := pq.2.sigma }

theorem clampTeams_eq (orig res : List (List (Rating α))) :
    clampTeams orig res = (res.zip orig).map (fun tr => (tr.1.zip tr.2).map c20_clampP) := rfl

/-- slot-wise replacement of the ids by an arbitrary nested list of ids -/
def setIds (ids : List (List Nat)) (teams : List (List (Rating α))) : List (List (Rating α)) :=
  List.zipWith (fun is t => List.zipWith (fun i (p : Rating α) => { p with id := i }) is t) ids teams

/-- the nesting of a game: the team sizes -/
def shapeOf {β : Type} (x : List (List β)) : List Nat := x.map List.length

omit [Scalar α] in
theorem shapeOf_idsOf (x : List (List (Rating α))) : shapeOf (idsOf x) = shapeOf x := by
  simp only [shapeOf, idsOf, List.map_map, Function.comp_def, List.length_map]

omit [Scalar α] in
theorem shapeOf_valuesOf (x : List (List (Rating α))) : shapeOf (valuesOf x) = shapeOf x := by
  simp only [shapeOf, valuesOf, List.map_map, Function.comp_def, List.length_map]

omit [Scalar α] in
theorem valuesOf_reid (f : Nat → Nat) (teams : List (List (Rating α))) :
    valuesOf (reid f teams) = valuesOf teams := by
  simp only [valuesOf, reid, List.map_map, Function.comp_def]

omit [Scalar α] in
theorem idsOf_reid (f : Nat → Nat) (teams : List (List (Rating α))) :
    idsOf (reid f teams) = (idsOf teams).map (·.map f) := by
  simp only [idsOf, reid, List.map_map, Function.comp_def]

section lists
variable {β γ δ ε : Type}

/-- a list is determined by two of its images that are jointly injective: the two images zip to the
image under `a ↦ (f a, g a)`, which is injective -/
theorem eq_of_map_eq_of_map_eq {f : β → γ} {g : β → δ}
    (hfg : ∀ a b, f a = f b → g a = g b → a = b) {l l' : List β}
    (h : l.map f = l'.map f) (h' : l.map g = l'.map g) : l = l' := by
  refine (List.map_inj_right fun a b hab => hfg a b (congrArg Prod.fst hab) (congrArg Prod.snd hab)).1
    (?_ : l.map (fun a => (f a, g a)) = l'.map (fun a => (f a, g a)))
  rw [← List.zip_map', ← List.zip_map', h, h']

end lists

omit [Scalar α] in
theorem setIds_ids (ids : List (List Nat)) (x : List (List (Rating α)))
    (h : shapeOf ids = shapeOf x) : idsOf (setIds ids x) = ids :=
  map_zipWith_left_id (map_eq_map_iff_forall₂.1 h) fun _ _ hlen =>
    map_zipWith_left_id (forall₂_true_of_length_eq hlen) fun _ _ _ => rfl

omit [Scalar α] in
theorem setIds_values (ids : List (List Nat)) (x : List (List (Rating α)))
    (h : shapeOf ids = shapeOf x) : valuesOf (setIds ids x) = valuesOf x :=
  map_zipWith_right (map_eq_map_iff_forall₂.1 h) fun _ _ hlen =>
    map_zipWith_right (forall₂_true_of_length_eq hlen) fun _ _ _ => rfl

omit [Scalar α] in
theorem game_ext (a b : List (List (Rating α))) (hi : idsOf a = idsOf b)
    (hv : valuesOf a = valuesOf b) : a = b :=
  eq_of_map_eq_of_map_eq (fun _ _ => eq_of_map_eq_of_map_eq (g := fun p : Rating α => (p.mu, p.sigma))
    (fun p q hi hv => by
      cases p; cases q
      simp only [Prod.mk.injEq] at hi hv
      rw [hi, hv.1, hv.2])) hi hv

end OS
