import OSProofs.PredictLemmas
import Mathlib.Algebra.BigOperators.Group.List.Basic
import Mathlib.Algebra.Order.BigOperators.Group.List
import Mathlib.Algebra.BigOperators.Ring.List
import Mathlib.Data.Real.Basic
import Mathlib.Tactic.Ring
import Mathlib.Tactic.Linarith
/-!
# Real sums over ordered pairs

Symmetrisation of the double sum `Σ_i Σ_{b ∈ others of i} B(l[i], b)` (which is the sum of `B` over
`orderedPairs l`): it equals the sum over the unordered pairs of `B(a, b) + B(b, a)`.  After that, what
several predictions share: sums over unordered pairs compared term by term, an average of numbers in
`(0, 1)`, the player count under a permutation of the teams.
-/
namespace OS

/-- the double sum "for each entry, over the other entries" -/
def pairSum {β : Type} (B : β → β → ℝ) (l : List β) : ℝ :=
  ((picks l).map (fun p => (p.2.map (B p.1)).sum)).sum

theorem pairSum_cons {β : Type} (B : β → β → ℝ) (x : β) (xs : List β) :
    pairSum B (x :: xs) = (xs.map (fun b => B x b + B b x)).sum + pairSum B xs := by
  unfold pairSum
  simp only [picks, List.map_cons, List.sum_cons, List.map_map]
  have h1 : ((fun p : β × List β => (p.2.map (B p.1)).sum) ∘ fun p : β × List β => (p.1, x :: p.2))
      = fun p : β × List β => B p.1 x + (p.2.map (B p.1)).sum := by
    funext p; simp
  have h2 : ((picks xs).map (fun p => B p.1 x)).sum = (xs.map (fun y => B y x)).sum := by
    conv_rhs => rw [← picks_map_fst xs, List.map_map]
    rfl
  rw [h1, List.sum_map_add, h2, List.sum_map_add]
  ring

theorem pairSum_eq_unordered {β : Type} (B : β → β → ℝ) (l : List β) :
    pairSum B l = ((unorderedPairs l).map (fun p => B p.1 p.2 + B p.2 p.1)).sum := by
  induction l with
  | nil => simp [pairSum, picks, unorderedPairs]
  | cons x xs ih =>
    rw [pairSum_cons, ih]
    simp only [unorderedPairs, List.map_append, List.sum_append, List.map_map]
    rfl

theorem pairSum_eq_zipIdx {β : Type} (B : β → β → ℝ) (l : List β) :
    pairSum B l = (l.zipIdx.map (fun a => ((l.eraseIdx a.2).map (B a.1)).sum)).sum := by
  unfold pairSum
  rw [zipIdx_map_eraseIdx_eq_map_picks l (fun y r => (r.map (B y)).sum)]

theorem sum_flatMap_real {ι : Type} (l : List ι) (g : ι → List ℝ) :
    (l.flatMap g).sum = (l.map (fun a => (g a).sum)).sum := by
  rw [List.flatMap_def, List.sum_flatten, List.map_map]
  rfl

/-- the sum of `f` over `orderedPairs l` (= `itertools.permutations(l, 2)`) is the sum over the
unordered pairs of `f (a, b) + f (b, a)` -/
theorem sum_orderedPairs_eq_unordered {β : Type} (f : β × β → ℝ) (l : List β) :
    ((orderedPairs l).map f).sum = ((unorderedPairs l).map (fun p => f p + f p.swap)).sum := by
  have h := pairSum_eq_unordered (fun a b => f (a, b)) l
  rw [pairSum_eq_zipIdx] at h
  rw [orderedPairs_map_eraseIdx, sum_flatMap_real, h]
  rfl

theorem real_card_unorderedPairs {β : Type} (l : List β) :
    ((unorderedPairs l).length : ℝ) = ((l.length * (l.length - 1) : ℕ) : ℝ) / 2 := by
  rw [← length_unorderedPairs]
  push_cast
  ring

theorem pairSum_of_symm_eq {β : Type} (B : β → β → ℝ) (c : ℝ) (h : ∀ a b, B a b + B b a = c)
    (l : List β) : pairSum B l = c * (((l.length * (l.length - 1) : ℕ) : ℝ) / 2) := by
  rw [pairSum_eq_unordered, ← real_card_unorderedPairs,
    List.sum_eq_card_nsmul _ c (List.forall_mem_map.mpr fun p _ => h p.1 p.2), List.length_map,
    nsmul_eq_mul, mul_comm]

theorem pairSum_nonneg {β : Type} (B : β → β → ℝ) (h : ∀ a b, 0 ≤ B a b + B b a) (l : List β) :
    0 ≤ pairSum B l := by
  rw [pairSum_eq_unordered]
  exact List.sum_nonneg (List.forall_mem_map.mpr fun p _ => h p.1 p.2)

/-- if every symmetrised pair term is ≤ c, the double sum is ≤ `c · n(n-1)/2` -/
theorem pairSum_le {β : Type} (B : β → β → ℝ) (c : ℝ) (h : ∀ a b, B a b + B b a ≤ c)
    (l : List β) : pairSum B l ≤ c * (((l.length * (l.length - 1) : ℕ) : ℝ) / 2) := by
  rw [pairSum_eq_unordered, ← real_card_unorderedPairs, mul_comm, ← nsmul_eq_mul,
    ← List.length_map (fun p : β × β => B p.1 p.2 + B p.2 p.1)]
  exact List.sum_le_card_nsmul _ c (List.forall_mem_map.mpr fun p _ => h p.1 p.2)

theorem sum_map_div_const {ι : Type} (l : List ι) (f : ι → ℝ) (D : ℝ) :
    (l.map (fun a => f a / D)).sum = (l.map f).sum / D := by
  simp only [div_eq_mul_inv, List.sum_map_mul_right]

theorem sum_map_eraseIdx {β : Type} (l : List β) (G : β → ℝ) (i : ℕ) (hi : i < l.length) :
    ((l.eraseIdx i).map G).sum = (l.map G).sum - G l[i] := by
  have h := List.CommMonoid.add_sum_eraseIdx (l := l.map G) (i := i) (by simpa using hi)
  rw [List.getElem_map, List.eraseIdx_map] at h
  exact eq_sub_of_add_eq' h

theorem sum_unorderedPairs_le {γ : Type} (R : γ → γ → Prop) (F F' : γ × γ → ℝ)
    (h : ∀ a b a' b', R a a' → R b b' → F (a, b) ≤ F' (a', b'))
    {l l' : List γ} (hl : List.Forall₂ R l l') :
    ((unorderedPairs l).map F).sum ≤ ((unorderedPairs l').map F').sum := by
  induction hl with
  | nil => simp [unorderedPairs]
  | @cons x x' xs xs' hx hxs ih =>
    simp only [unorderedPairs, List.map_append, List.sum_append, List.map_map]
    apply add_le_add _ ih
    clear ih
    induction hxs with
    | nil => simp
    | cons hy _ ih2 =>
      simp only [List.map_cons, List.sum_cons, Function.comp]
      exact add_le_add (h _ _ _ _ hx hy) ih2

theorem sum_div_mem_Ioo {ι : Type} {l : List ι} (hl : 0 < l.length) {f : ι → ℝ}
    (hf : ∀ b ∈ l, 0 < f b ∧ f b < 1) {D : ℝ} (hD : (l.length : ℝ) ≤ D) :
    0 < (l.map f).sum / D ∧ (l.map f).sum / D < 1 := by
  have hne : l ≠ [] := List.ne_nil_of_length_pos hl
  have h0 : 0 < (l.map f).sum :=
    List.sum_pos _ (List.forall_mem_map.mpr fun b hb => (hf b hb).1) (by simpa using hne)
  have h1 : (l.map f).sum < l.length := by
    have := List.sum_lt_sum_of_ne_nil hne f (fun _ => (1 : ℝ)) (fun b hb => (hf b hb).2)
    rwa [List.map_const', List.sum_replicate, nsmul_one] at this
  have hDpos : 0 < D := h0.trans (h1.trans_le hD)
  exact ⟨div_pos h0 hDpos, (div_lt_one hDpos).mpr (h1.trans_le hD)⟩

theorem playerCount_perm {β : Type} {teams teams' : List (List β)} (h : teams.Perm teams') :
    playerCount teams = playerCount teams' := by
  rw [playerCount_eq_sum, playerCount_eq_sum, (h.map _).sum_eq]

theorem two_le_players {β : Type} {a b : List β} (ha : a ≠ []) (hb : b ≠ []) :
    2 ≤ a.length + b.length :=
  Nat.add_le_add (List.length_pos_iff.mpr ha) (List.length_pos_iff.mpr hb)

end OS
