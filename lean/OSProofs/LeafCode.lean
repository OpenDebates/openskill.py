import OSProofs.RealInst
import OSProofs.Gauss2
import Mathlib.Tactic.FieldSimp
import Mathlib.Tactic.Ring
import Mathlib.Tactic.Linarith
import Mathlib.Tactic.Positivity
import Mathlib.Tactic.NormNum

/-!
# The four correction functions over ℝ: the paper's formulas and the branches of the code

* ranges and symmetries of the paper's `vExact, wExact, vtExact, wtExact` (the Gaussian facts
  G5–G8d of `OSProofs/Gauss*.lean`, read at `u = x − t` resp. on the interval `[−t−x, t−x]`);
* what `vCode, wCode, vtCode, wtCode` return on each branch of their guards.

`Props/C17.lean` combines the two: off its guard each code function *is* the paper's function, on
its guard it is a constant or a linear function, so every range fact is a two-line case split.
-/

noncomputable section
namespace OS
open Gauss

theorem epsF_eq : (epsF : ℝ) = 1 / 4503599627370496 := by
  unfold epsF; simp only [sc_ofNat]; norm_num

theorem tiny5_eq : (tiny5 : ℝ) = 1 / 100000 := by
  unfold tiny5; simp only [sc_ofNat]; norm_num

theorem epsF_lt_tiny5 : (epsF : ℝ) < tiny5 := by
  rw [epsF_eq, tiny5_eq]; norm_num

/-- the code's normaliser `b = Φ(t − |x|) − Φ(−t − |x|)` -/
def Zc (x t : ℝ) : ℝ := Phi (t - |x|) - Phi (-t - |x|)

theorem Zc_eq (x t : ℝ) : Phi (t - x) - Phi (-t - x) = Zc x t := by
  unfold Zc
  rcases abs_choice x with h | h
  · rw [h]
  · rw [h, show t - -x = -(-t - x) by ring, show -t - -x = -(t - x) by ring, Phi_neg, Phi_neg]
    ring

theorem lo_lt_hi_iff {x t : ℝ} : -t - x < t - x ↔ 0 < t :=
  (sub_lt_sub_iff_right x).trans neg_lt_self_iff

theorem t_pos_of_Zc_pos {x t : ℝ} (h : 0 < Zc x t) : 0 < t :=
  lo_lt_hi_iff.1 (Phi_strictMono.lt_iff_lt.1 (sub_pos.1 h))

theorem vExact_gt (x t : ℝ) : t - x < vExact x t := by
  have : 0 < vExact x t + (x - t) := mills_ratio_add_pos (x - t)
  linarith

theorem wExact_pos (x t : ℝ) : 0 < wExact x t :=
  mul_pos (mills_ratio_pos _) (mills_ratio_add_pos (x - t))

theorem wExact_lt_one (x t : ℝ) : wExact x t < 1 := sampford (x - t)

theorem vtExact_mem (x t : ℝ) (ht : 0 < t) : -t - x < vtExact x t ∧ vtExact x t < t - x :=
  trunc_ratio_mem (lo_lt_hi_iff.2 ht)

theorem vtExact_neg (x t : ℝ) : vtExact (-x) t = -vtExact x t := by
  simp only [vtExact, sc_Phi, sc_phi]
  have h1 : t - -x = -(-t - x) := by ring
  have h2 : -t - -x = -(t - x) := by ring
  rw [h1, h2, phi_even, phi_even, Phi_neg, Phi_neg, sub_sub_sub_cancel_left, ← neg_div, neg_sub]

/-- `W̃` is even in `x` -/
theorem wtb_wtExact_neg (x t : ℝ) : wtExact (-x) t = wtExact x t := by
  simp only [wtExact, vtExact_neg, neg_mul_neg]
  simp only [vtExact, sc_Phi, sc_phi]
  have h1 : t - -x = -(-t - x) := by ring
  have h2 : -t - -x = -(t - x) := by ring
  rw [h1, h2, phi_even, phi_even, Phi_neg, Phi_neg]
  have h3 : 1 - Phi (-t - x) - (1 - Phi (t - x)) = Phi (t - x) - Phi (-t - x) := by ring
  rw [h3]
  ring

/-- the paper's W̃ as one fraction over `Z²`, with `a = −t−x`, `b = t−x` -/
theorem wtExact_frac {x t : ℝ} (ht : 0 < t) :
    wtExact x t = (((t - x) * phi (t - x) - (-t - x) * phi (-t - x)) * (Phi (t - x) - Phi (-t - x))
      + (phi (-t - x) - phi (t - x)) ^ 2) / (Phi (t - x) - Phi (-t - x)) ^ 2 := by
  have hZ : 0 < Phi (t - x) - Phi (-t - x) := Z_pos (lo_lt_hi_iff.2 ht)
  simp only [wtExact, vtExact, sc_Phi, sc_phi]
  field_simp
  ring

theorem wtExact_nonneg {x t : ℝ} (ht : 0 < t) : 0 ≤ wtExact x t := by
  rw [wtExact_frac ht]
  exact div_nonneg (Wt_mul_Z_nonneg (lo_lt_hi_iff.2 ht)) (sq_nonneg _)

/-- the paper's W̃ is at most 1 (truncated variance ≥ 0), for every x and every positive margin -/
theorem C17_wtExact_le_one {x t : ℝ} (ht : 0 < t) : wtExact x t ≤ 1 := by
  have hab : -t - x < t - x := lo_lt_hi_iff.2 ht
  rw [wtExact_frac ht, div_le_one (pow_pos (Z_pos hab) 2)]
  exact Wt_mul_Z_le hab

/-- the paper's W̃ is at least `1 − 4t²` (the variance of a distribution supported on an interval of
length `2t` is at most `(2t)²`), for every x and every positive margin -/
theorem C17_wtExact_ge {x t : ℝ} (ht : 0 < t) : 1 - 4 * t ^ 2 ≤ wtExact x t := by
  have hab : -t - x < t - x := lo_lt_hi_iff.2 ht
  rw [wtExact_frac ht, le_div_iff₀ (pow_pos (Z_pos hab) 2)]
  have h := Wt_mul_Z_ge hab
  have e : (t - x - (-t - x)) ^ 2 = 4 * t ^ 2 := by ring
  rwa [e] at h

theorem vCode_eq (x t : ℝ) :
    vCode x t = if Phi (x - t) < epsF then -(x - t) else vExact x t := rfl

theorem wCode_eq (x t : ℝ) :
    wCode x t = if Phi (x - t) < epsF then (if x < 0 then 1 else 0)
      else vCode x t * (vCode x t + (x - t)) := by
  simp only [wCode, sc_Phi, sc_zero, sc_one]

theorem vtCode_eq (x t : ℝ) :
    vtCode x t = if Zc x t < tiny5 then (if x < 0 then -x - t else -x + t)
      else (if x < 0 then -(phi (-t - |x|) - phi (t - |x|)) else phi (-t - |x|) - phi (t - |x|))
        / Zc x t := by
  simp only [vtCode, Zc, sc_Phi, sc_phi, sc_ofNat, sabs_eq_abs, Nat.cast_zero]
  congr

theorem wtCode_eq (x t : ℝ) :
    wtCode x t = if Zc x t < epsF then 1
      else ((t - |x|) * phi (t - |x|) + (t + |x|) * phi (-t - |x|)) / Zc x t
        + (phi (-t - |x|) - phi (t - |x|)) / Zc x t * ((phi (-t - |x|) - phi (t - |x|)) / Zc x t) := by
  simp only [wtCode, Zc, sc_Phi, sc_phi, sc_ofNat, sabs_eq_abs, Nat.cast_one]
  congr

theorem vCode_asym {x t : ℝ} (h : Phi (x - t) < epsF) : vCode x t = -(x - t) := by
  rw [vCode_eq, if_pos h]

/-- outside its guard, `v` is the paper's V = φ/Φ -/
theorem C17_v_exact_branch {x t : ℝ} (h : ¬ Phi (x - t) < epsF) : vCode x t = vExact x t := by
  rw [vCode_eq, if_neg h]

theorem wCode_asym_neg {x t : ℝ} (h : Phi (x - t) < epsF) (hx : x < 0) : wCode x t = 1 := by
  rw [wCode_eq, if_pos h, if_pos hx]

theorem wCode_asym_nonneg {x t : ℝ} (h : Phi (x - t) < epsF) (hx : ¬ x < 0) : wCode x t = 0 := by
  rw [wCode_eq, if_pos h, if_neg hx]

/-- outside its guard, `w` is the paper's W = V(V + x − t) -/
theorem C17_w_exact_branch {x t : ℝ} (h : ¬ Phi (x - t) < epsF) : wCode x t = wExact x t := by
  rw [wCode_eq, if_neg h, C17_v_exact_branch h]; rfl

theorem vtCode_asym_neg {x t : ℝ} (h : Zc x t < tiny5) (hx : x < 0) : vtCode x t = -x - t := by
  rw [vtCode_eq, if_pos h, if_pos hx]

theorem vtCode_asym_nonneg {x t : ℝ} (h : Zc x t < tiny5) (hx : ¬ x < 0) :
    vtCode x t = -x + t := by
  rw [vtCode_eq, if_pos h, if_neg hx]

theorem vtCode_exact_neg {x t : ℝ} (h : ¬ Zc x t < tiny5) (hx : x < 0) :
    vtCode x t = -(phi (-t - |x|) - phi (t - |x|)) / Zc x t := by
  rw [vtCode_eq, if_neg h, if_pos hx]

theorem vtCode_exact_nonneg {x t : ℝ} (h : ¬ Zc x t < tiny5) (hx : ¬ x < 0) :
    vtCode x t = (phi (-t - |x|) - phi (t - |x|)) / Zc x t := by
  rw [vtCode_eq, if_neg h, if_neg hx]

theorem wtCode_asym {x t : ℝ} (h : Zc x t < epsF) : wtCode x t = 1 := by
  rw [wtCode_eq, if_pos h]

theorem wtCode_exact {x t : ℝ} (h : ¬ Zc x t < epsF) :
    wtCode x t = ((t - |x|) * phi (t - |x|) + (t + |x|) * phi (-t - |x|)) / Zc x t
      + (phi (-t - |x|) - phi (t - |x|)) / Zc x t * ((phi (-t - |x|) - phi (t - |x|)) / Zc x t) := by
  rw [wtCode_eq, if_neg h]

/-- outside its guard, `vt` is the paper's Ṽ (written with x, not |x|), for every sign of x:
the code evaluates Ṽ at `|x|` and uses that Ṽ is odd -/
theorem C17_vt_exact_branch {x t : ℝ} (h : ¬ Zc x t < tiny5) : vtCode x t = vtExact x t := by
  rcases lt_or_ge x 0 with hx | hx
  · rw [vtCode_exact_neg h hx, neg_div]
    show -vtExact |x| t = vtExact x t
    rw [abs_of_neg hx, vtExact_neg, neg_neg]
  · rw [vtCode_exact_nonneg h (not_lt.mpr hx)]
    show vtExact |x| t = vtExact x t
    rw [abs_of_nonneg hx]

/-- outside its guard, `wt` is the paper's W̃ (written with x, not |x|), for every sign of x:
the code evaluates W̃ at `|x|`, and W̃ is even -/
theorem C17_wt_exact_branch {x t : ℝ} (h : ¬ Zc x t < epsF) : wtCode x t = wtExact x t := by
  rw [wtCode_exact h]
  show wtExact |x| t = wtExact x t
  rcases abs_choice x with hx | hx
  · rw [hx]
  · rw [hx, wtb_wtExact_neg]

end OS
end
