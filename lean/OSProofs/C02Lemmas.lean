import OSProofs.SortLemmas
/-!
# `rate` without the sort: every team is updated in place from its own rank, omega and delta

Before the clamp, `rate` is `zipWith updTeam` of the tau-inflated teams, in the caller's order, with the
per-team data `rateData` (`rateRaw_eq_zipWith`); every `(ω, δ)` in `rateData` is one that `omegaDelta`
computes on `prepared` (`rateData_snd_mem`).  The ids (C02), the players of a team in another order (C04b)
and the sigma bounds slot by slot (C06, FL1) are read off this form.  Generic over the scalar type; nothing
here looks at a number.
-/
namespace OS
open Scalar
variable {α ρ : Type} [Scalar α]

theorem updTeam_ids (kappa : α) (t : List (Rating α)) (w : Nat × α × α) :
    (updTeam kappa t w).map (·.id) = t.map (·.id) := by
  simp [updTeam, applyTeam, teamAgg]

/-- the per-team data `(dense rank, omega, delta)` from which `rate` updates the teams, in the
caller's order: computed in rank order and carried back by the second `_unwind` -/
def rateData (K : Kind) (L : Leaves α) (P : Params α) (le : ρ → ρ → Bool) (tau : α)
    (teams : List (List (Rating α))) : Option (List ρ) → List (Nat × α × α)
  | none =>
    (List.range (inflate tau teams).length).zip
      (omegaDelta K L P (teamAggs (inflate tau teams) (List.range (inflate tau teams).length)))
  | some r =>
    (unwind leNat (unwind le r (inflate tau teams)).2
      ((denseRanks (fun a b => !le b a) (sortedKeys le r)).zip
        (omegaDelta K L P (teamAggs (unwind le r (inflate tau teams)).1
          (denseRanks (fun a b => !le b a) (sortedKeys le r)))))).1

theorem rateData_length (K : Kind) (L : Leaves α) (P : Params α) (le : ρ → ρ → Bool) (tau : α)
    (teams : List (List (Rating α))) (ranks : Option (List ρ))
    (hr : ∀ r, ranks = some r → teams.length ≤ r.length) :
    (rateData K L P le tau teams ranks).length = teams.length := by
  cases ranks with
  | none => simp [rateData]
  | some r => simp [rateData, hr r rfl]

/-- every `(ω, δ)` in `rateData` is one that `omegaDelta` computes on `prepared` -/
theorem rateData_snd_mem (K : Kind) (L : Leaves α) (P : Params α) (le : ρ → ρ → Bool)
    (teams : List (List (Rating α))) (ranks : Option (List ρ)) (o : CallOpts α) :
    ∀ w ∈ rateData K L P le (resolveTau P o) teams ranks,
      w.2 ∈ omegaDelta K L P (prepared P le teams ranks o) := by
  intro w hw
  cases ranks with
  | none => exact (List.of_mem_zip hw).2
  | some r => exact (List.of_mem_zip (mem_unwind_fst _ _ _ hw)).2

/-- **No player is dropped, duplicated or moved**: before the clamp, returned team `i` is the
per-player update of the tau-inflated input team `i` with team `i`'s own rank, omega and delta -/
theorem rateRaw_eq_zipWith (K : Kind) (L : Leaves α) (P : Params α) (le : ρ → ρ → Bool) (tau : α)
    (teams : List (List (Rating α))) (ranks : Option (List ρ))
    (hr : ∀ r, ranks = some r → teams.length ≤ r.length) :
    rateRaw K L P le tau teams ranks
      = List.zipWith (updTeam P.kappa) (inflate tau teams) (rateData K L P le tau teams ranks) := by
  cases ranks with
  | none => exact compute_eq_zipWith _ _ _ _ _
  | some r =>
    have hrl := hr r rfl
    simp only [rateRaw, rateData, compute_eq_zipWith]
    -- ranks beyond the last team are never paired with a team
    rw [unwind_take_tenet le r _ (by rw [inflate_length]; exact hrl)]
    exact unwind_roundtrip_zip le _ _ _ _ (by simp [hrl]) (by simp [hrl])

end OS
