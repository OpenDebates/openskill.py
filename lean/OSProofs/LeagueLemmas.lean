import OSModel.League
import OSProofs.Props.C02
import OSProofs.Props.C20
/-!
# Helper lemmas for the concrete league (`OSModel/League.lean`)

Generic over the scalar type (no real numbers; of Mathlib only list lemmas): what `storeBack` /
`storeBackPos` read and write, well-formed games, and the facts about `playGame` that need only
"`rate` keeps every id in its slot" (C02).
`playGame_slot_of_rate` carries any slot-wise statement about `rate` to the store;
`playLeague_sigma_rel` carries a statement about one game and one player's sigma along a history.
-/
namespace OS
open Scalar
variable {α ρ : Type}

/-! ### well-formed games -/

/-- A game is well-formed when no player number occurs twice in it (neither within a team nor
    in two teams) and the outcome has one entry per team (or is omitted). -/
def LeagueGame.WF (g : LeagueGame α ρ) : Prop :=
  g.teams.flatten.Nodup ∧ g.outcome.fits g.teams.length

/-- player `p` takes part in game `g` -/
def LeagueGame.plays (g : LeagueGame α ρ) (p : Nat) : Prop := p ∈ g.teams.flatten

instance (g : LeagueGame α ρ) (p : Nat) : Decidable (g.plays p) :=
  inferInstanceAs (Decidable (p ∈ g.teams.flatten))

instance (oc : Outcome ρ) (n : Nat) : Decidable (oc.fits n) :=
  match oc with
  | .omitted => isTrue trivial
  | .ranks r => inferInstanceAs (Decidable (r.length = n))
  | .scores s => inferInstanceAs (Decidable (s.length = n))

instance (g : LeagueGame α ρ) : Decidable g.WF :=
  inferInstanceAs (Decidable (_ ∧ _))

/-! ### the store -/

@[simp] theorem lg_put_mu (s : Store α) (p : Nat) (m sg : α) (q : Nat) :
    (s.put p m sg).mu q = if q = p then m else s.mu q := rfl

@[simp] theorem lg_put_sigma (s : Store α) (p : Nat) (m sg : α) (q : Nat) :
    (s.put p m sg).sigma q = if q = p then sg else s.sigma q := rfl

@[simp] theorem lg_load_id (s : Store α) (p : Nat) : (s.load p).id = p := rfl
@[simp] theorem lg_load_mu (s : Store α) (p : Nat) : (s.load p).mu = s.mu p := rfl
@[simp] theorem lg_load_sigma (s : Store α) (p : Nat) : (s.load p).sigma = s.sigma p := rfl

theorem lg_store_ext {s t : Store α} (hm : ∀ p, s.mu p = t.mu p) (hs : ∀ p, s.sigma p = t.sigma p) :
    s = t := by
  obtain ⟨sm, ss⟩ := s
  obtain ⟨tm, ts⟩ := t
  simp only at hm hs
  rw [funext hm, funext hs]

theorem lg_foldl_write_not_mem (l : List (Rating α)) (s : Store α) (p : Nat)
    (h : p ∉ l.map (·.id)) :
    (l.foldl Store.write s).mu p = s.mu p ∧ (l.foldl Store.write s).sigma p = s.sigma p := by
  induction l generalizing s with
  | nil => exact ⟨rfl, rfl⟩
  | cons r l ih =>
    simp only [List.map_cons, List.mem_cons, not_or] at h
    obtain ⟨h1, h2⟩ := ih (s.write r) h.2
    simp only [List.foldl_cons]
    rw [h1, h2]
    simp [Store.write, h.1]

theorem lg_foldl_write_mem (l : List (Rating α)) (s : Store α) (hn : (l.map (·.id)).Nodup)
    (r : Rating α) (hr : r ∈ l) :
    (l.foldl Store.write s).mu r.id = r.mu ∧ (l.foldl Store.write s).sigma r.id = r.sigma := by
  induction l generalizing s with
  | nil => cases hr
  | cons x l ih =>
    simp only [List.map_cons, List.nodup_cons] at hn
    simp only [List.foldl_cons]
    rcases List.mem_cons.1 hr with rfl | hr'
    · obtain ⟨h1, h2⟩ := lg_foldl_write_not_mem l (s.write r) r.id hn.1
      rw [h1, h2]
      simp [Store.write]
    · exact ih (s.write x) hn.2 hr'

omit ρ in
theorem lg_idsOf_flatten (res : List (List (Rating α))) :
    (idsOf res).flatten = res.flatten.map (·.id) := by
  simp only [idsOf, List.map_flatten]

/-- **`storeBack` only writes ids that occur** in the result -/
theorem storeBack_not_mem (s : Store α) (res : List (List (Rating α))) (p : Nat)
    (h : p ∉ (idsOf res).flatten) :
    (storeBack s res).mu p = s.mu p ∧ (storeBack s res).sigma p = s.sigma p :=
  lg_foldl_write_not_mem _ s p (lg_idsOf_flatten res ▸ h)

/-- **`storeBack` stores every returned rating at its id** when the ids of the result are
    pairwise distinct -/
theorem storeBack_mem (s : Store α) (res : List (List (Rating α)))
    (hn : (idsOf res).flatten.Nodup) (r : Rating α) (hr : r ∈ res.flatten) :
    (storeBack s res).mu r.id = r.mu ∧ (storeBack s res).sigma r.id = r.sigma :=
  lg_foldl_write_mem _ s (lg_idsOf_flatten res ▸ hn) r hr

/-- writing back by position with the ids and values of `res` is writing back `res` by id -/
theorem storeBackPos_eq_storeBack (s : Store α) (res : List (List (Rating α))) :
    storeBackPos s (idsOf res) (valuesOf res) = storeBack s res := by
  have h : List.zipWith List.zip (idsOf res) (valuesOf res)
      = res.map (·.map (fun r => (r.id, r.mu, r.sigma))) := by
    simp only [idsOf, valuesOf, List.zipWith_map, List.zipWith_self, List.zip_map']
  simp only [storeBackPos, storeBack, h, ← List.map_flatten, List.foldl_map]
  rfl

/-! ### one game -/

variable [Scalar α]

omit [Scalar α] in
theorem lg_idsOf_loadTeams (s : Store α) (g : LeagueGame α ρ) : idsOf (loadTeams s g) = g.teams := by
  simp [idsOf, loadTeams, List.map_map, Function.comp_def]

omit [Scalar α] in
theorem lg_loadTeams_length (s : Store α) (g : LeagueGame α ρ) :
    (loadTeams s g).length = g.teams.length := by
  simp [loadTeams]

omit [Scalar α] in
theorem lg_loadTeams_flatten (s : Store α) (g : LeagueGame α ρ) :
    (loadTeams s g).flatten = g.teams.flatten.map s.load := by
  simp only [loadTeams, List.map_flatten]

theorem lg_idsOf_rate_load (L : Leaves α) (P : Params α) (le : ρ → ρ → Bool) (neg : ρ → ρ)
    (s : Store α) (g : LeagueGame α ρ) (hf : g.outcome.fits g.teams.length) :
    idsOf (rate g.kind L P le neg (loadTeams s g) g.outcome g.opts) = g.teams := by
  rw [C02_ids_rate _ _ _ _ _ _ _ _ (by rw [lg_loadTeams_length]; exact hf), lg_idsOf_loadTeams]

/-- **A player who does not take part in a game keeps his (mu, sigma).** -/
theorem playGame_untouched (L : Leaves α) (P : Params α) (le : ρ → ρ → Bool) (neg : ρ → ρ)
    (s : Store α) (g : LeagueGame α ρ) (hf : g.outcome.fits g.teams.length) (p : Nat)
    (hp : ¬ g.plays p) :
    (playGame L P le neg s g).mu p = s.mu p ∧ (playGame L P le neg s g).sigma p = s.sigma p := by
  apply storeBack_not_mem
  rw [lg_idsOf_rate_load L P le neg s g hf]
  exact hp

/-- **What a participant finds in the store after a well-formed game** is the rating `rate`
    returned in (any of) his slot(s): every rating `r` of the result sits at `r.id`. -/
theorem playGame_stored (L : Leaves α) (P : Params α) (le : ρ → ρ → Bool) (neg : ρ → ρ)
    (s : Store α) (g : LeagueGame α ρ) (hwf : g.WF) (r : Rating α)
    (hr : r ∈ (rate g.kind L P le neg (loadTeams s g) g.outcome g.opts).flatten) :
    (playGame L P le neg s g).mu r.id = r.mu ∧ (playGame L P le neg s g).sigma r.id = r.sigma := by
  apply storeBack_mem _ _ _ r hr
  rw [lg_idsOf_rate_load L P le neg s g hwf.2]
  exact hwf.1

/-- **From a slot-wise statement about `rate` to the store.**  If `rate` relates every rating passed in
to the rating returned in its slot by `R`, and `R` keeps ids, then after a well-formed game the store
holds for every participant `p` the (mu, sigma) of a rating `R`-related to the one loaded for him.
`h` is the slot-wise theorem (`C06_rate`, `FL_C06_rate`) with its last hypothesis, one outcome entry per
team, left open: well-formedness supplies it. -/
theorem playGame_slot_of_rate (L : Leaves α) (P : Params α) (le : ρ → ρ → Bool) (neg : ρ → ρ)
    (s : Store α) (g : LeagueGame α ρ) (R : Rating α → Rating α → Prop)
    (hid : ∀ a b, R a b → b.id = a.id)
    (h : (∀ r, (g.outcome = .ranks r ∨ g.outcome = .scores r) → r.length = (loadTeams s g).length) →
      List.Forall₂ (List.Forall₂ R) (loadTeams s g)
        (rate g.kind L P le neg (loadTeams s g) g.outcome g.opts))
    (hwf : g.WF) (p : Nat) (hp : g.plays p) :
    ∃ r' : Rating α, R (s.load p) r'
      ∧ (playGame L P le neg s g).mu p = r'.mu ∧ (playGame L P le neg s g).sigma p = r'.sigma := by
  have hfl := List.rel_flatten <| h fun r hr => by
    have hf := hwf.2
    rw [lg_loadTeams_length]
    rcases hr with hr | hr <;> rw [hr] at hf <;> exact hf
  rw [lg_loadTeams_flatten] at hfl
  obtain ⟨r', hr', hslot⟩ := forall₂_mem_left hfl (List.mem_map.2 ⟨p, hp, rfl⟩)
  obtain ⟨hm, hs⟩ := playGame_stored L P le neg s g hwf r' hr'
  rw [show r'.id = p from hid _ _ hslot] at hm hs
  exact ⟨r', hslot, hm, hs⟩

/-! ### a history -/

theorem lg_playLeague_nil (L : Leaves α) (P : Params α) (le : ρ → ρ → Bool) (neg : ρ → ρ)
    (s : Store α) : playLeague L P le neg s ([] : List (LeagueGame α ρ)) = s := rfl

section
variable (L : Leaves α) (P : Params α) (le : ρ → ρ → Bool) (neg : ρ → ρ)

theorem lg_playLeague_cons (s : Store α) (g : LeagueGame α ρ) (gs : List (LeagueGame α ρ)) :
    playLeague L P le neg s (g :: gs) = playLeague L P le neg (playGame L P le neg s g) gs := rfl

theorem lg_playLeague_append (s : Store α) (gs hs : List (LeagueGame α ρ)) :
    playLeague L P le neg s (gs ++ hs) = playLeague L P le neg (playLeague L P le neg s gs) hs := by
  simp only [playLeague, List.foldl_append]

theorem playLeague_take_succ (s : Store α) (gs : List (LeagueGame α ρ)) (k : Nat) (hk : k < gs.length) :
    playLeague L P le neg s (gs.take (k + 1))
      = playGame L P le neg (playLeague L P le neg s (gs.take k)) gs[k] := by
  rw [List.take_succ_eq_append_getElem hk, lg_playLeague_append]
  rfl

/-- **Along a history, for one player.**  A reflexive and transitive relation `Q` on his sigma that
every game he takes part in respects, at the store it is played on, holds between his sigma after `k`
and after `l ≥ k` games: a game he does not take part in leaves his sigma alone, and past the end of
the history the store no longer changes. -/
theorem playLeague_sigma_rel (p : Nat) (Q : α → α → Prop) (hrefl : ∀ x, Q x x)
    (htrans : ∀ {x y z}, Q x y → Q y z → Q x z) (s : Store α) (gs : List (LeagueGame α ρ))
    (hfit : ∀ j (hj : j < gs.length), gs[j].outcome.fits gs[j].teams.length)
    (hstep : ∀ j (hj : j < gs.length), gs[j].plays p →
      Q ((playLeague L P le neg s (gs.take j)).sigma p)
        ((playGame L P le neg (playLeague L P le neg s (gs.take j)) gs[j]).sigma p))
    {k l : Nat} (hkl : k ≤ l) :
    Q ((playLeague L P le neg s (gs.take k)).sigma p) ((playLeague L P le neg s (gs.take l)).sigma p) := by
  induction l, hkl using Nat.le_induction with
  | base => exact hrefl _
  | succ l _ ih =>
    by_cases hl : l < gs.length
    · rw [playLeague_take_succ L P le neg s gs l hl]
      refine htrans ih ?_
      by_cases hp : gs[l].plays p
      · exact hstep l hl hp
      · rw [(playGame_untouched L P le neg _ gs[l] (hfit l hl) p hp).2]
        exact hrefl _
    · have hl' := Nat.le_of_not_lt hl
      rw [List.take_of_length_le hl'] at ih
      rw [List.take_of_length_le (Nat.le_succ_of_le hl')]
      exact ih

end

end OS
