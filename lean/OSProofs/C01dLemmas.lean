import OSProofs.RealInst
import OSProofs.C05Lemmas
import OSProofs.C06Lemmas
import OSProofs.Props.C17
import Mathlib.Tactic.Positivity
import Mathlib.Tactic.Linarith
import Mathlib.Tactic.Ring
import Mathlib.Tactic.FieldSimp
/-!
# What the C01d statements are written in, and the facts behind them

`LeafGap` (leaf record `L` is within `ε` of `L'`, for positive margins), the per-pair right-hand
sides `pairGapΩ`, `pairGapΔ`, the errors `codeGapV/W/Vt/Wt` of the code's leaves against the exact
ones; the Lipschitz facts about the per-player update and `compute` read at team `i`.
-/
noncomputable section
namespace OS
open Scalar Gauss

/-- leaf record `L` is, for every positive draw margin `t`, within `ε•` of leaf record `L'`.
(The margin the models feed to the leaves is `κ / c_iq`, positive when `κ > 0`; at `t = 0` the
exact tie functions are `0/0`.) -/
structure LeafGap (L L' : Leaves ℝ) (εv εw εvt εwt : ℝ → ℝ → ℝ) : Prop where
  v  : ∀ x t, 0 < t → |L.v x t - L'.v x t| ≤ εv x t
  w  : ∀ x t, 0 < t → |L.w x t - L'.w x t| ≤ εw x t
  vt : ∀ x t, 0 < t → |L.vt x t - L'.vt x t| ≤ εvt x t
  wt : ∀ x t, 0 < t → |L.wt x t - L'.wt x t| ≤ εwt x t

theorem LeafGap.refl (L : Leaves ℝ) : LeafGap L L (fun _ _ => 0) (fun _ _ => 0) (fun _ _ => 0)
    (fun _ _ => 0) :=
  ⟨fun _ _ _ => by simp, fun _ _ _ => by simp, fun _ _ _ => by simp, fun _ _ _ => by simp⟩

theorem LeafGap.symm {L L' : Leaves ℝ} {εv εw εvt εwt : ℝ → ℝ → ℝ}
    (h : LeafGap L L' εv εw εvt εwt) : LeafGap L' L εv εw εvt εwt :=
  ⟨fun x t ht => by rw [abs_sub_comm]; exact h.v x t ht,
   fun x t ht => by rw [abs_sub_comm]; exact h.w x t ht,
   fun x t ht => by rw [abs_sub_comm]; exact h.vt x t ht,
   fun x t ht => by rw [abs_sub_comm]; exact h.wt x t ht⟩

/-- `c_iq = cmul · √(σ_i² + σ_q² + 2β²)` as `tmPair` computes it -/
def lgp_tmC (cmul beta : ℝ) (ti tq : TeamAgg ℝ) : ℝ :=
  cmul * √(ti.sig2 + tq.sig2 + 2 * (beta * beta))

/-- which leaf error applies to the pair `(i, q)`: the win leaf at `x`, the win leaf at `−x`
(loss), or the tie leaf, evaluated at `x = (μ_i − μ_q)/c_iq`, `t = κ/c_iq` -/
def pairLeafErr (εwin εtie : ℝ → ℝ → ℝ) (cmul beta kappa : ℝ) (ti tq : TeamAgg ℝ) : ℝ :=
  let c := lgp_tmC cmul beta ti tq
  let x := (ti.mu - tq.mu) / c
  let t := kappa / c
  if ti.rank < tq.rank then εwin x t
  else if tq.rank < ti.rank then εwin (-x) t
  else εtie x t

/-- bound on the change of the pair's `Ω` term: `σ_i²/c_iq · e₁` -/
def pairGapΩ (εv εvt : ℝ → ℝ → ℝ) (cmul beta kappa : ℝ) (ti tq : TeamAgg ℝ) : ℝ :=
  ti.sig2 / lgp_tmC cmul beta ti tq * pairLeafErr εv εvt cmul beta kappa ti tq

/-- bound on the change of the pair's `Δ` term: `|γ| · σ_i²/c_iq / c_iq · e₂` -/
def pairGapΔ (εw εwt : ℝ → ℝ → ℝ) (cmul beta kappa : ℝ) (g : GammaFn ℝ) (n : Nat)
    (ti tq : TeamAgg ℝ) : ℝ :=
  |gammaVal g (lgp_tmC cmul beta ti tq) n ti.mu ti.sig2 ti.players ti.rank|
    * (ti.sig2 / lgp_tmC cmul beta ti tq) / lgp_tmC cmul beta ti tq
    * pairLeafErr εw εwt cmul beta kappa ti tq

theorem lgp_tmC_pos {cmul beta : ℝ} (hm : 0 < cmul) (hb : beta ≠ 0) {ti tq : TeamAgg ℝ}
    (hi : 0 ≤ ti.sig2) (hq : 0 ≤ tq.sig2) : 0 < lgp_tmC cmul beta ti tq :=
  mul_pos hm (Real.sqrt_pos.mpr (ciq_arg_pos hb hi hq))

theorem lgp_teamAggs_lt {teams : List (List (Rating ℝ))} {dense : List Nat} {i : Nat}
    (h1 : i < teams.length) (h2 : i < dense.length) : i < (teamAggs teams dense).length := by
  rw [teamAggs_length]; omega

theorem lgp_compute_team (K : Kind) (L : Leaves ℝ) (P : Params ℝ) (teams : List (List (Rating ℝ)))
    (dense : List Nat) (i : Nat) (h1 : i < teams.length) (h2 : i < dense.length) :
    (compute K L P teams dense)[i]'(compute_lt h1 h2) =
      teams[i].map (updPlayer P.kappa ((teamAggs teams dense)[i]'(lgp_teamAggs_lt h1 h2)).sig2
        ((omegaDelta K L P (teamAggs teams dense))[i]'(omegaDelta_lt L P _ (lgp_teamAggs_lt h1 h2))).1
        ((omegaDelta K L P (teamAggs teams dense))[i]'(omegaDelta_lt L P _ (lgp_teamAggs_lt h1 h2))).2)
      := by
  rw [compute_getElem K L P teams dense i h1 h2, applyTeam_eq_map,
    congrArg TeamAgg.players (teamAggs_getElem teams dense i h1 h2)]
  rfl

theorem lgp_compute_team_length (K : Kind) (L : Leaves ℝ) (P : Params ℝ)
    (teams : List (List (Rating ℝ))) (dense : List Nat) (i : Nat) (h1 : i < teams.length)
    (h2 : i < dense.length) :
    ((compute K L P teams dense)[i]'(compute_lt h1 h2)).length = teams[i].length := by
  rw [lgp_compute_team K L P teams dense i h1 h2, List.length_map]

/-- error of the code's `v`: 0 off the guard, at most `V/64` on the asymptotic branch -/
def codeGapV (x t : ℝ) : ℝ := if Gauss.Phi (x - t) < epsF then vExact x t / 64 else 0

/-- error of the code's `w`: 0 off the guard; on the asymptotic branch `1/50` when `x < 0`, and
(only possible for a margin `t > 8`) 1 when `x ≥ 0`, where the code returns 0 instead of ≈ 1 -/
def codeGapW (x t : ℝ) : ℝ :=
  if Gauss.Phi (x - t) < epsF then (if x < 0 then 1 / 50 else 1) else 0

/-- error of the code's `vt`: the width of the truncation interval -/
def codeGapVt (_x t : ℝ) : ℝ := 2 * t

/-- error of the code's `wt` (the bound itself is `C17_wt_code_error`) -/
def codeGapWt (_x t : ℝ) : ℝ := 4 * t ^ 2

theorem vCode_gap (x t : ℝ) : |vCode x t - vExact x t| ≤ codeGapV x t := by
  unfold codeGapV
  split_ifs with h
  · exact C17_v_asym_error h
  · rw [C17_v_exact_branch h, sub_self, abs_zero]

theorem wCode_gap (x t : ℝ) : |wCode x t - wExact x t| ≤ codeGapW x t := by
  unfold codeGapW
  split_ifs with h hx
  · exact C17_w_asym_error h hx
  · rw [wCode_asym_nonneg h hx, zero_sub, abs_neg, abs_of_pos (wExact_pos x t)]
    exact (wExact_lt_one x t).le
  · rw [C17_w_exact_branch h, sub_self, abs_zero]

theorem lgp_codeGapV_nonneg (x t : ℝ) : 0 ≤ codeGapV x t :=
  (abs_nonneg _).trans (vCode_gap x t)

theorem lgp_codeGapW_le_one (x t : ℝ) : codeGapW x t ≤ 1 := by
  unfold codeGapW; split_ifs <;> norm_num

end OS
end
