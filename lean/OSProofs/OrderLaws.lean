import OSModel
import OSProofs.MonoArith

/-!
# The order of a scalar type: a total preorder with `<` as its strict part

`OrderLaws α` is the first four fields of `MonoArith α`.  Here: how `<` and `≤` combine (`O.le_of_lt`,
`O.lt_of_lt_of_le`, …) and what `smax`, `sabs` satisfy by comparisons alone.  Competition ranking over
such an order is in `RankLemmas.lean`.  Mathlib-free.
-/

namespace OS
open Scalar
variable {α : Type} [Scalar α]

/-- the `0` and `1` of a scalar type, as the order laws and the statements about computed values write them -/
scoped notation "𝟘" => (Scalar.ofNat 0)
scoped notation "𝟙" => (Scalar.ofNat 1)

/-- **`≤` is a total preorder and `<` is its strict part** (no NaN): the four order laws of `MonoArith`.
Antisymmetry is NOT among them (`+0.0 ≤ -0.0 ≤ +0.0` in doubles). -/
structure OrderLaws (α : Type) [Scalar α] : Prop where
  le_refl' : ∀ a : α, a ≤ a
  le_trans' : ∀ {a b c : α}, a ≤ b → b ≤ c → a ≤ c
  le_total' : ∀ a b : α, a ≤ b ∨ b ≤ a
  lt_iff_not_le' : ∀ {a b : α}, a < b ↔ ¬ b ≤ a

theorem MonoArith.orderLaws (M : MonoArith α) : OrderLaws α :=
  ⟨M.le_refl', M.le_trans', M.le_total', M.lt_iff_not_le'⟩

/-! `smax` and `sabs` return one of their arguments: an upper bound of both needs no law -/

theorem smax_le {a k b : α} (ha : a ≤ b) (hk : k ≤ b) : smax a k ≤ b := by
  unfold smax; split <;> assumption

theorem sabs_le {a b : α} (h1 : a ≤ b) (h2 : -a ≤ b) : sabs a ≤ b := by
  unfold sabs; split
  · exact h2
  · exact h1

namespace OrderLaws
variable (O : OrderLaws α)
include O

theorem le_of_lt {a b : α} (h : a < b) : a ≤ b :=
  (O.le_total' a b).resolve_right (O.lt_iff_not_le'.1 h)

theorem le_of_not_lt {a b : α} (h : ¬ a < b) : b ≤ a :=
  Classical.byContradiction fun h' => h (O.lt_iff_not_le'.2 h')

theorem lt_of_not_le {a b : α} (h : ¬ a ≤ b) : b < a := O.lt_iff_not_le'.2 h

theorem not_lt_of_le {a b : α} (h : a ≤ b) : ¬ b < a := fun h' => O.lt_iff_not_le'.1 h' h

theorem lt_of_lt_of_le {a b c : α} (h1 : a < b) (h2 : b ≤ c) : a < c :=
  O.lt_iff_not_le'.2 fun h => O.lt_iff_not_le'.1 h1 (O.le_trans' h2 h)

theorem lt_of_le_of_lt {a b c : α} (h1 : a ≤ b) (h2 : b < c) : a < c :=
  O.lt_iff_not_le'.2 fun h => O.lt_iff_not_le'.1 h2 (O.le_trans' h h1)

theorem lt_trans {a b c : α} (h1 : a < b) (h2 : b < c) : a < c :=
  O.lt_of_lt_of_le h1 (O.le_of_lt h2)

theorem lt_irrefl (a : α) : ¬ a < a := fun h => O.lt_iff_not_le'.1 h (O.le_refl' a)

/-! ### `smax`, `sabs` (only comparisons) -/

theorem le_smax_left (a k : α) : a ≤ smax a k := by
  unfold smax; split
  · next h => exact O.le_of_lt h
  · exact O.le_refl' _

theorem le_smax_right (a k : α) : k ≤ smax a k := by
  unfold smax; split
  · exact O.le_refl' _
  · next h => exact O.le_of_not_lt h

theorem sabs_of_nonneg {a : α} (h : ofNat 0 ≤ a) : sabs a = a := by
  unfold sabs
  rw [if_neg (O.not_lt_of_le h)]

end OrderLaws

end OS
