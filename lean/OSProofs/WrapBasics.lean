import OSModel
import OSProofs.PredictLemmas
/-!
# The wrapper of `rate`: lengths, slots, members

`rate` = tau inflation, sort by rank (`unwind`), dense ranks, `compute`, sort back, clamp.
For each list function of the model, in that order: how long its result is (`@[simp]`), what stands
at a position, what its members are.  For every scalar type; no Mathlib.
-/
namespace OS
open Scalar
variable {κ β γ ρ : Type}

theorem zip_map_zip_map {δ : Type} (f : β → γ) (g : β → δ) (l : List β) :
    l.zip ((l.map f).zip (l.map g)) = l.map (fun t => (t, f t, g t)) := by
  induction l with
  | nil => rfl
  | cons x xs ih => simp only [List.map_cons, List.zip_cons_cons, ih]

/-- `enumerate(l)` as a function of the position -/
theorem zipIdx_eq_ofFn (l : List β) :
    l.zipIdx = List.ofFn (fun i : Fin l.length => (l[i]'i.2, i.1)) :=
  List.ext_getElem (by simp) (fun i h1 h2 => by simp)

/-- `zip(l, [f(x, k) for k, x in enumerate(l)])` -/
theorem zip_zipIdx_map {β γ : Type} (l : List β) (k : Nat) (f : β × Nat → γ) :
    l.zip ((l.zipIdx k).map f) = (l.zipIdx k).map (fun x => (x.1, f x)) := by
  induction l generalizing k with
  | nil => rfl
  | cons a as ih =>
    rw [List.zipIdx_cons, List.map_cons, List.zip_cons_cons, List.map_cons, ih]

/-! ### `sortByKey`, `unwind`, `sortedKeys`: the (key, object, index) triples that `_unwind` sorts -/

@[simp] theorem sortByKey_length (le : κ → κ → Bool) (l : List (κ × β)) :
    (sortByKey le l).length = l.length := by
  simp [sortByKey]

@[simp] theorem unwind_fst_length (le : κ → κ → Bool) (tenet : List κ) (xs : List β) :
    ((unwind le tenet xs).1).length = min tenet.length xs.length := by
  simp [unwind]

@[simp] theorem unwind_snd_length (le : κ → κ → Bool) (tenet : List κ) (xs : List β) :
    ((unwind le tenet xs).2).length = min tenet.length xs.length := by
  simp [unwind]

@[simp] theorem sortedKeys_length (le : κ → κ → Bool) (tenet : List κ) :
    (sortedKeys le tenet).length = tenet.length := by
  simp [sortedKeys]

theorem mem_zip_zipIdx {r : List κ} {xs : List β} {e : κ × β × Nat} (h : e ∈ r.zip xs.zipIdx) :
    r[e.2.2]? = some e.1 ∧ xs[e.2.2]? = some e.2.1 := by
  obtain ⟨j, hj⟩ := List.mem_iff_getElem?.1 h
  obtain ⟨h1, h2⟩ := List.getElem?_zip_eq_some.1 hj
  rw [List.getElem?_zipIdx, Option.map_eq_some_iff] at h2
  obtain ⟨x, hx, he⟩ := h2
  rw [← he, Nat.zero_add]
  exact ⟨h1, hx⟩

theorem map_obj_zip_zipIdx (r : List κ) (xs : List β) (h : xs.length ≤ r.length) :
    (r.zip xs.zipIdx).map (·.2.1) = xs := by
  refine (List.map_map (f := Prod.snd) (g := Prod.fst) (l := r.zip xs.zipIdx)).symm.trans ?_
  rw [List.map_snd_zip (by rw [List.length_zipIdx]; exact h), List.zipIdx_map_fst]

theorem map_idx_zip_zipIdx (r : List κ) (xs : List β) (h : xs.length ≤ r.length) :
    (r.zip xs.zipIdx).map (·.2.2) = List.range xs.length := by
  refine (List.map_map (f := Prod.snd) (g := Prod.snd) (l := r.zip xs.zipIdx)).symm.trans ?_
  rw [List.map_snd_zip (by rw [List.length_zipIdx]; exact h), List.zipIdx_map_snd,
    List.range_eq_range']

theorem sortByKey_map {κ' β' : Type} (le : κ → κ → Bool) (le' : κ' → κ' → Bool)
    (f : κ → κ') (g : β → β') (l : List (κ × β))
    (h : ∀ a ∈ l, ∀ b ∈ l, le' (f a.1) (f b.1) = le a.1 b.1) :
    sortByKey le' (l.map (Prod.map f g)) = (sortByKey le l).map (Prod.map f g) := by
  unfold sortByKey
  rw [List.map_mergeSort (s := fun a b => le' a.1 b.1)]
  intro a ha b hb
  simp [h a ha b hb]

theorem unwind_map (le : κ → κ → Bool) (tenet : List κ) (xs : List β) (f : β → γ) :
    unwind le tenet (xs.map f) = (((unwind le tenet xs).1).map f, (unwind le tenet xs).2) := by
  have h : tenet.zip (xs.map f).zipIdx = (tenet.zip xs.zipIdx).map (Prod.map id (Prod.map f id)) := by
    rw [List.zipIdx_map, List.zip_map_right]
  simp only [unwind, h, sortByKey_map le le id _ _ (fun _ _ _ _ => rfl), List.map_map]
  rfl

theorem mem_unwind_fst (le : κ → κ → Bool) (tenet : List κ) (objs : List β)
    {x : β} (h : x ∈ (unwind le tenet objs).1) : x ∈ objs := by
  obtain ⟨e, he, rfl⟩ := List.mem_map.1 h
  exact List.mem_of_getElem? (mem_zip_zipIdx (List.mem_mergeSort.1 he)).2

/-- the keys of a key sort are the merge sort of the keys, whatever rides along -/
theorem map_fst_sortByKey_zip (le : κ → κ → Bool) (r : List κ) (ys : List β)
    (h : r.length ≤ ys.length) : (sortByKey le (r.zip ys)).map (·.1) = r.mergeSort le := by
  unfold sortByKey
  rw [List.map_mergeSort (s := le) (fun _ _ _ _ => rfl), List.map_fst_zip h]

/-- `sortedKeys` really is `sorted(ranks)` -/
theorem sortedKeys_eq_mergeSort (le : κ → κ → Bool) (r : List κ) :
    sortedKeys le r = r.mergeSort le :=
  map_fst_sortByKey_zip le r _ (by simp)

theorem sortedKeys_slot (le : κ → κ → Bool) (r : List κ) (xs : List β) (hlen : r.length ≤ xs.length)
    {k t : Nat} (hk : ((unwind le r xs).2)[k]? = some t) : (sortedKeys le r)[k]? = r[t]? := by
  simp only [unwind, List.getElem?_map, Option.map_eq_some_iff] at hk
  obtain ⟨e, he, rfl⟩ := hk
  rw [sortedKeys_eq_mergeSort,
    ← map_fst_sortByKey_zip le r xs.zipIdx (by rw [List.length_zipIdx]; exact hlen),
    List.getElem?_map, he]
  exact (mem_zip_zipIdx (List.mem_mergeSort.1 (List.mem_of_getElem? he))).1.symm

/-! ### `denseRanks` -/

@[simp] theorem denseRanksAux_length (lt : ρ → ρ → Bool) (prev : ρ) (idx s : Nat) (l : List ρ) :
    (denseRanksAux lt prev idx s l).length = l.length := by
  induction l generalizing prev idx s with
  | nil => rfl
  | cons x xs ih => simp [denseRanksAux, ih]

@[simp] theorem length_denseRanks (lt : ρ → ρ → Bool) (l : List ρ) :
    (denseRanks lt l).length = l.length := by
  cases l with
  | nil => rfl
  | cons x xs => simp [denseRanks]

theorem denseRanksAux_range' (lt : Nat → Nat → Bool) (hlt : ∀ p, lt p (p + 1) = true) (p s k : Nat) :
    denseRanksAux lt p (p + 1) s (List.range' (p + 1) k) = List.range' (p + 1) k := by
  induction k generalizing p s with
  | zero => rfl
  | succ k ih => rw [List.range'_succ, denseRanksAux, if_pos (hlt p), ih]

theorem denseRanks_range (lt : Nat → Nat → Bool) (hlt : ∀ p, lt p (p + 1) = true) (n : Nat) :
    denseRanks lt (List.range n) = List.range n := by
  cases n with
  | zero => rfl
  | succ n =>
    rw [List.range_eq_range', List.range'_succ, denseRanks]
    exact congrArg (0 :: ·) (denseRanksAux_range' lt hlt 0 0 n)

theorem unwind_lengths (le : ρ → ρ → Bool) {r : List ρ} {teams : List γ}
    (hr : r.length = teams.length) :
    (unwind le r teams).1.length = teams.length
    ∧ (denseRanks (fun a b => !le b a) (sortedKeys le r)).length = (unwind le r teams).1.length := by
  rw [length_denseRanks, sortedKeys_length, unwind_fst_length, hr, Nat.min_self]
  exact ⟨rfl, rfl⟩

/-! ### the opponents of team `i`: `othersOf`, `neighboursOf` -/

theorem mem_othersOf {ts : List β} {i : Nat} {x : β} :
    x ∈ othersOf ts i ↔ ∃ j, j ≠ i ∧ ts[j]? = some x := by
  rw [othersOf_eq_eraseIdx]; exact List.mem_eraseIdx_iff_getElem?

theorem mem_of_mem_othersOf {ts : List β} {i : Nat} {x : β} (h : x ∈ othersOf ts i) : x ∈ ts :=
  List.mem_of_mem_eraseIdx (othersOf_eq_eraseIdx ts i ▸ h)

theorem mem_neighboursOf {ts : List β} {i : Nat} {x : β} (h : x ∈ neighboursOf ts i) :
    ∃ j, (j + 1 = i ∨ j = i + 1) ∧ ts[j]? = some x := by
  rcases List.mem_append.1 h with h | h
  · by_cases hi : i = 0
    · rw [if_pos hi] at h; cases h
    · rw [if_neg hi] at h
      exact ⟨i - 1, Or.inl (Nat.sub_add_cancel (Nat.pos_of_ne_zero hi)), Option.mem_toList.1 h⟩
  · exact ⟨i + 1, Or.inr rfl, Option.mem_toList.1 h⟩

theorem exists_ne_of_mem_neighboursOf {ts : List β} {i : Nat} {x : β} (h : x ∈ neighboursOf ts i) :
    ∃ j, j ≠ i ∧ ts[j]? = some x := by
  obtain ⟨j, hj, hx⟩ := mem_neighboursOf h
  exact ⟨j, by omega, hx⟩

theorem mem_of_mem_neighboursOf {ts : List β} {i : Nat} {x : β} (h : x ∈ neighboursOf ts i) :
    x ∈ ts := by
  obtain ⟨j, _, hx⟩ := mem_neighboursOf h
  exact List.mem_of_getElem? hx

theorem neighboursOf_length_le (ts : List β) (i : Nat) : (neighboursOf ts i).length ≤ 2 := by
  unfold neighboursOf
  rw [List.length_append]
  refine Nat.add_le_add ?_ Option.length_toList_le
  split
  · exact Nat.zero_le 1
  · exact Option.length_toList_le

section model
variable {α : Type} [Scalar α]

/-! ### `inflate` -/

@[simp] theorem inflate_length (tau : α) (teams : List (List (Rating α))) :
    (inflate tau teams).length = teams.length := by
  simp [inflate]

/-- the tau inflation of one player -/
def inflPlayer (tau : α) (p : Rating α) : Rating α :=
  { p with sigma := sqrt (p.sigma * p.sigma + tau * tau) }

theorem inflate_eq_map_inflPlayer (tau : α) (teams : List (List (Rating α))) :
    inflate tau teams = teams.map (·.map (inflPlayer tau)) := rfl

theorem mem_inflate {tau : α} {teams : List (List (Rating α))} {t : List (Rating α)}
    (h : t ∈ inflate tau teams) : ∃ t0 ∈ teams, t = t0.map (inflPlayer tau) :=
  let ⟨t0, h0, e⟩ := List.mem_map.1 h
  ⟨t0, h0, e.symm⟩

theorem inflate_forall_length {tau : α} {teams : List (List (Rating α))} {Q : Nat → Prop}
    (h : ∀ t ∈ teams, Q t.length) : ∀ t ∈ inflate tau teams, Q t.length := fun t ht => by
  obtain ⟨t0, h0, rfl⟩ := mem_inflate ht
  rw [List.length_map]; exact h t0 h0

theorem inflate_forall_players {tau : α} {teams : List (List (Rating α))} {Q : Rating α → Prop}
    (h : ∀ t ∈ teams, ∀ p ∈ t, Q (inflPlayer tau p)) :
    ∀ t ∈ inflate tau teams, ∀ p ∈ t, Q p := fun t ht p hp => by
  obtain ⟨t0, h0, rfl⟩ := mem_inflate ht
  obtain ⟨p0, hp0, rfl⟩ := List.mem_map.1 hp
  exact h t0 h0 p0 hp0

/-! ### `teamAggs` -/

@[simp] theorem teamAggs_length (teams : List (List (Rating α))) (ds : List Nat) :
    (teamAggs teams ds).length = min teams.length ds.length := by
  simp [teamAggs]

theorem teamAggs_length_of_eq {teams : List (List (Rating α))} {dense : List Nat}
    (hd : dense.length = teams.length) : (teamAggs teams dense).length = teams.length := by
  rw [teamAggs_length, hd, Nat.min_self]

theorem teamAggs_getElem? (teams : List (List (Rating α))) (ranks : List Nat) (i : Nat)
    {T : List (Rating α)} {d : Nat} (hT : teams[i]? = some T) (hd : ranks[i]? = some d) :
    (teamAggs teams ranks)[i]? = some (teamAgg T d) := by
  have hz : (teams.zip ranks)[i]? = some (T, d) := List.getElem?_zip_eq_some.2 ⟨hT, hd⟩
  simp only [teamAggs, List.getElem?_map, hz, Option.map_some]

theorem teamAggs_getElem?_inv (teams : List (List (Rating α))) (ranks : List Nat) (i : Nat)
    {t : TeamAgg α} (h : (teamAggs teams ranks)[i]? = some t) :
    ∃ T d, teams[i]? = some T ∧ ranks[i]? = some d ∧ t = teamAgg T d := by
  simp only [teamAggs, List.getElem?_map, Option.map_eq_some_iff] at h
  obtain ⟨⟨T, d⟩, hz, rfl⟩ := h
  obtain ⟨h1, h2⟩ := List.getElem?_zip_eq_some.1 hz
  exact ⟨T, d, h1, h2, rfl⟩

theorem teamAggs_getElem (teams : List (List (Rating α))) (dense : List Nat) (i : Nat)
    (h1 : i < teams.length) (h2 : i < dense.length) :
    (teamAggs teams dense)[i]'(by rw [teamAggs_length]; omega) = teamAgg teams[i] dense[i] := by
  simp only [teamAggs, List.getElem_map, List.getElem_zip]

theorem mem_teamAggs {teams : List (List (Rating α))} {ranks : List Nat} {t : TeamAgg α}
    (h : t ∈ teamAggs teams ranks) : ∃ S ∈ teams, ∃ r, t = teamAgg S r := by
  obtain ⟨⟨S, r⟩, hx, rfl⟩ := List.mem_map.1 h
  exact ⟨S, (List.of_mem_zip hx).1, r, rfl⟩

/-! ### `omegaDelta`: entry `i` is `fl1_od … (t_i, i)` -/

@[simp] theorem omegaDelta_length (K : Kind) (L : Leaves α) (P : Params α) (ts : List (TeamAgg α)) :
    (omegaDelta K L P ts).length = ts.length := by
  cases K <;> simp [omegaDelta]

theorem sumPairs_fst (prs : List (α × α)) : (sumPairs prs).1 = sumL (prs.map (·.1)) := rfl
theorem sumPairs_snd (prs : List (α × α)) : (sumPairs prs).2 = sumL (prs.map (·.2)) := rfl

/-- the `(ω, δ)` of one team as a function of the team and its index -/
def fl1_od (K : Kind) (L : Leaves α) (P : Params α) (ts : List (TeamAgg α))
    (x : TeamAgg α × Nat) : α × α :=
  match K with
  | .PL => plOmegaDelta P.gamma ts (plC P.beta ts) (plSumQ ts (plC P.beta ts)) (plA ts) x.2 x.1
  | .BTF => sumPairs ((othersOf ts x.2).map (btPair P.beta P.gamma ts.length x.1))
  | .BTP => sumPairs ((neighboursOf ts x.2).map (btPair P.beta P.gamma ts.length x.1))
  | .TMF => sumPairs ((othersOf ts x.2).map
      (tmPair L (ofNat 1) P.beta P.kappa P.gamma ts.length x.1))
  | .TMP => sumPairs ((neighboursOf ts x.2).map
      (tmPair L (ofNat 2) P.beta P.kappa P.gamma ts.length x.1))

theorem omegaDelta_eq (K : Kind) (L : Leaves α) (P : Params α) (ts : List (TeamAgg α)) :
    omegaDelta K L P ts = ts.zipIdx.map (fl1_od K L P ts) := by
  cases K <;> rfl

theorem omegaDelta_getElem? (K : Kind) (L : Leaves α) (P : Params α) (ts : List (TeamAgg α))
    (i : Nat) :
    (omegaDelta K L P ts)[i]? = (ts[i]?).map (fun t => fl1_od K L P ts (t, i)) := by
  rw [omegaDelta_eq, List.getElem?_map, List.getElem?_zipIdx]
  cases ts[i]? <;> simp

theorem omegaDelta_getElem?_some {K : Kind} {L : Leaves α} {P : Params α} {ts : List (TeamAgg α)}
    {i : Nat} {ti : TeamAgg α} (hi : ts[i]? = some ti) :
    (omegaDelta K L P ts)[i]? = some (fl1_od K L P ts (ti, i)) := by
  rw [omegaDelta_getElem?, hi]
  rfl

theorem omegaDelta_getElem?_inv {K : Kind} {L : Leaves α} {P : Params α}
    {ts : List (TeamAgg α)} {i : Nat} {od : α × α} (h : (omegaDelta K L P ts)[i]? = some od) :
    ∃ ti, ts[i]? = some ti ∧ od = fl1_od K L P ts (ti, i) := by
  rw [omegaDelta_getElem?, Option.map_eq_some_iff] at h
  obtain ⟨ti, h1, h2⟩ := h
  exact ⟨ti, h1, h2.symm⟩

/-! ### the rows of the Plackett–Luce loop -/

/-- `sum_q[q]` for the team `tq` -/
def fl1_plSum (ts : List (TeamAgg α)) (c : α) (tq : TeamAgg α) : α :=
  sumL ((ts.filter (fun ti => decide (tq.rank ≤ ti.rank))).map (fun ti => exp (ti.mu / c)))

/-- `A_q` for the team `tq` -/
def fl1_plCnt (ts : List (TeamAgg α)) (tq : TeamAgg α) : Nat :=
  (ts.filter (fun q => decide (tq.rank = q.rank))).length

omit [Scalar α] in
/-- a team is tied with itself -/
theorem fl1_plCnt_pos {ts : List (TeamAgg α)} {ti : TeamAgg α} (hti : ti ∈ ts) :
    0 < fl1_plCnt ts ti :=
  List.length_pos_of_mem (List.mem_filter.2 ⟨hti, decide_eq_true rfl⟩)

theorem fl1_pl_zip (ts : List (TeamAgg α)) (c : α) :
    ts.zip ((plSumQ ts c).zip (plA ts))
      = ts.map (fun t => (t, fl1_plSum ts c t, fl1_plCnt ts t)) :=
  zip_map_zip_map _ _ ts

/-- the summands of the two Plackett–Luce sums of team `ti`: one for every team `tq` at a position `j` with
`rank_q ≤ rank_i`, carrying its `sum_q[q]` and `A_q` -/
theorem fl1_pl_mem_qs {ts : List (TeamAgg α)} {c : α} {ti : TeamAgg α}
    {x : (TeamAgg α × α × Nat) × Nat}
    (h : x ∈ (ts.zip ((plSumQ ts c).zip (plA ts))).zipIdx.filter
      (fun x => decide (x.1.1.rank ≤ ti.rank))) :
    ∃ tq, ts[x.2]? = some tq ∧ tq.rank ≤ ti.rank
      ∧ x.1 = (tq, fl1_plSum ts c tq, fl1_plCnt ts tq) := by
  obtain ⟨h1, h2⟩ := List.mem_filter.1 h
  rw [fl1_pl_zip, List.mem_zipIdx_iff_getElem?, List.getElem?_map, Option.map_eq_some_iff] at h1
  obtain ⟨tq, h3, h4⟩ := h1
  rw [← h4] at h2
  exact ⟨tq, h3, of_decide_eq_true h2, h4.symm⟩

/-! ### `compute` -/

@[simp] theorem compute_length (K : Kind) (L : Leaves α) (P : Params α)
    (teams : List (List (Rating α))) (dense : List Nat) :
    (compute K L P teams dense).length = min teams.length dense.length := by
  simp [compute]

theorem compute_getElem? (K : Kind) (L : Leaves α) (P : Params α)
    (teams : List (List (Rating α))) (dense : List Nat) (i : Nat) {T : List (Rating α)} {d : Nat}
    (hT : teams[i]? = some T) (hd : dense[i]? = some d) :
    (compute K L P teams dense)[i]? = some (applyTeam P.kappa (teamAgg T d)
      (fl1_od K L P (teamAggs teams dense) (teamAgg T d, i)).1
      (fl1_od K L P (teamAggs teams dense) (teamAgg T d, i)).2) := by
  have h1 := teamAggs_getElem? teams dense i hT hd
  have h3 : ((teamAggs teams dense).zip (omegaDelta K L P (teamAggs teams dense)))[i]?
      = some (teamAgg T d, fl1_od K L P (teamAggs teams dense) (teamAgg T d, i)) :=
    List.getElem?_zip_eq_some.2 ⟨h1, omegaDelta_getElem?_some h1⟩
  simp only [compute, List.getElem?_map, h3, Option.map_some]

theorem mem_compute {K : Kind} {L : Leaves α} {P : Params α} {teams : List (List (Rating α))}
    {dense : List Nat} {T : List (Rating α)} (hT : T ∈ compute K L P teams dense) :
    ∃ t ∈ teamAggs teams dense, ∃ od ∈ omegaDelta K L P (teamAggs teams dense),
      T = applyTeam P.kappa t od.1 od.2 := by
  obtain ⟨⟨t, od⟩, hx, rfl⟩ := List.mem_map.1 hT
  exact ⟨t, (List.of_mem_zip hx).1, od, (List.of_mem_zip hx).2, rfl⟩

/-- the update of one team from its own rank, omega and delta -/
def updTeam (kappa : α) (t : List (Rating α)) (w : Nat × α × α) : List (Rating α) :=
  applyTeam kappa (teamAgg t w.1) w.2.1 w.2.2

theorem applyAll_eq_zipWith (kappa : α) (teams : List (List (Rating α))) (ds : List Nat)
    (od : List (α × α)) :
    ((teamAggs teams ds).zip od).map (fun x => applyTeam kappa x.1 x.2.1 x.2.2)
      = List.zipWith (updTeam kappa) teams (ds.zip od) := by
  induction teams generalizing ds od with
  | nil => simp [teamAggs]
  | cons t ts ih =>
    cases ds with
    | nil => simp [teamAggs]
    | cons d ds =>
      cases od with
      | nil => simp [teamAggs]
      | cons x od =>
        have := ih ds od
        simp only [teamAggs] at this
        simp only [teamAggs, List.zip_cons_cons, List.map_cons, List.zipWith_cons_cons, this]
        rfl

/-- `compute` is slot-wise in the teams: team `i` is updated from its own rank, omega, delta -/
theorem compute_eq_zipWith (K : Kind) (L : Leaves α) (P : Params α)
    (teams : List (List (Rating α))) (ds : List Nat) :
    compute K L P teams ds
      = List.zipWith (updTeam P.kappa) teams (ds.zip (omegaDelta K L P (teamAggs teams ds))) :=
  applyAll_eq_zipWith _ _ _ _

theorem compute_eq_map_zipIdx (K : Kind) (L : Leaves α) (P : Params α) (teams : List (List (Rating α)))
    (dense : List Nat) :
    compute K L P teams dense = (teamAggs teams dense).zipIdx.map (fun x =>
      applyTeam P.kappa x.1 (fl1_od K L P (teamAggs teams dense) x).1
        (fl1_od K L P (teamAggs teams dense) x).2) := by
  unfold compute
  simp only [omegaDelta_eq]
  rw [zip_zipIdx_map, List.map_map]
  rfl

/-! ### the `limit_sigma` clamp -/

@[simp] theorem clampTeams_length (orig res : List (List (Rating α))) :
    (clampTeams orig res).length = min res.length orig.length := by
  simp [clampTeams]

/-- the `limit_sigma` clamp of one slot: `q` the new rating, `p` the deep-copied original -/
def clampPlayer (q p : Rating α) : Rating α :=
  if q.sigma ≤ p.sigma then q else { q with sigma := p.sigma }

theorem clampTeams_eq_zipWith_clampPlayer (orig res : List (List (Rating α))) :
    clampTeams orig res = List.zipWith (List.zipWith clampPlayer) res orig := by
  simp only [clampTeams, List.zip_eq_zipWith, List.map_zipWith]
  rfl

@[simp] theorem clampPlayer_id (q p : Rating α) : (clampPlayer q p).id = q.id := by
  unfold clampPlayer; split <;> rfl

@[simp] theorem clampPlayer_mu (q p : Rating α) : (clampPlayer q p).mu = q.mu := by
  unfold clampPlayer; split <;> rfl

theorem mem_clampTeams {orig res : List (List (Rating α))} {T : List (Rating α)}
    (hT : T ∈ clampTeams orig res) {p' : Rating α} (hp' : p' ∈ T) :
    ∃ R ∈ res, ∃ q ∈ R, ∃ S ∈ orig, ∃ p ∈ S, p' = clampPlayer q p := by
  simp only [clampTeams] at hT
  obtain ⟨⟨R, S⟩, hRS, rfl⟩ := List.mem_map.mp hT
  obtain ⟨⟨q, p⟩, hqp, rfl⟩ := List.mem_map.mp hp'
  exact ⟨R, (List.of_mem_zip hRS).1, q, (List.of_mem_zip hqp).1, S, (List.of_mem_zip hRS).2, p,
    (List.of_mem_zip hqp).2, rfl⟩

/-! ### `rate`, `rateCore` and `rateRaw`, the result before the clamp -/

/-- the optional rank list that `rate` hands to `rateCore`: nothing, the ranks, or the negated
scores -/
def lft_ranksOf {ρ : Type} (neg : ρ → ρ) : Outcome ρ → Option (List ρ)
  | .omitted => none
  | .ranks r => some r
  | .scores s => some (s.map neg)

theorem lft_ranksOf_length {ρ : Type} (neg : ρ → ρ) {oc : Outcome ρ} {n : Nat}
    (hr : ∀ r, (oc = .ranks r ∨ oc = .scores r) → r.length = n) :
    ∀ r, lft_ranksOf neg oc = some r → r.length = n := by
  intro r' h
  cases oc with
  | omitted => cases h
  | ranks r => cases h; exact hr _ (Or.inl rfl)
  | scores s => cases h; rw [List.length_map]; exact hr _ (Or.inr rfl)

theorem rate_eq_rateCore (K : Kind) (L : Leaves α) (P : Params α) (le : ρ → ρ → Bool)
    (neg : ρ → ρ) (teams : List (List (Rating α))) (oc : Outcome ρ) (o : CallOpts α) :
    rate K L P le neg teams oc o = rateCore K L P le teams (lft_ranksOf neg oc) o := by
  cases oc <;> rfl

/-- the result of `rateCore` before the `limit_sigma` clamp -/
def rateRaw (K : Kind) (L : Leaves α) (P : Params α) (le : ρ → ρ → Bool) (tau : α)
    (teams : List (List (Rating α))) : Option (List ρ) → List (List (Rating α))
  | none => compute K L P (inflate tau teams) (List.range (inflate tau teams).length)
  | some r =>
    (unwind leNat (unwind le r (inflate tau teams)).2
      (compute K L P (unwind le r (inflate tau teams)).1
        (denseRanks (fun a b => !le b a) (sortedKeys le r)))).1

theorem rateCore_eq_clamp_rateRaw (K : Kind) (L : Leaves α) (P : Params α) (le : ρ → ρ → Bool)
    (teams : List (List (Rating α))) (ranks : Option (List ρ)) (o : CallOpts α) :
    rateCore K L P le teams ranks o
      = if resolveLimit P o then clampTeams teams (rateRaw K L P le (resolveTau P o) teams ranks)
        else rateRaw K L P le (resolveTau P o) teams ranks := by
  cases ranks <;> rfl

theorem rateRaw_length (K : Kind) (L : Leaves α) (P : Params α) (le : ρ → ρ → Bool) (tau : α)
    (teams : List (List (Rating α))) (ranks : Option (List ρ))
    (hr : ∀ r, ranks = some r → r.length = teams.length) :
    (rateRaw K L P le tau teams ranks).length = teams.length := by
  cases ranks with
  | none => simp [rateRaw]
  | some r => simp [rateRaw, hr r rfl]

theorem rateCore_length (K : Kind) (L : Leaves α) (P : Params α) (le : ρ → ρ → Bool)
    (teams : List (List (Rating α))) (ranks : Option (List ρ)) (o : CallOpts α)
    (hr : ∀ r, ranks = some r → r.length = teams.length) :
    (rateCore K L P le teams ranks o).length = teams.length := by
  rw [rateCore_eq_clamp_rateRaw]
  split
  · rw [clampTeams_length, rateRaw_length _ _ _ _ _ _ _ hr, Nat.min_self]
  · exact rateRaw_length _ _ _ _ _ _ _ hr

/-! ### `prepared`: the aggregates of a rearrangement of the inflated teams -/

theorem prepared_eq_teamAggs (P : Params α) (le : ρ → ρ → Bool)
    (teams : List (List (Rating α))) (ranks : Option (List ρ)) (o : CallOpts α) :
    ∃ X d, prepared P le teams ranks o = teamAggs X d ∧
      ∀ S ∈ X, S ∈ inflate (resolveTau P o) teams := by
  cases ranks with
  | none => exact ⟨_, _, rfl, fun _ hS => hS⟩
  | some r => exact ⟨_, _, rfl, fun _ hS => mem_unwind_fst _ _ _ hS⟩

theorem mem_prepared {P : Params α} {le : ρ → ρ → Bool} {teams : List (List (Rating α))}
    {ranks : Option (List ρ)} {o : CallOpts α} {t : TeamAgg α}
    (ht : t ∈ prepared P le teams ranks o) :
    ∃ S ∈ inflate (resolveTau P o) teams, ∃ r, t = teamAgg S r := by
  obtain ⟨X, d, e, hX⟩ := prepared_eq_teamAggs P le teams ranks o
  obtain ⟨S, hS, r, rfl⟩ := mem_teamAggs (e ▸ ht)
  exact ⟨S, hX S hS, r, rfl⟩

theorem prepared_length (P : Params α) (le : ρ → ρ → Bool)
    (teams : List (List (Rating α))) (ranks : Option (List ρ)) (o : CallOpts α)
    (hr : ∀ r, ranks = some r → r.length = teams.length) :
    (prepared P le teams ranks o).length = teams.length := by
  cases ranks with
  | none => simp [prepared]
  | some r => simp [prepared, hr r rfl]

theorem prepared_ne_nil (P : Params α) (le : ρ → ρ → Bool)
    {teams : List (List (Rating α))} (ranks : Option (List ρ)) (o : CallOpts α) (hne : teams ≠ [])
    (hr : ∀ r, ranks = some r → r.length = teams.length) : prepared P le teams ranks o ≠ [] := by
  apply List.ne_nil_of_length_pos
  rw [prepared_length P le teams ranks o hr]
  exact List.length_pos_iff.2 hne

end model
end OS
