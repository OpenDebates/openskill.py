import OSModel.PredictLoops
import OSProofs.Loops
import OSProofs.PredictLemmas
import OSProofs.RankLemmas
/-!
# The pieces of the statement-by-statement predictions and of `_unwind`

The two itertools idioms (`permutations2_eq_orderedPairs`, `zipLongestIter_eq_chunk`), the pair loop
and the regrouping the three predictions share, `max`, `abs` on Python ints, the `matrix` of `_unwind`.
Generic over `[Scalar α]` and without Mathlib: no law of arithmetic is used except where a hypothesis
says so.  The theorems about the predictions as a whole are in `OSProofs/Props/PredictLoops.lean`.
-/
namespace OS
open Scalar

/-! ## `itertools.permutations(xs, 2)` is `orderedPairs xs` -/

/-- **`itertools.permutations(xs, 2)`** (all index pairs `(i, j)` with `i ≠ j`, `i` in the outer loop,
`j` in the inner loop, both ascending) **yields exactly the list `orderedPairs xs`, in the same order.** -/
theorem permutations2_eq_orderedPairs {β : Type} (xs : List β) :
    permutations2 xs = orderedPairs xs := by
  unfold permutations2 orderedPairs
  -- `for i in range(n): … pool[i] …` is `for i, x in enumerate(pool): … x …`, for both loops
  simp only [range_eq_zipIdx_snd, List.foldl_map]
  rw [List.flatMap_eq_foldl]
  refine foldl_ext _ _ _ _ fun out a ha => ?_
  rw [← foldl_append_singleton, List.foldl_filter]
  refine foldl_ext _ _ _ _ fun acc b hb => ?_
  simp only [List.mem_zipIdx_iff_getElem?.mp ha, List.mem_zipIdx_iff_getElem?.mp hb]
  by_cases h : a.2 = b.2
  · simp only [h, bne_self_eq_false, Bool.false_eq_true, if_false]
  · simp only [bne_iff_ne, ne_eq, h, Ne.symm h, not_false_eq_true, if_true]

/-! ## `zip_longest(*[iter(xs)] * k)` is `chunk k xs` (padded) -/

/-- one round: the next `k` items, then `None`s -/
theorem zlRound_fst {β : Type} (k : Nat) (it : List β) :
    (zlRound k it).1 = (it.take k).map some ++ List.replicate (k - it.length) none := by
  induction k generalizing it with
  | zero => simp [zlRound]
  | succ k ih =>
    cases it with
    | nil =>
      have h := ih ([] : List β)
      simp only [List.take_nil, List.map_nil, List.nil_append, List.length_nil, Nat.sub_zero] at h
      simp only [zlRound, h, List.take_nil, List.map_nil, List.nil_append, List.length_nil,
        Nat.sub_zero, List.replicate_succ]
    | cons x xs =>
      simp only [zlRound, ih xs, List.take_succ_cons, List.map_cons, List.cons_append,
        List.length_cons, Nat.add_sub_add_right]

/-- the padding of a group that is shorter than `k` -/
def pl2_pad {β : Type} (k : Nat) (c : List β) : List (Option β) :=
  c.map some ++ List.replicate (k - c.length) none

/-- **the shared-iterator idiom groups consecutive items by `k`, padding the last group with `None`** -/
theorem pl2_zipLongestIter_eq_pad {β : Type} (k : Nat) (l : List β) :
    zipLongestIter k l = (chunk k l).map (pl2_pad k) := by
  fun_induction chunk k l with
  | case1 => rw [zipLongestIter]; rfl
  | case2 x xs hk => rw [zipLongestIter, if_pos hk]; rfl
  | case3 x xs hk ih =>
    rw [zipLongestIter, if_neg hk, zlRound_snd, zlRound_fst, ih, List.map_cons, pl2_pad,
      List.length_take]
    congr 3
    omega

/-- **`zip_longest(*[iter(xs)] * k)`** (`k` references to ONE iterator; every output tuple takes the next
`k` items; `None` pads the last tuple) **is `chunk k xs`, with no `None` anywhere, whenever `len(xs)` is a
multiple of `k`.**  (In general it is `chunk k xs` with the last group padded: `pl2_zipLongestIter_eq_pad`.) -/
theorem zipLongestIter_eq_chunk {β : Type} (k : Nat) (xs : List β) (h : xs.length % k = 0) :
    zipLongestIter k xs = (chunk k xs).map (fun c => c.map some) := by
  rw [pl2_zipLongestIter_eq_pad]
  apply List.map_congr_left
  intro c hc
  unfold pl2_pad
  rw [length_of_mem_chunk (Nat.dvd_of_mod_eq_zero h) c hc, Nat.sub_self, List.replicate_zero, List.append_nil]

section
variable {α : Type} [Scalar α]

theorem sumTuple_map_some (c : List α) : sumTuple (c.map some) = sumL c := by
  unfold sumTuple
  rw [List.filterMap_map]
  simp

/-! ## `_calculate_team_ratings` without ranks -/

/-- the one arithmetic fact the predictions need: `_calculate_team_ratings` adds a team's values with
    `reduce(lambda x, y: x + y, …)` — no initial value, the fold starts from the FIRST player's value —
    while `teamAgg` (like Python's `sum`) starts from `0`.  The two agree when adding the first
    player's `mu` (and `sigma**2`) to `0` gives it back.  True for every real number and for every
    `float` except `mu = -0.0` (`0 + -0.0` is `+0.0`).  For every team of a game this is the
    hypothesis `hz` of `lp_teamRatingsLoop_eq`. -/
def FirstPlayerZeroAdd (team : List (Rating α)) : Prop :=
  ∀ p, team.head? = some p →
    ofNat 0 + p.mu = p.mu ∧ ofNat 0 + p.sigma * p.sigma = p.sigma * p.sigma

theorem calcTeamRatingsNoRanks_eq (game : List (List (Rating α)))
    (hz : ∀ team ∈ game, FirstPlayerZeroAdd team) :
    calcTeamRatingsNoRanks game = teamAggs game (List.range game.length) := by
  unfold calcTeamRatingsNoRanks teamRatingsCode
  simp only []
  rw [lp_rankingsLoopNone_eq game]
  exact lp_teamRatingsLoop_eq game _ (by rw [List.length_range]; exact Nat.le_refl _) hz

/-- `self._calculate_team_ratings([pair_a])[0]` -/
theorem calcTeamRatingsNoRanks_single (t : List (Rating α)) (hz : FirstPlayerZeroAdd t) :
    (calcTeamRatingsNoRanks [t]).getD 0 TeamAgg.dflt = teamAgg t 0 := by
  rw [calcTeamRatingsNoRanks_eq [t] (List.forall_mem_singleton.mpr hz)]
  rfl

/-- predictions never read the rank -/
theorem pl2_teamAgg_mu (t : List (Rating α)) (r : Nat) : (teamAgg t r).mu = (teamAgg t 0).mu := rfl
theorem pl2_teamAgg_sig2 (t : List (Rating α)) (r : Nat) : (teamAgg t r).sig2 = (teamAgg t 0).sig2 := rfl

end

/-! ## the pairwise loop and the regrouping shared by the three predictions -/

section
variable {α : Type} [Scalar α]

/-- `pairwise_probabilities = []; for pair_a, pair_b in itertools.permutations(teams, 2): …append(G(a, b))`
    with `a`, `b` read from `self._calculate_team_ratings([pair])[0]` is the map of `G` over the ordered
    pairs of `aggs teams`: the code aggregates each member of each pair inside the loop, the model
    aggregates every team once. -/
theorem pl2_pairLoop_aggs (G : TeamAgg α × TeamAgg α → α) (teams : List (List (Rating α)))
    (hz : ∀ team ∈ teams, FirstPlayerZeroAdd team) :
    (permutations2 teams).foldl
      (fun pairwise_probabilities ab =>
        pairwise_probabilities ++
          [G ((calcTeamRatingsNoRanks [ab.1]).getD 0 TeamAgg.dflt,
              (calcTeamRatingsNoRanks [ab.2]).getD 0 TeamAgg.dflt)])
      []
      = (orderedPairs (aggs teams)).map G := by
  rw [foldl_append_singleton_nil, permutations2_eq_orderedPairs, aggs, orderedPairs_map_arg, List.map_map]
  refine List.map_congr_left fun ab hab => ?_
  obtain ⟨ha, hb⟩ := mem_orderedPairs hab
  rw [calcTeamRatingsNoRanks_single ab.1 (hz _ ha), calcTeamRatingsNoRanks_single ab.2 (hz _ hb)]
  rfl

/-- the same for a body that reads the four numbers `mu_a`, `sigma_a`, `mu_b`, `sigma_b` -/
theorem pl2_pairLoop (H : α → α → α → α → α) (teams : List (List (Rating α)))
    (hz : ∀ team ∈ teams, FirstPlayerZeroAdd team) :
    (permutations2 teams).foldl
      (fun pairwise_probabilities ab =>
        pairwise_probabilities ++
          [H ((calcTeamRatingsNoRanks [ab.1]).getD 0 TeamAgg.dflt).mu
             ((calcTeamRatingsNoRanks [ab.1]).getD 0 TeamAgg.dflt).sig2
             ((calcTeamRatingsNoRanks [ab.2]).getD 0 TeamAgg.dflt).mu
             ((calcTeamRatingsNoRanks [ab.2]).getD 0 TeamAgg.dflt).sig2])
      []
      = (orderedPairs (aggs teams)).map (fun ab => H ab.1.mu ab.1.sig2 ab.2.mu ab.2.sig2) :=
  pl2_pairLoop_aggs (fun ab => H ab.1.mu ab.1.sig2 ab.2.mu ab.2.sig2) teams hz

/-- the regrouping comprehension of `predict_win` / `predict_rank`: there are `n (n - 1)` pairwise
    probabilities, a multiple of the group size `n - 1`, so no group is padded -/
theorem pl2_regroup (teams : List (List (Rating α))) (f : TeamAgg α × TeamAgg α → α) (denom : α) :
    (zipLongestIter (teams.length - 1) ((orderedPairs (aggs teams)).map f)).map
        (fun team_prob => sumTuple team_prob / denom)
      = (chunk (teams.length - 1) ((orderedPairs (aggs teams)).map f)).map (fun c => sumL c / denom) := by
  have hmod : ((orderedPairs (aggs teams)).map f).length % (teams.length - 1) = 0 := by
    rw [List.length_map, length_orderedPairs, length_aggs, Nat.mul_mod_left]
  rw [zipLongestIter_eq_chunk _ _ hmod, List.map_map]
  refine List.map_congr_left fun c _ => ?_
  simp only [Function.comp, sumTuple_map_some]

end

/-! ## `max(ranks)` and the reversal `abs(_ - max_ordinal) + 1` -/

/-- Python's `max` over a list of naturals (first item, then strict improvements) is the fold `listMaxNat` -/
theorem pyMaxNat_eq (l : List Nat) : pyMaxNat l = listMaxNat l := by
  cases l with
  | nil => rfl
  | cons x xs =>
    unfold pyMaxNat listMaxNat
    rw [List.foldl_cons, show Nat.max 0 x = x from Nat.zero_max x]
    refine foldl_ext _ _ _ _ fun m item _ => ?_
    show _ = max m item
    by_cases h : m < item
    · rw [if_pos h, Nat.max_eq_right (Nat.le_of_lt h)]
    · rw [if_neg h, Nat.max_eq_left (Nat.le_of_not_lt h)]

/-- `max_ordinal = max(ranks); ranks = [abs(_ - max_ordinal) + 1 for _ in ranks]`: on Python ints
    `abs(x - max_ordinal)` is `max_ordinal - x`, since `x ≤ max_ordinal` -/
theorem pl2_reverse_ranks (r : List Nat) :
    r.map (fun (x : Nat) => (Int.ofNat x - Int.ofNat (pyMaxNat r)).natAbs + 1)
      = r.map (fun x => (listMaxNat r - x) + 1) := by
  refine List.map_congr_left fun x hx => ?_
  show ((x : Int) - (pyMaxNat r : Int)).natAbs + 1 = _
  rw [pyMaxNat_eq, ← Int.natAbs_neg, Int.neg_sub, ← Int.ofNat_sub (le_listMaxNat hx),
    Int.natAbs_natCast]

/-! ## `_unwind` -/

/-- `[[tenet[i], h(x, i)] for i, x in enumerate(objects)]` is `zip(tenet, …)` (rows whose `tenet[i]` does
    not exist are dropped on both sides); `h` is a variable because the induction shifts the index -/
theorem zipIdx_filterMap_getElem?_eq_zip {κ β γ : Type} (objs : List β) (tenet : List κ) (h : β × Nat → γ) :
    objs.zipIdx.filterMap (fun xi => (tenet[xi.2]?).map (fun t => (t, h xi)))
      = tenet.zip (objs.zipIdx.map h) := by
  induction objs generalizing tenet h with
  | nil => simp
  | cons x xs ih =>
    have hshift : xs.zipIdx 1 = xs.zipIdx.map (fun p => (p.1, p.2 + 1)) := by
      rw [List.zipIdx_succ]
    rw [List.zipIdx_cons, Nat.zero_add, hshift, List.filterMap_cons, List.filterMap_map, List.map_cons,
      List.map_map]
    cases tenet with
    | nil => simp
    | cons t ts =>
      have := ih ts (h ∘ fun p => (p.1, p.2 + 1))
      simp only [List.getElem?_cons_zero, Option.map_some, List.zip_cons_cons, Function.comp_def,
        List.getElem?_cons_succ] at this ⊢
      rw [this]

end OS
