import OSProofs.WrapBasics
import Mathlib.Data.List.Sort
import Mathlib.Data.List.Perm.Basic
import Mathlib.Data.List.Range
import Mathlib.Data.List.Forall2
/-!
# R1 — the sort / unsort round trip of `rate`

`rate` sorts the teams by rank with `_unwind` (remembering the original indices, the
"tenet"), computes in sorted order, and sorts the results back with a second `_unwind`
keyed by the tenet.  No property of the rank comparison is needed: the round trip holds for
any comparator, because it only uses `mergeSort_perm` for the first sort and sortedness
for the second, index-keyed one.
-/
namespace OS
open List
variable {κ β γ δ : Type}

/-! ### the second `_unwind`: sorting back by the tenet -/

theorem leNat_trans (a b c : Nat) : leNat a b = true → leNat b c = true → leNat a c = true := by
  simp only [leNat, decide_eq_true_eq]; exact Nat.le_trans

theorem leNat_total (a b : Nat) : (leNat a b || leNat b a) = true := by
  simp only [leNat, Bool.or_eq_true, decide_eq_true_eq]; exact Nat.le_total a b

theorem sortByKey_leNat_keys (l : List (Nat × β)) (n : Nat)
    (hp : (l.map (·.1)).Perm (List.range n)) : (sortByKey leNat l).map (·.1) = List.range n := by
  -- both are sorted permutations of `range n`
  refine List.Perm.eq_of_pairwise (le := (· ≤ ·)) (fun a b _ _ => Nat.le_antisymm) ?_
    ((List.pairwise_lt_range (n := n)).imp Nat.le_of_lt) (((mergeSort_perm l _).map _).trans hp)
  rw [List.pairwise_map]
  exact (pairwise_mergeSort (le := fun a b : Nat × β => leNat a.1 b.1)
    (fun a b c => leNat_trans a.1 b.1 c.1) (fun a b => leNat_total a.1 b.1) l).imp
    (fun h => of_decide_eq_true h)

/-- second `_unwind`: sorting payloads by a tenet that is a permutation of `range n`
    puts payload `k` at position `tenet[k]`. -/
theorem unwind_by_perm {β : Type} (tenet : List Nat) (xs : List β) (n : Nat)
    (hlen : xs.length = n) (hp : tenet.Perm (List.range n)) :
    ∀ (k t : Nat), tenet[k]? = some t → ((unwind leNat tenet xs).1)[t]? = xs[k]? := by
  intro k t hkt
  have htl : tenet.length = n := by rw [hp.length_eq, List.length_range]
  have hk : k < n := htl ▸ (List.getElem?_eq_some_iff.mp hkt).1
  have hkeys := sortByKey_leNat_keys (tenet.zip xs.zipIdx) n
    (by rw [List.map_fst_zip (by rw [List.length_zipIdx, htl, hlen])]; exact hp)
  -- the `k`-th triple sits somewhere in the sorted list; its key `t` says where
  have hmem : (t, xs[k]'(hlen ▸ hk), k) ∈ sortByKey leNat (tenet.zip xs.zipIdx) :=
    List.mem_mergeSort.2 (List.mem_iff_getElem?.2 ⟨k, by
      rw [List.getElem?_zip_eq_some, hkt,
        List.getElem?_eq_getElem (by rw [List.length_zipIdx, hlen]; exact hk),
        List.getElem_zipIdx, Nat.zero_add]
      exact ⟨rfl, rfl⟩⟩)
  obtain ⟨i, hi⟩ := List.mem_iff_getElem?.1 hmem
  have hit : (List.range n)[i]? = some t := by rw [← hkeys, List.getElem?_map, hi]; rfl
  obtain ⟨hin, hit⟩ := List.getElem?_eq_some_iff.1 hit
  rw [List.getElem_range] at hit
  subst hit
  rw [unwind, List.getElem?_map, hi, List.getElem?_eq_getElem (hlen ▸ hk)]
  rfl

theorem ext_of_tenet {tenet : List Nat} {n : Nat} (hp : tenet.Perm (List.range n))
    {a b : List γ} (ha : a.length = n) (hb : b.length = n)
    (h : ∀ k t : Nat, tenet[k]? = some t → a[t]? = b[t]?) : a = b := by
  apply List.ext_getElem?
  intro i
  by_cases hi : i < n
  · obtain ⟨k, hk⟩ := List.mem_iff_getElem?.mp (hp.symm.subset (List.mem_range.mpr hi))
    exact h k i hk
  · rw [List.getElem?_eq_none (by omega), List.getElem?_eq_none (by omega)]

/-! ### the first `_unwind`, and the round trip -/

/-- first `_unwind`: the tenet is a permutation of `range n` and the k-th sorted object
    is the object at original index `tenet[k]`. -/
theorem unwind_first (le : κ → κ → Bool) (ranks : List κ) (teams : List β)
    (hlen : ranks.length = teams.length) :
    ((unwind le ranks teams).2).Perm (List.range teams.length) ∧
    ∀ (k : Nat) (t : Nat) (x : β), ((unwind le ranks teams).2)[k]? = some t →
        ((unwind le ranks teams).1)[k]? = some x → teams[t]? = some x := by
  constructor
  · rw [← map_idx_zip_zipIdx ranks teams hlen.ge]
    exact (mergeSort_perm _ _).map _
  · intro k t x hk hx
    simp only [unwind, List.getElem?_map, Option.map_eq_some_iff] at hk hx
    obtain ⟨e, he, rfl⟩ := hk
    obtain ⟨e', he', rfl⟩ := hx
    cases he.symm.trans he'
    exact (mem_zip_zipIdx (List.mem_mergeSort.1 (List.mem_of_getElem? he))).2

/-- Slot form of the round trip: if `tenet[k] = t` then, after sorting ANY list `ys` of the
    right length back by the tenet, position `t` holds `ys[k]`, and the team at original
    position `t` is the `k`-th team of the sorted order. -/
theorem unwind_roundtrip_slot (le : κ → κ → Bool) (ranks : List κ) (teams : List β)
    (ys : List γ) (hlen : ranks.length = teams.length) (hys : ys.length = teams.length)
    (k t : Nat) (hk : ((unwind le ranks teams).2)[k]? = some t) :
    ((unwind leNat (unwind le ranks teams).2 ys).1)[t]? = ys[k]? ∧
      teams[t]? = ((unwind le ranks teams).1)[k]? := by
  obtain ⟨hperm, hslot⟩ := unwind_first le ranks teams hlen
  refine ⟨unwind_by_perm _ ys teams.length hys hperm k t hk, ?_⟩
  have hkl : k < ((unwind le ranks teams).1).length := by
    have h1 := (List.getElem?_eq_some_iff.mp hk).1
    rw [unwind_snd_length] at h1
    rw [unwind_fst_length]; exact h1
  rw [List.getElem?_eq_getElem hkl]
  exact hslot k t _ hk (List.getElem?_eq_getElem hkl)

theorem unwind_fst_perm (le : κ → κ → Bool) (tenet : List κ) (xs : List β)
    (h : xs.length ≤ tenet.length) : ((unwind le tenet xs).1).Perm xs := by
  have h1 := (List.mergeSort_perm (tenet.zip xs.zipIdx) (fun a b => le a.1 b.1)).map
    (fun x : κ × β × Nat => x.2.1)
  rwa [map_obj_zip_zipIdx tenet xs h] at h1

/-- Round trip for a computation that combines the `k`-th sorted team with the `k`-th entry
    of an arbitrary sorted-order list `w` (ranks, omegas, deltas …): sorting the results
    back is the same as combining every ORIGINAL team, in its original position, with the
    entry of `w` that was computed for it. -/
theorem unwind_roundtrip_zip (le : κ → κ → Bool) (ranks : List κ) (teams : List β)
    (w : List δ) (f : β → δ → γ)
    (hlen : ranks.length = teams.length) (hw : w.length = teams.length) :
    (unwind leNat (unwind le ranks teams).2
        (List.zipWith f (unwind le ranks teams).1 w)).1
      = List.zipWith f teams (unwind leNat (unwind le ranks teams).2 w).1 := by
  have hzl : (List.zipWith f (unwind le ranks teams).1 w).length = teams.length := by
    simp [hlen, hw]
  refine ext_of_tenet (unwind_first le ranks teams hlen).1 (by simp [hlen, hw])
    (by simp [hlen, hw]) ?_
  intro k t hk
  obtain ⟨h1, h2⟩ := unwind_roundtrip_slot le ranks teams _ hlen hzl k t hk
  obtain ⟨h3, -⟩ := unwind_roundtrip_slot le ranks teams w hlen hw k t hk
  rw [h1, List.getElem?_zipWith, List.getElem?_zipWith, h2, h3]

/-- round trip used by `rate`: sort by rank, map a slot-wise function, sort back by tenet -/
theorem unwind_roundtrip (le : κ → κ → Bool) (ranks : List κ) (teams : List β) (f : β → γ)
    (hlen : ranks.length = teams.length) :
    (unwind leNat (unwind le ranks teams).2 ((unwind le ranks teams).1.map f)).1 = teams.map f := by
  have hl : ((unwind le ranks teams).1.map f).length = teams.length := by simp [hlen]
  refine ext_of_tenet (unwind_first le ranks teams hlen).1 (by simp [hlen]) (by simp) ?_
  intro k t hk
  obtain ⟨h1, h2⟩ := unwind_roundtrip_slot le ranks teams _ hlen hl k t hk
  rw [h1, List.getElem?_map, List.getElem?_map, h2]

/-! ### the tenet as a bijection between sorted and original positions -/

section tenet
variable (le : κ → κ → Bool) (r : List κ) (objs : List β) (hlen : r.length = objs.length)
include hlen

theorem unwind_tenet_pos (i : Nat) (hi : i < objs.length) :
    ∃ k, k < objs.length ∧ ((unwind le r objs).2)[k]? = some i := by
  have hmem : i ∈ (unwind le r objs).2 :=
    (unwind_first le r objs hlen).1.symm.subset (List.mem_range.2 hi)
  obtain ⟨k, hk⟩ := List.mem_iff_getElem?.1 hmem
  refine ⟨k, ?_, hk⟩
  have := (List.getElem?_eq_some_iff.1 hk).1
  rwa [unwind_snd_length, hlen, Nat.min_self] at this

theorem unwind_tenet_inj (k q a : Nat)
    (hk : ((unwind le r objs).2)[k]? = some a) (hq : ((unwind le r objs).2)[q]? = some a) :
    k = q := by
  have hnd : ((unwind le r objs).2).Nodup :=
    (unwind_first le r objs hlen).1.nodup_iff.2 List.nodup_range
  obtain ⟨hk1, hk2⟩ := List.getElem?_eq_some_iff.1 hk
  obtain ⟨hq1, hq2⟩ := List.getElem?_eq_some_iff.1 hq
  exact (hnd.getElem_inj_iff).1 (hk2.trans hq2.symm)

theorem unwind_slot_of_tenet (k a : Nat) (hk : ((unwind le r objs).2)[k]? = some a) :
    ∃ ha : a < objs.length, ((unwind le r objs).1)[k]? = some objs[a] ∧
      (sortedKeys le r)[k]? = some (r[a]'(hlen ▸ ha)) := by
  have ha : a < objs.length :=
    List.mem_range.1 ((unwind_first le r objs hlen).1.subset (List.mem_of_getElem? hk))
  refine ⟨ha, ?_, ?_⟩
  · rw [← (unwind_roundtrip_slot le r objs objs hlen rfl k a hk).2, List.getElem?_eq_getElem ha]
  · rw [sortedKeys_slot le r objs hlen.le hk, List.getElem?_eq_getElem (hlen ▸ ha)]

end tenet

/-! ### relations that hold slot by slot: `List.Forall₂`, `zipWith` -/

theorem forall₂_getElem? {R : β → γ → Prop} {l : List β} {l' : List γ}
    (h : List.Forall₂ R l l') {i : Nat} {a : β} (ha : l[i]? = some a) :
    ∃ b, l'[i]? = some b ∧ R a b := by
  obtain ⟨hi, rfl⟩ := List.getElem?_eq_some_iff.1 ha
  have hi' : i < l'.length := h.length_eq ▸ hi
  exact ⟨l'[i], List.getElem?_eq_getElem hi', h.get hi hi'⟩

theorem forall₂_mem_left {R : β → γ → Prop} {l₁ : List β} {l₂ : List γ}
    (h : List.Forall₂ R l₁ l₂) {a : β} (ha : a ∈ l₁) : ∃ b ∈ l₂, R a b := by
  obtain ⟨i, hi⟩ := List.getElem?_of_mem ha
  obtain ⟨b, hb, hr⟩ := forall₂_getElem? h hi
  exact ⟨b, List.mem_of_getElem? hb, hr⟩

theorem forall₂_mem_right {R : β → γ → Prop} {l₁ : List β} {l₂ : List γ}
    (h : List.Forall₂ R l₁ l₂) {b : γ} (hb : b ∈ l₂) : ∃ a ∈ l₁, R a b :=
  forall₂_mem_left (List.Forall₂.flip (R := flip R) h) hb

theorem getElem_of_exists_getElem? (l : List β) (i : Nat) (hi : i < l.length) (Q : β → Prop)
    (h : ∃ x, l[i]? = some x ∧ Q x) : Q l[i] := by
  obtain ⟨x, h1, h2⟩ := h
  rw [List.getElem?_eq_getElem hi] at h1
  rw [Option.some.inj h1]; exact h2

theorem forall₂_zipWith_right {A : β → γ → Prop} (f : γ → β → δ)
    {l₁ : List β} {l₂ : List γ} (h : List.Forall₂ A l₁ l₂) :
    List.Forall₂ (fun a c => ∃ b, A a b ∧ c = f b a) l₁ (List.zipWith f l₂ l₁) := by
  induction h with
  | nil => exact List.Forall₂.nil
  | cons hab _ ih => exact List.Forall₂.cons ⟨_, hab, rfl⟩ ih

theorem forall₂_zipWith_left {R : β → δ → Prop} {f : β → γ → δ} {l : List β} {w : List γ}
    (hl : l.length ≤ w.length) (h : ∀ a ∈ l, ∀ b ∈ w, R a (f a b)) :
    List.Forall₂ R l (List.zipWith f l w) := by
  refine List.forall₂_iff_get.2 ⟨by rw [List.length_zipWith, Nat.min_eq_left hl], fun i h1 h2 => ?_⟩
  rw [List.get_eq_getElem, List.get_eq_getElem, List.getElem_zipWith]
  exact h _ (List.getElem_mem _) _ (List.getElem_mem _)

theorem map_eq_map_iff_forall₂ {f : β → δ} {g : γ → δ} {a : List β} {b : List γ} :
    a.map f = b.map g ↔ List.Forall₂ (fun x y => f x = g y) a b := by
  rw [← List.forall₂_eq_eq_eq, List.forall₂_map_left_iff, List.forall₂_map_right_iff]

theorem forall₂_true_of_length_eq {l₁ : List β} {l₂ : List γ} (h : l₁.length = l₂.length) :
    List.Forall₂ (fun _ _ => True) l₁ l₂ :=
  List.forall₂_iff_get.2 ⟨h, fun _ _ _ => trivial⟩

/-- a slot-wise combination `f` that, seen through `g`, returns its left argument -/
theorem map_zipWith_left {ε : Type} {R : β → γ → Prop} {f : β → γ → δ} {g : δ → ε} {g' : β → ε}
    {l₁ : List β} {l₂ : List γ} (hl : List.Forall₂ R l₁ l₂) (h : ∀ a b, R a b → g (f a b) = g' a) :
    (List.zipWith f l₁ l₂).map g = l₁.map g' := by
  induction hl with
  | nil => rfl
  | cons hab _ ih => rw [List.zipWith_cons_cons, List.map_cons, List.map_cons, h _ _ hab, ih]

theorem map_zipWith_left_id {R : β → γ → Prop} {f : β → γ → δ} {g : δ → β} {l₁ : List β}
    {l₂ : List γ} (hl : List.Forall₂ R l₁ l₂) (h : ∀ a b, R a b → g (f a b) = a) :
    (List.zipWith f l₁ l₂).map g = l₁ :=
  (map_zipWith_left (g' := id) hl h).trans (List.map_id _)

theorem map_zipWith_right {ε : Type} {R : β → γ → Prop} {f : β → γ → δ} {g : δ → ε} {g' : γ → ε}
    {l₁ : List β} {l₂ : List γ} (hl : List.Forall₂ R l₁ l₂) (h : ∀ a b, R a b → g (f a b) = g' b) :
    (List.zipWith f l₁ l₂).map g = l₂.map g' := by
  rw [List.zipWith_comm]
  exact map_zipWith_left hl.flip fun b a => h a b

theorem forall₂_set {R : β → β → Prop} (hR : ∀ x, R x x) (l : List β) {i : Nat}
    (hi : i < l.length) {x' : β} (h : R l[i] x') : List.Forall₂ R l (l.set i x') := by
  induction l generalizing i with
  | nil => exact absurd hi (Nat.not_lt_zero _)
  | cons a l ih =>
    cases i with
    | zero => exact .cons h (List.forall₂_same.2 fun x _ => hR x)
    | succ i => exact .cons (hR a) (ih (Nat.lt_of_succ_lt_succ hi) h)

theorem forall₂_eraseIdx {R : β → β → Prop} {ts ts' : List β}
    (h : List.Forall₂ R ts ts') (k : Nat) : List.Forall₂ R (ts.eraseIdx k) (ts'.eraseIdx k) := by
  rw [List.eraseIdx_eq_take_drop_succ, List.eraseIdx_eq_take_drop_succ]
  exact List.rel_append (List.forall₂_take k h) (List.forall₂_drop (k + 1) h)

theorem forall₂_map_flip [LE γ] {R : β → β → Prop} {f f' : β → γ} {l l' : List β}
    (h : List.Forall₂ R l l') (hf : ∀ b ∈ l, ∀ b', R b b' → f' b' ≤ f b) :
    List.Forall₂ (· ≤ ·) (l'.map f') (l.map f) := by
  induction h with
  | nil => exact List.Forall₂.nil
  | cons hab _ ih =>
    simp only [List.map_cons]
    exact List.Forall₂.cons (hf _ (List.mem_cons_self) _ hab)
      (ih (fun b hb b' hr => hf b (List.mem_cons_of_mem _ hb) b' hr))

/-! ### one `unwind`: of a zip, of two lists related slot by slot, with more keys than objects -/

theorem unwind_zip_fst (le : κ → κ → Bool) (tenet : List κ) (a : List β) (b : List γ)
    (h : a.length ≤ b.length) :
    ((unwind le tenet (a.zip b)).1).map Prod.fst = (unwind le tenet a).1 := by
  have := congrArg Prod.fst (unwind_map le tenet (a.zip b) Prod.fst)
  rw [List.map_fst_zip h] at this
  exact this.symm

theorem unwind_zip_snd (le : κ → κ → Bool) (tenet : List κ) (a : List β) (b : List γ)
    (h : b.length ≤ a.length) :
    ((unwind le tenet (a.zip b)).1).map Prod.snd = (unwind le tenet b).1 := by
  have := congrArg Prod.fst (unwind_map le tenet (a.zip b) Prod.snd)
  rw [List.map_snd_zip h] at this
  exact this.symm

theorem unwind_snd_indep (le : κ → κ → Bool) (ranks : List κ) (xs : List β) (ys : List γ)
    (h : xs.length = ys.length) : (unwind le ranks xs).2 = (unwind le ranks ys).2 := by
  have h1 := congrArg Prod.snd (unwind_map le ranks (xs.zip ys) Prod.fst)
  have h2 := congrArg Prod.snd (unwind_map le ranks (xs.zip ys) Prod.snd)
  rw [List.map_fst_zip h.le] at h1
  rw [List.map_snd_zip h.ge] at h2
  exact h1.trans h2.symm

/-- zip the two lists: `unwind` then moves pairs, and each pair of the zip is in `R` -/
theorem forall₂_unwind (le : κ → κ → Bool) (r : List κ) {R : β → γ → Prop}
    {xs : List β} {ys : List γ} (h : List.Forall₂ R xs ys) :
    List.Forall₂ R (unwind le r xs).1 (unwind le r ys).1 := by
  rw [← unwind_zip_fst le r xs ys h.length_eq.le, ← unwind_zip_snd le r xs ys h.length_eq.ge,
    List.forall₂_map_left_iff, List.forall₂_map_right_iff, List.forall₂_same]
  intro p hp
  exact List.forall₂_zip h (mem_unwind_fst le r _ hp)

theorem unwind_take_tenet (le : κ → κ → Bool) (tenet : List κ) (objs : List β)
    (h : objs.length ≤ tenet.length) :
    unwind le tenet objs = unwind le (tenet.take objs.length) objs := by
  have hz : tenet.zip objs.zipIdx = (tenet.take objs.length).zip objs.zipIdx := by
    conv_lhs => rw [List.zip_eq_zip_take_min, List.length_zipIdx, Nat.min_eq_right h]
    rw [List.take_of_length_le (l := objs.zipIdx) (by rw [List.length_zipIdx])]
  simp only [unwind, hz]

/-! ### the `limit_sigma` clamp, slot by slot -/

section model
variable {α : Type} [Scalar α]

theorem clampTeams_forall₂ {A : Rating α → Rating α → Prop} {orig res : List (List (Rating α))}
    (h : List.Forall₂ (List.Forall₂ A) orig res) :
    List.Forall₂ (List.Forall₂ (fun p r => ∃ q, A p q ∧ r = clampPlayer q p))
      orig (clampTeams orig res) := by
  rw [clampTeams_eq_zipWith_clampPlayer]
  refine (forall₂_zipWith_right (List.zipWith clampPlayer) h).imp ?_
  rintro S T' ⟨T, hST, rfl⟩
  exact forall₂_zipWith_right clampPlayer hST

end model

end OS
