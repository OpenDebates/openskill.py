import Mathlib.Analysis.Real.Sqrt
import Mathlib.Analysis.SpecialFunctions.Exp
import Mathlib.Algebra.Order.BigOperators.Group.List
import Mathlib.Tactic.Linarith
import Mathlib.Tactic.Ring
/-!
# Interval arithmetic over ℝ

The monotonicity facts from which a bound on a root, a quotient, a product, an exponential, a
logistic value or a list sum follows from the bounds of its operands.  Numerals enter only where a
caller instantiates them.
-/
namespace OS

/-! ### roots -/

theorem sqrt_mul_le_sqrt {a β s : ℝ} (hβ : 0 ≤ β) (h : a * (β * β) ≤ s) :
    Real.sqrt a * β ≤ Real.sqrt s := by
  calc Real.sqrt a * β = Real.sqrt a * Real.sqrt (β * β) := by rw [Real.sqrt_mul_self hβ]
    _ = Real.sqrt (a * (β * β)) := (Real.sqrt_mul' a (mul_self_nonneg β)).symm
    _ ≤ Real.sqrt s := Real.sqrt_le_sqrt h

theorem sqrt_le_of_le_mul_self {b s : ℝ} (hb : 0 ≤ b) (h : s ≤ b * b) : Real.sqrt s ≤ b :=
  Real.sqrt_mul_self hb ▸ Real.sqrt_le_sqrt h

theorem le_sqrt_of_mul_self_le {a s : ℝ} (ha : 0 ≤ a) (h : a * a ≤ s) : a ≤ Real.sqrt s :=
  Real.sqrt_mul_self ha ▸ Real.sqrt_le_sqrt h

/-- a normaliser `c ≥ √2·β` is positive and at least `β` -/
theorem pos_of_sqrt_two_mul_le {β c : ℝ} (hβ : 0 < β) (h : Real.sqrt 2 * β ≤ c) : 0 < c :=
  (mul_pos (Real.sqrt_pos.mpr two_pos) hβ).trans_le h

theorem le_of_sqrt_two_mul_le {β c : ℝ} (hβ : 0 ≤ β) (h : Real.sqrt 2 * β ≤ c) : β ≤ c :=
  (le_mul_of_one_le_left hβ Real.one_lt_sqrt_two.le).trans h

/-! ### quotients -/

/-- `hk` says `k ≤ √2·K` without mentioning the root, so that callers close it by `norm_num` -/
theorem abs_div_le_of_sqrt_two {β d c k K : ℝ} (hβ : 0 < β) (hK : 0 ≤ K) (hd : |d| ≤ k * β)
    (hc : Real.sqrt 2 * β ≤ c) (hk : k * k ≤ 2 * (K * K)) : |d / c| ≤ K := by
  have hcpos := pos_of_sqrt_two_mul_le hβ hc
  have hk' : k ≤ Real.sqrt 2 * K := by
    rw [← Real.sqrt_mul_self hK, ← Real.sqrt_mul zero_le_two]
    exact (le_abs_self k).trans (Real.sqrt_mul_self_eq_abs k ▸ Real.sqrt_le_sqrt hk)
  rw [abs_div, abs_of_pos hcpos, div_le_iff₀ hcpos]
  calc |d| ≤ k * β := hd
    _ ≤ Real.sqrt 2 * K * β := mul_le_mul_of_nonneg_right hk' hβ.le
    _ = K * (Real.sqrt 2 * β) := by ring
    _ ≤ K * c := mul_le_mul_of_nonneg_left hc hK

/-- the three factors of a pair term of a team with variance `s`: `σ²/c`, `σ²/c²` and the default
gamma `√σ²/c` -/
theorem team_factors {s c lo C : ℝ} (hlo : 0 ≤ lo) (hs : lo * lo ≤ s) (hc : 0 < c)
    (hsc : s ≤ c * c) (hC : c ≤ C) :
    (lo * lo / C ≤ s / c ∧ s / c ≤ c) ∧ (lo * lo / C / C ≤ s / c / c ∧ s / c / c ≤ 1)
    ∧ (lo / C ≤ Real.sqrt s / c ∧ Real.sqrt s / c ≤ 1) := by
  have hs0 : 0 ≤ s := (mul_self_nonneg lo).trans hs
  have h1 : lo * lo / C ≤ s / c := div_le_div₀ hs0 hs hc hC
  have h2 : s / c ≤ c := (div_le_iff₀ hc).mpr hsc
  exact ⟨⟨h1, h2⟩, ⟨div_le_div₀ (div_nonneg hs0 hc.le) h1 hc hC, (div_le_one hc).mpr h2⟩,
    div_le_div₀ (Real.sqrt_nonneg s) (le_sqrt_of_mul_self_le hlo hs) hc hC,
    (div_le_one hc).mpr (sqrt_le_of_le_mul_self hc.le hsc)⟩

theorem share_cancel (s c v : ℝ) (hs : s ≠ 0) : s / c * v / s = v / c := by
  rw [div_mul_eq_mul_div, div_div, mul_comm c s, ← div_div, mul_div_cancel_left₀ v hs]

/-! ### products -/

theorem mul3_le_mul3 {x y z a b c : ℝ} (ha : 0 ≤ a) (hb : 0 ≤ b) (hc : 0 ≤ c)
    (hx : a ≤ x) (hy : b ≤ y) (hz : c ≤ z) : a * b * c ≤ x * y * z := by
  have h1 : a * b ≤ x * y := mul_le_mul hx hy hb (le_trans ha hx)
  exact mul_le_mul h1 hz hc (le_trans (mul_nonneg ha hb) h1)

theorem mul3_le_of_le_one {x y z : ℝ} (hy0 : 0 ≤ y) (hx : x ≤ 1) (hy : y ≤ 1)
    {B : ℝ} (hz0 : 0 ≤ z) (hz : z ≤ B) : x * y * z ≤ B :=
  (mul_le_mul (mul_le_one₀ hx hy0 hy) hz hz0 zero_le_one).trans_eq (one_mul B)

theorem scale_chain {k l d w : ℝ} (hk : 0 ≤ k) (hld : l ≤ d) (hdw : d ≤ w) (hl : l ≤ 0)
    (hw : 0 ≤ w) : k * l ≤ k * d ∧ k * d ≤ k * w ∧ k * l ≤ 0 ∧ 0 ≤ k * w :=
  ⟨mul_le_mul_of_nonneg_left hld hk, mul_le_mul_of_nonneg_left hdw hk,
    mul_nonpos_of_nonneg_of_nonpos hk hl, mul_nonneg hk hw⟩

/-! ### the exponential and the logistic function -/

theorem exp_shift (x D c : ℝ) : Real.exp ((x + D) / c) = Real.exp (D / c) * Real.exp (x / c) := by
  rw [add_div, Real.exp_add, mul_comm]

theorem exp_bounds_of_abs_le {x A : ℝ} (h : |x| ≤ A) :
    Real.exp (-A) ≤ Real.exp x ∧ Real.exp x ≤ Real.exp A :=
  ⟨Real.exp_le_exp.mpr (abs_le.mp h).1, Real.exp_le_exp.mpr (abs_le.mp h).2⟩

theorem one_div_lt_exp_neg {x B : ℝ} (h : Real.exp x < B) : 1 / B < Real.exp (-x) := by
  rw [Real.exp_neg, inv_eq_one_div]
  exact one_div_lt_one_div_of_lt (Real.exp_pos x) h

theorem logistic_mem (x : ℝ) : 0 < 1 / (1 + Real.exp x) ∧ 1 / (1 + Real.exp x) < 1 := by
  have h1 : 1 < 1 + Real.exp x := lt_add_of_pos_right 1 (Real.exp_pos x)
  exact ⟨one_div_pos.mpr (one_pos.trans h1), (div_lt_one (one_pos.trans h1)).mpr h1⟩

theorem logistic_add_neg (x : ℝ) : 1 / (1 + Real.exp x) + 1 / (1 + Real.exp (-x)) = 1 := by
  have h := Real.exp_pos x
  -- `1/(1 + e⁻¹) = e/(1 + e)`
  rw [Real.exp_neg, ← one_div, one_add_div h.ne', one_div_div, add_comm (Real.exp x) 1, ← add_div,
    div_self (add_pos one_pos h).ne']

theorem logistic_le_half_iff {x : ℝ} : 1 / (1 + Real.exp x) ≤ 1 / 2 ↔ 0 ≤ x := by
  rw [one_div_le_one_div (add_pos one_pos (Real.exp_pos x)) two_pos, ← one_add_one_eq_two,
    add_le_add_iff_left, Real.one_le_exp_iff]

theorem logistic_lt_half_iff {x : ℝ} : 1 / (1 + Real.exp x) < 1 / 2 ↔ 0 < x := by
  rw [one_div_lt_one_div (add_pos one_pos (Real.exp_pos x)) two_pos, ← one_add_one_eq_two,
    add_lt_add_iff_left, Real.one_lt_exp_iff]

theorem mul_one_sub_le_quarter (p : ℝ) : p * (1 - p) ≤ 1 / 4 := by
  have h : p * (1 - p) = 1 / 4 - (p - 1 / 2) ^ 2 := by ring
  rw [h]
  exact sub_le_self _ (sq_nonneg _)

/-- the larger of `p`, `1 − p` is at least `1/2` -/
theorem mul_one_sub_ge {p m : ℝ} (hm : 0 ≤ m) (h1 : m ≤ p) (h2 : m ≤ 1 - p) :
    m / 2 ≤ p * (1 - p) := by
  rcases le_total (1 / 2) p with h | h
  · calc m / 2 = 1 / 2 * m := by ring
      _ ≤ p * (1 - p) := mul_le_mul h h2 hm (le_trans (by norm_num) h)
  · calc m / 2 = m * (1 / 2) := by ring
      _ ≤ p * (1 - p) := mul_le_mul h1 (le_sub_comm.mp (h.trans_eq (by norm_num))) (by norm_num)
          (hm.trans h1)

theorem logistic_bounds {E ε : ℝ} (hε : 0 < ε) (hε1 : ε ≤ 1) (h1 : ε ≤ E) (h2 : E ≤ 1 / ε) :
    let p := 1 / (1 + E)
    (ε / 2 ≤ p ∧ p ≤ 1) ∧ (ε / 2 ≤ 1 - p ∧ 1 - p ≤ 1) ∧ ε / 4 ≤ p * (1 - p) ∧ p * (1 - p) ≤ 1 / 4 := by
  have hE : 0 < E := hε.trans_le h1
  have h1E : 0 < 1 + E := add_pos one_pos hE
  have hp : ε / 2 ≤ 1 / (1 + E) := (div_le_div_iff₀ two_pos h1E).mpr <|
    calc ε * (1 + E) = ε + E * ε := by ring
      _ ≤ 1 + 1 := add_le_add hε1 ((le_div_iff₀ hε).mp h2)
      _ = 1 * 2 := by norm_num
  have hq : ε / 2 ≤ 1 - 1 / (1 + E) := by
    rw [one_sub_div h1E.ne', add_sub_cancel_left, div_le_div_iff₀ two_pos h1E]
    calc ε * (1 + E) = ε + ε * E := by ring
      _ ≤ E + E := add_le_add h1 (mul_le_of_le_one_left hE.le hε1)
      _ = E * 2 := (mul_two E).symm
  have hp0 : 0 ≤ 1 / (1 + E) := (one_div_pos.mpr h1E).le
  exact ⟨⟨hp, (div_le_one h1E).mpr (le_add_of_nonneg_right hE.le)⟩, ⟨hq, sub_le_self _ hp0⟩,
    (by ring : ε / 4 = ε / 2 / 2).trans_le (mul_one_sub_ge (half_pos hε).le hp hq),
    mul_one_sub_le_quarter _⟩

/-! ### differences -/

theorem abs_sub_le_add {a b A B : ℝ} (ha : |a| ≤ A) (hb : |b| ≤ B) : |a - b| ≤ A + B :=
  (abs_sub a b).trans (add_le_add ha hb)

theorem abs_sqrt_sub_sqrt_le {kappa a b : ℝ} (hk : 0 < kappa) (ha : kappa ≤ a) (hb : kappa ≤ b) :
    |Real.sqrt a - Real.sqrt b| ≤ |a - b| / (2 * Real.sqrt kappa) := by
  have hsk : 0 < Real.sqrt kappa := Real.sqrt_pos.mpr hk
  have h1 : Real.sqrt kappa ≤ Real.sqrt a := Real.sqrt_le_sqrt ha
  have h2 : Real.sqrt kappa ≤ Real.sqrt b := Real.sqrt_le_sqrt hb
  have hab : a - b = (Real.sqrt a - Real.sqrt b) * (Real.sqrt a + Real.sqrt b) := by
    rw [mul_comm, ← mul_self_sub_mul_self, Real.mul_self_sqrt (hk.le.trans ha),
      Real.mul_self_sqrt (hk.le.trans hb)]
  rw [le_div_iff₀ (mul_pos two_pos hsk), hab, abs_mul,
    abs_of_pos (show 0 < Real.sqrt a + Real.sqrt b by linarith)]
  exact mul_le_mul_of_nonneg_left (by linarith) (abs_nonneg _)

theorem abs_floor_sub_le {s : ℝ} (hs : 0 ≤ s) (kappa delta delta' : ℝ) :
    |max (1 - s * delta) kappa - max (1 - s * delta') kappa| ≤ s * |delta - delta'| := by
  refine (abs_max_sub_max_le_abs _ _ _).trans_eq ?_
  rw [sub_sub_sub_cancel_left, ← mul_sub, abs_mul, abs_of_nonneg hs, abs_sub_comm]

/-! ### sums over lists -/

theorem sum_map_nonneg {γ : Type} (l : List γ) (f : γ → ℝ) (h : ∀ x ∈ l, 0 ≤ f x) :
    0 ≤ (l.map f).sum :=
  List.sum_nonneg (List.forall_mem_map.2 h)

theorem le_sum_map_of_mem {γ : Type} (l : List γ) (f : γ → ℝ) (h : ∀ x ∈ l, 0 ≤ f x)
    {a : γ} (ha : a ∈ l) : f a ≤ (l.map f).sum :=
  List.single_le_sum (List.forall_mem_map.2 h) _ (List.mem_map_of_mem ha)

theorem sum_map_le_of_length {γ : Type} (l : List γ) (f : γ → ℝ) (B : ℝ) (n : ℕ)
    (hB : 0 ≤ B) (hl : l.length ≤ n) (h : ∀ x ∈ l, f x ≤ B) : (l.map f).sum ≤ n * B := by
  have h1 := List.sum_le_card_nsmul (l.map f) B (List.forall_mem_map.2 h)
  rw [List.length_map, nsmul_eq_mul] at h1
  exact h1.trans (mul_le_mul_of_nonneg_right (Nat.cast_le.mpr hl) hB)

theorem abs_sum_map_le_of_length {γ : Type} (l : List γ) (f : γ → ℝ) (B : ℝ) (n : ℕ)
    (hB : 0 ≤ B) (hl : l.length ≤ n) (h : ∀ x ∈ l, |f x| ≤ B) : |(l.map f).sum| ≤ n * B :=
  abs_le.mpr ⟨neg_le.mp (by
      rw [List.sum_neg, List.map_map]
      exact sum_map_le_of_length l _ B n hB hl fun x hx => neg_le.mp (abs_le.mp (h x hx)).1),
    sum_map_le_of_length l f B n hB hl fun x hx => (abs_le.mp (h x hx)).2⟩

theorem abs_sum_map_sub_le {β : Type} (l : List β) (f g h : β → ℝ)
    (hfg : ∀ x ∈ l, |f x - g x| ≤ h x) :
    |(l.map f).sum - (l.map g).sum| ≤ (l.map h).sum := by
  induction l with
  | nil => simp
  | cons a l ih =>
    simp only [List.map_cons, List.sum_cons, add_sub_add_comm]
    exact (abs_add_le _ _).trans
      (add_le_add (hfg a List.mem_cons_self) (ih fun x hx => hfg x (List.mem_cons_of_mem a hx)))

end OS
