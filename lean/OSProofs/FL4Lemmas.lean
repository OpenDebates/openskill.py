import OSProofs.Props.FL1
import OSProofs.LeagueLemmas

/-!
# Helper lemmas for FL4: the hypotheses `FLGameOK`, `FLLeagueOK` of the league theorems under `MonoArith`
-/

namespace OS
open Scalar
variable {α ρ : Type} [Scalar α]

/-- the `ranks` argument `rate` hands to `rateCore` for an outcome (`lft_ranksOf` of `WrapBasics.lean`) -/
def fl4_ranksOf (neg : ρ → ρ) (oc : Outcome ρ) : Option (List ρ) :=
  match oc with
  | .omitted => none
  | .ranks r => some r
  | .scores s => some (s.map neg)

theorem fl4_ranksOf_eq_lft_ranksOf (neg : ρ → ρ) (oc : Outcome ρ) :
    fl4_ranksOf neg oc = lft_ranksOf neg oc := rfl

/-- **What `FL_C06_rate` needs for game `g` played on store `s`.**

* `leaves`   — non-negative leaves, asked only for a Thurstone–Mosteller game;
* `var_pos`  — the computed variance of every loaded, tau-inflated team is `> 0`;
* `kappa_le` — `κ ≤ 1`;
* `gamma`    — the gamma callback is non-negative;
* `divisors` — the remaining computed divisors are positive (nothing for Bradley–Terry; `0 < c*c` and
  `0 < exp(μ_t/c)` for Plackett–Luce; `0 < 1·c_iq` resp. `0 < 2·c_iq` for every pair of teams for
  Thurstone–Mosteller), for the team aggregates `rate` builds for THIS game;
* `wf`       — the league machine's well-formedness: no player number occurs twice in the game, and the
  outcome is omitted or has one entry per team. -/
structure FLGameOK (L : Leaves α) (P : Params α) (le : ρ → ρ → Bool) (neg : ρ → ρ)
    (s : Store α) (g : LeagueGame α ρ) : Prop where
  leaves : g.kind = .TMF ∨ g.kind = .TMP → LeavesNonneg L
  var_pos : ∀ T ∈ inflate (resolveTau P g.opts) (loadTeams s g),
    𝟘 < sumL (T.map (fun p => p.sigma * p.sigma))
  kappa_le : P.kappa ≤ 𝟙
  gamma : GammaNonneg P.gamma
  divisors : DivisorsPosRest g.kind P
    (FL_rateAggs P le (loadTeams s g) (fl4_ranksOf neg g.outcome) g.opts)
  wf : g.WF

/-- every game of the history is `FLGameOK` at the store it is played on -/
def FLLeagueOK (L : Leaves α) (P : Params α) (le : ρ → ρ → Bool) (neg : ρ → ρ) :
    Store α → List (LeagueGame α ρ) → Prop
  | _, [] => True
  | s, g :: gs => FLGameOK L P le neg s g ∧ FLLeagueOK L P le neg (playGame L P le neg s g) gs

variable (L : Leaves α) (P : Params α) (le : ρ → ρ → Bool) (neg : ρ → ρ) (s : Store α)

theorem fl4_leagueOK_nil : FLLeagueOK L P le neg s ([] : List (LeagueGame α ρ)) := trivial

theorem fl4_leagueOK_cons (g : LeagueGame α ρ) (gs : List (LeagueGame α ρ)) :
    FLLeagueOK L P le neg s (g :: gs) ↔
      FLGameOK L P le neg s g ∧ FLLeagueOK L P le neg (playGame L P le neg s g) gs := Iff.rfl

theorem fl4_leagueOK_append (gs hs : List (LeagueGame α ρ)) :
    FLLeagueOK L P le neg s (gs ++ hs) ↔
      FLLeagueOK L P le neg s gs ∧ FLLeagueOK L P le neg (playLeague L P le neg s gs) hs := by
  induction gs generalizing s with
  | nil => simp [fl4_leagueOK_nil, lg_playLeague_nil]
  | cons g gs ih =>
    rw [List.cons_append, fl4_leagueOK_cons, fl4_leagueOK_cons, ih, lg_playLeague_cons, and_assoc]

end OS
