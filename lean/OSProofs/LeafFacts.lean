import OSProofs.RealInst
/-!
# What the game-level theorems need to know about the four correction functions

Game-level theorems about the Thurstone–Mosteller models take `LeafFacts L` as an explicit
hypothesis; `leafFacts_code : LeafFacts codeLeaves` (OSProofs/Props/C17.lean) discharges it for
the code's `v, w, vt, wt` from the Gaussian facts G1–G8a.  So a property quantified over all
games is reduced, by proof, to a handful of facts about four scalar functions.
-/
namespace OS

structure LeafFacts (L : Leaves ℝ) : Prop where
  /-- V ≥ 0 -/
  v_nonneg : ∀ x t : ℝ, 0 ≤ L.v x t
  /-- Mills: V(x,t) ≥ t − x -/
  v_ge : ∀ x t : ℝ, t - x ≤ L.v x t
  /-- W ≥ 0 -/
  w_nonneg : ∀ x t : ℝ, 0 ≤ L.w x t
  /-- W̃ ≥ 0 for a non-negative draw margin -/
  wt_nonneg : ∀ x t : ℝ, 0 ≤ t → 0 ≤ L.wt x t
  /-- the truncated mean lies in the truncation interval: −t − x ≤ Ṽ(x,t) ≤ t − x -/
  vt_mem : ∀ x t : ℝ, 0 ≤ t → -t - x ≤ L.vt x t ∧ L.vt x t ≤ t - x
  /-- Ṽ is odd in x away from 0 -/
  vt_odd : ∀ x t : ℝ, x ≠ 0 → L.vt (-x) t = -L.vt x t

end OS
