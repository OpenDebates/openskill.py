import OSProofs.LeagueLemmas
import OSProofs.Props.C06

/-!
# Helper lemmas for C06b (the concrete league over ℝ): the variance budget, one game
-/

noncomputable section
namespace OS
open Scalar
variable {ρ : Type}

/-! ### the variance budget -/

/-- what game `g` adds to the variance budget of player `p`: `τ_g²` if `p` takes part, else `0`
(`τ_g` is the tau in force in that call) -/
def gameBudget (P : Params ℝ) (g : LeagueGame ℝ ρ) (p : Nat) : ℝ :=
  if g.plays p then resolveTau P g.opts ^ 2 else 0

/-- `Σ τ_g²` over the games of `gs` in which player `p` takes part -/
def leagueBudget (P : Params ℝ) (gs : List (LeagueGame ℝ ρ)) (p : Nat) : ℝ :=
  (gs.map (fun g => gameBudget P g p)).sum

theorem gameBudget_pos {P : Params ℝ} {g : LeagueGame ℝ ρ} {p : Nat} (h : g.plays p) :
    gameBudget P g p = resolveTau P g.opts ^ 2 := by
  simp [gameBudget, h]

theorem gameBudget_neg {P : Params ℝ} {g : LeagueGame ℝ ρ} {p : Nat} (h : ¬ g.plays p) :
    gameBudget P g p = 0 := by
  simp [gameBudget, h]

theorem gameBudget_nonneg (P : Params ℝ) (g : LeagueGame ℝ ρ) (p : Nat) : 0 ≤ gameBudget P g p := by
  unfold gameBudget; split_ifs
  · exact sq_nonneg _
  · exact le_refl _

theorem leagueBudget_append (P : Params ℝ) (gs hs : List (LeagueGame ℝ ρ)) (p : Nat) :
    leagueBudget P (gs ++ hs) p = leagueBudget P gs p + leagueBudget P hs p := by
  simp [leagueBudget]

theorem leagueBudget_nonneg (P : Params ℝ) (gs : List (LeagueGame ℝ ρ)) (p : Nat) :
    0 ≤ leagueBudget P gs p := by
  apply List.sum_nonneg
  intro x hx
  obtain ⟨g, _, rfl⟩ := List.mem_map.1 hx
  exact gameBudget_nonneg P g p

/-! ### one game -/

/-- after a well-formed game the store holds for participant `p` the (mu, sigma) of a rating `r'`
that `rate` returned for the rating `s.load p` passed in (`SlotC06`) -/
theorem lg_playGame_slotC06 (L : Leaves ℝ) (P : Params ℝ) (le : ρ → ρ → Bool) (neg : ρ → ρ)
    (s : Store ℝ) (g : LeagueGame ℝ ρ)
    (hL : g.kind = .TMF ∨ g.kind = .TMP → LeafFacts L) (hk0 : 0 < P.kappa) (hk1 : P.kappa ≤ 1)
    (hg : GammaOK P.gamma) (hwf : g.WF) (p : Nat) (hp : g.plays p) :
    ∃ r' : Rating ℝ, SlotC06 (resolveTau P g.opts) (resolveLimit P g.opts) (s.load p) r'
      ∧ (playGame L P le neg s g).mu p = r'.mu ∧ (playGame L P le neg s g).sigma p = r'.sigma :=
  playGame_slot_of_rate L P le neg s g _ (fun _ _ h => h.1)
    (C06_rate g.kind L P le neg (loadTeams s g) g.outcome g.opts hL hk0 hk1 hg) hwf p hp

end OS
end
