import OSModel
import OSProofs.WrapBasics
/-!
# `rate` and the predictions under a per-rating map (any scalar type)

`rateCore` is `clamp ∘ unsort ∘ _compute ∘ sort ∘ inflate`, `_compute` is
`applyTeam ∘ (id, omegaDelta) ∘ teamAggs`.  The sort and the unsort move whole teams and never look
inside a rating, so they commute with every slot-wise map (`unwind_map`); the clamp compares sigmas
only.  So for a map `φ` of ratings (a change of unit, a change of origin, a replacement of the ids)
`rate` commutes with `φ` as soon as its three numerical steps do: that is `compute_map` and
`rateCore_map`.  `P'`, `o'` are the transformed parameters and options; `S` restricts the team sizes on
which `_compute` is asked to commute (the change of origin needs teams of equal size).  One level down,
`omegaDelta` commutes with a map `Φ` of the team aggregates and `ψ` of the `(Ω, Δ)` pairs as soon as the
term of the model does (`omegaDelta_map`): the pairing loops only select opponents and add.

The predictions read a game through its size, its player count and, for each ordered pair of team
aggregates, the arguments of the normal CDF: `predictWin_map`, `predictDraw_map`,
`predictRank_map`.
-/
namespace OS
open Scalar
variable {α ρ β γ : Type}

theorem othersOf_map (f : β → γ) (l : List β) (i : Nat) :
    othersOf (l.map f) i = (othersOf l i).map f := by
  simp only [othersOf, List.zipIdx_map, List.filter_map, List.map_map, Function.comp_def, Prod.map, id]

theorem neighboursOf_map (f : β → γ) (l : List β) (i : Nat) :
    neighboursOf (l.map f) i = (neighboursOf l i).map f := by
  simp only [neighboursOf, List.getElem?_map, Option.toList_map, List.map_append,
    apply_ite (List.map f), List.map_nil]

theorem playerCount_map_map (f : β → γ) (teams : List (List β)) :
    playerCount (teams.map (·.map f)) = playerCount teams := by
  simp only [playerCount, List.map_map, Function.comp_def, List.length_map]

variable [Scalar α]

theorem clampTeams_map (φ : Rating α → Rating α)
    (hle : ∀ p q : Rating α, (φ p).sigma ≤ (φ q).sigma ↔ p.sigma ≤ q.sigma)
    (hset : ∀ p q : Rating α, φ { p with sigma := q.sigma } = { φ p with sigma := (φ q).sigma })
    (orig res : List (List (Rating α))) :
    clampTeams (orig.map (·.map φ)) (res.map (·.map φ)) = (clampTeams orig res).map (·.map φ) := by
  simp only [clampTeams, List.zip_map, List.map_map, Function.comp_def, Prod.map]
  refine List.map_congr_left (fun tr _ => List.map_congr_left (fun pq _ => ?_))
  by_cases h : pq.1.sigma ≤ pq.2.sigma
  · exact (if_pos ((hle _ _).2 h)).trans (congrArg φ (if_pos h)).symm
  · exact (if_neg (mt (hle _ _).1 h)).trans ((hset _ _).symm.trans (congrArg φ (if_neg h)).symm)

/-- `Φ` is what `φ` does to a team aggregate, `ψ` what it does to `(Ω, Δ)` -/
theorem compute_map (K : Kind) (L : Leaves α) (P P' : Params α) (φ : Rating α → Rating α)
    (Φ : TeamAgg α → TeamAgg α) (ψ : α × α → α × α) (teams : List (List (Rating α)))
    (dense : List Nat)
    (hagg : ∀ tr ∈ teams.zip dense, teamAgg (tr.1.map φ) tr.2 = Φ (teamAgg tr.1 tr.2))
    (hod : omegaDelta K L P' ((teamAggs teams dense).map Φ)
      = (omegaDelta K L P (teamAggs teams dense)).map ψ)
    (happ : ∀ t od, applyTeam P'.kappa (Φ t) (ψ od).1 (ψ od).2
      = (applyTeam P.kappa t od.1 od.2).map φ) :
    compute K L P' (teams.map (·.map φ)) dense = (compute K L P teams dense).map (·.map φ) := by
  have h : teamAggs (teams.map (·.map φ)) dense = (teamAggs teams dense).map Φ := by
    simp only [teamAggs, List.zip_map_left, List.map_map]
    exact List.map_congr_left hagg
  simp only [compute, h, hod, List.zip_map, List.map_map]
  exact List.map_congr_left (fun x _ => happ x.1 x.2)

theorem rateCore_map (K : Kind) (L : Leaves α) (P P' : Params α) (o o' : CallOpts α)
    (le : ρ → ρ → Bool) (φ : Rating α → Rating α) (S : Nat → Prop)
    (hlim : resolveLimit P' o' = resolveLimit P o)
    (hinf : ∀ ts, inflate (resolveTau P' o') (ts.map (·.map φ))
      = (inflate (resolveTau P o) ts).map (·.map φ))
    (hcomp : ∀ ts dense, (∀ t ∈ ts, S t.length) →
      compute K L P' (ts.map (·.map φ)) dense = (compute K L P ts dense).map (·.map φ))
    (hle : ∀ p q : Rating α, (φ p).sigma ≤ (φ q).sigma ↔ p.sigma ≤ q.sigma)
    (hset : ∀ p q : Rating α, φ { p with sigma := q.sigma } = { φ p with sigma := (φ q).sigma })
    (teams : List (List (Rating α))) (hS : ∀ t ∈ teams, S t.length) (ranks : Option (List ρ)) :
    rateCore K L P' le (teams.map (·.map φ)) ranks o'
      = (rateCore K L P le teams ranks o).map (·.map φ) := by
  have hS' : ∀ t ∈ inflate (resolveTau P o) teams, S t.length := inflate_forall_length hS
  have hraw : rateRaw K L P' le (resolveTau P' o') (teams.map (·.map φ)) ranks
      = (rateRaw K L P le (resolveTau P o) teams ranks).map (·.map φ) := by
    cases ranks with
    | none => simp only [rateRaw, hinf, List.length_map, hcomp _ _ hS']
    | some r =>
      simp only [rateRaw, hinf, unwind_map, hcomp _ _ fun t ht => hS' t (mem_unwind_fst le r _ ht)]
  rw [rateCore_eq_clamp_rateRaw, rateCore_eq_clamp_rateRaw, hlim, hraw]
  split
  · exact clampTeams_map φ hle hset _ _
  · rfl

section predict
variable (b b' : α) (φ : Rating α → Rating α) (Φ : TeamAgg α → TeamAgg α)
  (teams : List (List (Rating α))) (hagg : ∀ t ∈ teams, teamAgg (t.map φ) 0 = Φ (teamAgg t 0))
include hagg

theorem aggs_map : aggs (teams.map (·.map φ)) = (aggs teams).map Φ := by
  simp only [aggs, List.map_map]
  exact List.map_congr_left hagg

theorem predictWin_map
    (harg : ∀ nb x y, ((Φ x).mu - (Φ y).mu) / pairDenom nb b' (Φ x) (Φ y)
      = (x.mu - y.mu) / pairDenom nb b x y) :
    predictWin b' (teams.map (·.map φ)) = predictWin b teams := by
  by_cases h2 : teams.length = 2
  · unfold predictWin
    rw [aggs_map φ Φ teams hagg, playerCount_map_map]
    match aggs teams, (length_aggs teams).trans h2 with
    | [x, y], _ => simp only [List.map_cons, List.map_nil, harg]
  · rw [predictWin_of_length_ne_two b teams h2,
      predictWin_of_length_ne_two b' _ (by rwa [List.length_map]), aggs_map φ Φ teams hagg,
      List.length_map]
    simp only [orderedPairs_map_arg, List.map_map, Function.comp_def, Prod.map, harg]

theorem predictDraw_map
    (harg : ∀ nb x y,
      (drawMargin b' (playerCount teams) - (Φ x).mu + (Φ y).mu) / pairDenom nb b' (Φ x) (Φ y)
          = (drawMargin b (playerCount teams) - x.mu + y.mu) / pairDenom nb b x y
        ∧ ((Φ x).mu - (Φ y).mu - drawMargin b' (playerCount teams)) / pairDenom nb b' (Φ x) (Φ y)
          = (x.mu - y.mu - drawMargin b (playerCount teams)) / pairDenom nb b x y) :
    predictDraw b' (teams.map (·.map φ)) = predictDraw b teams := by
  simp only [predictDraw, aggs_map φ Φ teams hagg, playerCount_map_map, List.length_map,
    orderedPairs_map_arg, List.map_map, Function.comp_def, Prod.map, (harg _ _ _).1, (harg _ _ _).2]

theorem predictRank_map
    (harg : ∀ nb x y,
      ((Φ x).mu - (Φ y).mu - drawMargin b' (playerCount teams)) / pairDenom nb b' (Φ x) (Φ y)
        = (x.mu - y.mu - drawMargin b (playerCount teams)) / pairDenom nb b x y) :
    predictRank b' (teams.map (·.map φ)) = predictRank b teams := by
  simp only [predictRank, predictRankProbs, aggs_map φ Φ teams hagg, playerCount_map_map,
    List.length_map, orderedPairs_map_arg, List.map_map, Function.comp_def, Prod.map, harg]

end predict

/-- one row of a pairing loop (`opp` is `othersOf` or `neighboursOf`, `pr` the pair term of the row's
team) -/
theorem pairRow_map (opp : List (TeamAgg α) → Nat → List (TeamAgg α)) (Φ : TeamAgg α → TeamAgg α)
    (ψ : α × α → α × α) (ts : List (TeamAgg α)) (i : Nat)
    (hopp : opp (ts.map Φ) i = (opp ts i).map Φ)
    (hsum : ∀ l : List (α × α), sumPairs (l.map ψ) = ψ (sumPairs l))
    {pr pr' : TeamAgg α → α × α} (h : ∀ tq, pr' (Φ tq) = ψ (pr tq)) :
    sumPairs ((opp (ts.map Φ) i).map pr') = ψ (sumPairs ((opp ts i).map pr)) := by
  rw [hopp, List.map_map, ← hsum, List.map_map]
  exact congrArg sumPairs (List.map_congr_left fun tq _ => h tq)

/-- only the hypothesis about the term of model `K` is used -/
theorem omegaDelta_map (K : Kind) (L : Leaves α) (P P' : Params α) (Φ : TeamAgg α → TeamAgg α)
    (ψ : α × α → α × α) (ts : List (TeamAgg α))
    (hsum : ∀ l : List (α × α), sumPairs (l.map ψ) = ψ (sumPairs l))
    (hpl : K = .PL → ∀ x ∈ ts.zipIdx,
      fl1_od .PL L P' (ts.map Φ) (Φ x.1, x.2) = ψ (fl1_od .PL L P ts x))
    (hbt : K = .BTF ∨ K = .BTP → ∀ ti ∈ ts, ∀ tq,
      btPair P'.beta P'.gamma ts.length (Φ ti) (Φ tq) = ψ (btPair P.beta P.gamma ts.length ti tq))
    (htm : K = .TMF ∨ K = .TMP → ∀ cmul, ∀ ti ∈ ts, ∀ tq,
      tmPair L cmul P'.beta P'.kappa P'.gamma ts.length (Φ ti) (Φ tq)
        = ψ (tmPair L cmul P.beta P.kappa P.gamma ts.length ti tq)) :
    omegaDelta K L P' (ts.map Φ) = (omegaDelta K L P ts).map ψ := by
  rw [omegaDelta_eq, omegaDelta_eq, List.zipIdx_map, List.map_map, List.map_map]
  refine List.map_congr_left (fun x hx => ?_)
  have hx1 := List.fst_mem_of_mem_zipIdx hx
  simp only [Function.comp_def, Prod.map, id]
  cases K with
  | PL => exact hpl rfl x hx
  | BTF =>
    simp only [fl1_od, List.length_map]
    exact pairRow_map othersOf Φ ψ ts x.2 (othersOf_map Φ ts _) hsum (hbt (.inl rfl) x.1 hx1)
  | BTP =>
    simp only [fl1_od, List.length_map]
    exact pairRow_map neighboursOf Φ ψ ts x.2 (neighboursOf_map Φ ts _) hsum (hbt (.inr rfl) x.1 hx1)
  | TMF =>
    simp only [fl1_od, List.length_map]
    exact pairRow_map othersOf Φ ψ ts x.2 (othersOf_map Φ ts _) hsum (htm (.inl rfl) _ x.1 hx1)
  | TMP =>
    simp only [fl1_od, List.length_map]
    exact pairRow_map neighboursOf Φ ψ ts x.2 (neighboursOf_map Φ ts _) hsum (htm (.inr rfl) _ x.1 hx1)

theorem sumPairs_map_id (l : List (α × α)) : sumPairs (l.map id) = id (sumPairs l) :=
  congrArg sumPairs (List.map_id l)

theorem btPair_congr (b : α) (g g' : GammaFn α) (n : Nat) {ti tq ti' tq' : TeamAgg α}
    (hmu : tq'.mu - ti'.mu = tq.mu - ti.mu) (hsi : ti'.sig2 = ti.sig2) (hsq : tq'.sig2 = tq.sig2)
    (hri : ti'.rank = ti.rank) (hrq : tq'.rank = tq.rank)
    (hg : ∀ c, gammaVal g' c n ti'.mu ti.sig2 ti'.players ti.rank
      = gammaVal g c n ti.mu ti.sig2 ti.players ti.rank) :
    btPair b g' n ti' tq' = btPair b g n ti tq := by
  simp only [btPair, hmu, hsi, hsq, hri, hrq, hg]

theorem tmPair_congr (L : Leaves α) (cmul b kappa : α) (g g' : GammaFn α) (n : Nat)
    {ti tq ti' tq' : TeamAgg α}
    (hmu : ti'.mu - tq'.mu = ti.mu - tq.mu) (hsi : ti'.sig2 = ti.sig2) (hsq : tq'.sig2 = tq.sig2)
    (hri : ti'.rank = ti.rank) (hrq : tq'.rank = tq.rank)
    (hg : ∀ c, gammaVal g' c n ti'.mu ti.sig2 ti'.players ti.rank
      = gammaVal g c n ti.mu ti.sig2 ti.players ti.rank) :
    tmPair L cmul b kappa g' n ti' tq' = tmPair L cmul b kappa g n ti tq := by
  simp only [tmPair, hmu, hsi, hsq, hri, hrq, hg]

section pl
variable (Φ : TeamAgg α → TeamAgg α) (ts : List (TeamAgg α))

theorem plC_congr (b : α) (hs : ∀ t, (Φ t).sig2 = t.sig2) : plC b (ts.map Φ) = plC b ts := by
  simp only [plC, List.map_map, Function.comp_def, hs]

theorem plSumQ_congr (hmu : ∀ t, (Φ t).mu = t.mu) (hr : ∀ t, (Φ t).rank = t.rank) (c : α) :
    plSumQ (ts.map Φ) c = plSumQ ts c := by
  simp only [plSumQ, List.map_map, List.filter_map, Function.comp_def, hmu, hr]

omit [Scalar α] in
theorem plA_congr (hr : ∀ t, (Φ t).rank = t.rank) : plA (ts.map Φ) = plA ts := by
  simp only [plA, List.map_map, List.filter_map, List.length_map, Function.comp_def, hr]

end pl

/-- `omegaDelta` reads a team through its mu, variance, rank and the value of the gamma call -/
theorem omegaDelta_congr (K : Kind) (L : Leaves α) (P P' : Params α) (hb : P'.beta = P.beta)
    (hk : P'.kappa = P.kappa) (Φ : TeamAgg α → TeamAgg α)
    (hmu : ∀ t, (Φ t).mu = t.mu) (hs : ∀ t, (Φ t).sig2 = t.sig2) (hr : ∀ t, (Φ t).rank = t.rank)
    (ts : List (TeamAgg α))
    (hg : ∀ t ∈ ts, ∀ c, gammaVal P'.gamma c ts.length t.mu t.sig2 (Φ t).players t.rank
      = gammaVal P.gamma c ts.length t.mu t.sig2 t.players t.rank) :
    omegaDelta K L P' (ts.map Φ) = omegaDelta K L P ts := by
  have hg' : ∀ t ∈ ts, ∀ c, gammaVal P'.gamma c ts.length (Φ t).mu t.sig2 (Φ t).players t.rank
      = gammaVal P.gamma c ts.length t.mu t.sig2 t.players t.rank := fun t ht c => by
    rw [hmu]; exact hg t ht c
  refine (omegaDelta_map K L P P' Φ id ts sumPairs_map_id (fun _ x hx => ?_)
    (fun _ ti hti tq => ?_) (fun _ cmul ti hti tq => ?_)).trans (List.map_id _)
  · simp only [fl1_od, hb, plC_congr Φ ts _ hs, plSumQ_congr Φ ts hmu hr, plA_congr Φ ts hr]
    simp only [plOmegaDelta, List.zip_map_left, List.zipIdx_map, List.filter_map, List.map_map,
      Function.comp_def, Prod.map, List.length_map, id, hmu, hs, hr,
      hg _ (List.fst_mem_of_mem_zipIdx hx)]
  · rw [hb]
    exact btPair_congr _ _ _ _ (by rw [hmu, hmu]) (hs _) (hs _) (hr _) (hr _) (hg' ti hti)
  · rw [hb, hk]
    exact tmPair_congr _ _ _ _ _ _ _ (by rw [hmu, hmu]) (hs _) (hs _) (hr _) (hr _) (hg' ti hti)

end OS
