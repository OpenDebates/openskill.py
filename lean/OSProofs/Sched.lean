/-! Abstract interleaving machine for C14(d). Mathlib-free. -/
namespace Sched

abbrev Loc := Nat
abbrev Val := Int
abbrev Store := Loc → Val

/-- An atomic action: a store transformer with a declared footprint. -/
structure Action where
  reads : List Loc
  writes : List Loc
  run : Store → Store
  /-- frame: locations outside `writes` are untouched -/
  frame : ∀ s l, l ∉ writes → run s l = s l
  /-- the written values depend only on the locations read -/
  dep : ∀ s s', (∀ l, l ∈ reads → s l = s' l) → ∀ l, l ∈ writes → run s l = run s' l

def Action.touches (a : Action) : List Loc := a.reads ++ a.writes

def Indep (a b : Action) : Prop :=
  (∀ l, l ∈ a.writes → l ∉ b.touches) ∧ (∀ l, l ∈ b.writes → l ∉ a.touches)

theorem Indep.symm {a b : Action} (h : Indep a b) : Indep b a := ⟨h.2, h.1⟩

theorem run_run_of_mem_writes (a b : Action) (h : ∀ l, l ∈ b.writes → l ∉ a.touches) (s : Store) {l : Loc}
    (hl : l ∈ a.writes) : a.run (b.run s) l = b.run (a.run s) l := by
  rw [b.frame _ l fun hb => h l hb (List.mem_append_right _ hl)]
  exact a.dep _ _ (fun l' hl' => b.frame s l' fun hb => h l' hb (List.mem_append_left _ hl')) l hl

theorem commute (a b : Action) (h : Indep a b) (s : Store) :
    a.run (b.run s) = b.run (a.run s) := by
  funext l
  by_cases ha : l ∈ a.writes
  · exact run_run_of_mem_writes a b h.2 s ha
  · by_cases hb : l ∈ b.writes
    · exact (run_run_of_mem_writes b a h.1 s hb).symm
    · rw [a.frame _ l ha, b.frame _ l hb, b.frame _ l hb, a.frame _ l ha]

def runAll (as : List Action) (s : Store) : Store := as.foldl (fun s a => a.run s) s

theorem runAll_cons (a : Action) (as : List Action) (s : Store) :
    runAll (a :: as) s = runAll as (a.run s) := rfl

theorem runAll_append (xs ys : List Action) (s : Store) :
    runAll (xs ++ ys) s = runAll ys (runAll xs s) :=
  List.foldl_append

theorem run_past (y : Action) (xs : List Action) (h : ∀ x, x ∈ xs → Indep x y) (s : Store) :
    runAll xs (y.run s) = y.run (runAll xs s) := by
  induction xs generalizing s with
  | nil => rfl
  | cons x xs ih =>
    rw [runAll_cons, runAll_cons, commute x y (h x List.mem_cons_self) s]
    exact ih (fun x' hx' => h x' (List.mem_cons_of_mem _ hx')) (x.run s)

/-- m threads: `Shuffle ths zs` — `zs` is obtained by repeatedly taking the head of some thread -/
inductive Shuffle : List (List Action) → List Action → Prop
  | done {ths} : (∀ t, t ∈ ths → t = []) → Shuffle ths []
  | step {pre post : List (List Action)} {a : Action} {rest zs} :
      Shuffle (pre ++ rest :: post) zs → Shuffle (pre ++ (a :: rest) :: post) (a :: zs)

/-- With independence stated on the list of threads (not on indices) the hypothesis survives removing the head of
one thread, which is the induction step; only thread pairs in list order are needed. -/
theorem shuffle_serial_pairwise {ths : List (List Action)} {zs : List Action} (hs : Shuffle ths zs)
    (h : ths.Pairwise (fun t u => ∀ x, x ∈ t → ∀ y, y ∈ u → Indep x y)) (s : Store) :
    runAll zs s = runAll ths.flatten s := by
  induction hs generalizing s with
  | done hnil => rw [List.flatten_eq_nil_iff.2 hnil]
  | @step pre post a rest zs _ ih =>
    -- independence of two threads is symmetric, so the thread that moves may stand in front of the others
    have symm : ∀ {t u : List Action}, (∀ x ∈ t, ∀ y ∈ u, Indep x y) → ∀ y ∈ u, ∀ x ∈ t, Indep y x :=
      fun h y hy x hx => (h x hx y hy).symm
    rw [List.pairwise_middle symm, List.pairwise_cons] at h
    have h' : (pre ++ rest :: post).Pairwise (fun t u => ∀ x ∈ t, ∀ y ∈ u, Indep x y) := by
      rw [List.pairwise_middle symm, List.pairwise_cons]
      exact ⟨fun u hu x hx => h.1 u hu x (List.mem_cons_of_mem _ hx), h.2⟩
    rw [runAll_cons, ih h' (a.run s)]
    simp only [List.flatten_append, List.flatten_cons, runAll_append, List.cons_append, runAll_cons]
    -- move `a` to the front of its thread, past all of `pre`
    rw [run_past a pre.flatten (fun x hx => ?_) s]
    obtain ⟨t, ht, hxt⟩ := List.mem_flatten.1 hx
    exact (h.1 t (List.mem_append_left _ ht) a List.mem_cons_self x hxt).symm

/-- Any number of threads with pairwise independent actions (across threads): every schedule
gives the same final store as running the threads one after another in list order. -/
theorem shuffle_serial {ths : List (List Action)} {zs : List Action} (hs : Shuffle ths zs)
    (h : ∀ i j (hi : i < ths.length) (hj : j < ths.length), i ≠ j →
          ∀ x, x ∈ ths[i] → ∀ y, y ∈ ths[j] → Indep x y) (s : Store) :
    runAll zs s = runAll ths.flatten s :=
  shuffle_serial_pairwise hs
    (List.pairwise_iff_getElem.2 fun i j hi hj hij => h i j hi hj (Nat.ne_of_lt hij)) s

/-- `Interleave xs ys zs`: `zs` is an interleaving of `xs` and `ys` preserving both orders. -/
inductive Interleave : List Action → List Action → List Action → Prop
  | nil : Interleave [] [] []
  | left {x xs ys zs} : Interleave xs ys zs → Interleave (x :: xs) ys (x :: zs)
  | right {y xs ys zs} : Interleave xs ys zs → Interleave xs (y :: ys) (y :: zs)

theorem Interleave.shuffle {xs ys zs : List Action} (hi : Interleave xs ys zs) : Shuffle [xs, ys] zs := by
  induction hi with
  | nil => exact .done (by simp)
  | left _ ih => exact .step (pre := []) ih
  | right _ ih => exact .step (pre := [_]) ih

/-- Two threads whose actions are pairwise independent: every interleaving equals the serial
execution (first all of `xs`, then all of `ys`) — and by symmetry the other serial order. -/
theorem interleave_serial {xs ys zs : List Action} (hi : Interleave xs ys zs)
    (h : ∀ x, x ∈ xs → ∀ y, y ∈ ys → Indep x y) (s : Store) :
    runAll zs s = runAll (xs ++ ys) s := by
  simpa using shuffle_serial_pairwise hi.shuffle (List.pairwise_pair.2 h) s

theorem Interleave.symm {xs ys zs : List Action} (hi : Interleave xs ys zs) : Interleave ys xs zs := by
  induction hi with
  | nil => exact .nil
  | left _ ih => exact .right ih
  | right _ ih => exact .left ih

theorem interleave_serial' {xs ys zs : List Action} (hi : Interleave xs ys zs)
    (h : ∀ x, x ∈ xs → ∀ y, y ∈ ys → Indep x y) (s : Store) :
    runAll zs s = runAll (ys ++ xs) s :=
  interleave_serial hi.symm (fun y hy x hx => (h x hx y hy).symm) s

end Sched
