import OSProofs.RealInst
import OSProofs.GammaLemmas
import Mathlib.Algebra.BigOperators.Group.List.Basic
import Mathlib.Algebra.BigOperators.Ring.List
/-!
# The gamma callback as an arbitrary function (over ℝ)

* `GammaScaleInv g` — the callback is a pure number: its value is unchanged when `c`, `mu` and every
  player's `mu`, `sigma` are multiplied by `k > 0` and `sigma_squared` by `k²`;
* `GammaShiftInv g` — its value is unchanged when every player's `mu` is moved by `d` and the team
  `mu` by (number of players) · `d`  (the way the origin of the skill scale moves);
* `GammaMuFree g`   — the callback does not read the team `mu` argument (pair-level statements that
  move the team `mu` alone);
* `GammaOK g`       — the callback is non-negative on the arguments the models feed it (`0 ≤ c`,
  `0 ≤ sigma_squared`): what C06 asks of it.

Each holds for the six tagged members (`GammaOK` for a constant one iff its constant is non-negative) and
for the team-reading callback `gammaTeamSigma`.
-/
noncomputable section
namespace OS
open Scalar

def GammaScaleInv (g : GammaFn ℝ) : Prop :=
  ∀ (k : ℝ), 0 < k → ∀ (c : ℝ) (n : Nat) (mu s2 : ℝ) (team : List (Rating ℝ)) (r : Nat),
    gammaVal g (k * c) n (k * mu) (k ^ 2 * s2)
        (team.map (fun p => { p with mu := k * p.mu, sigma := k * p.sigma })) r
      = gammaVal g c n mu s2 team r

def GammaShiftInv (g : GammaFn ℝ) : Prop :=
  ∀ (d c : ℝ) (n : Nat) (mu s2 : ℝ) (team : List (Rating ℝ)) (r : Nat),
    gammaVal g c n (mu + team.length * d) s2 (team.map (fun p => { p with mu := p.mu + d })) r
      = gammaVal g c n mu s2 team r

def GammaMuFree (g : GammaFn ℝ) : Prop :=
  ∀ (c : ℝ) (n : Nat) (mu mu' s2 : ℝ) (team : List (Rating ℝ)) (r : Nat),
    gammaVal g c n mu' s2 team r = gammaVal g c n mu s2 team r

theorem sqrt_scale (k x : ℝ) (hk : 0 < k) : Real.sqrt (k ^ 2 * x) = k * Real.sqrt x := by
  rw [Real.sqrt_mul (sq_nonneg k), Real.sqrt_sq hk.le]

theorem sq_mul_div_sq_scale (k x c : ℝ) (hk : k ≠ 0) : k ^ 2 * x / (k * c * (k * c)) = x / (c * c) := by
  rw [mul_mul_mul_comm, ← pow_two, mul_div_mul_left _ _ (pow_ne_zero 2 hk)]

/-- every gamma of the tagged family is a pure number and reads neither `mu` nor the players -/
theorem gammaVal_scale (g : GammaFn ℝ) (hg : g.Tagged) (k c : ℝ) (hk : 0 < k) (n : Nat) (mu mu' s2 : ℝ)
    (team team' : List (Rating ℝ)) (r : Nat) :
    gammaVal g (k * c) n mu' (k ^ 2 * s2) team' r = gammaVal g c n mu s2 team r := by
  cases g with
  | fn f => exact hg.elim
  | dflt => exact (congrArg (· / (k * c)) (sqrt_scale k s2 hk)).trans (mul_div_mul_left _ _ hk.ne')
  | sq => exact sq_mul_div_sq_scale k s2 c hk.ne'
  | _ => rfl

theorem gammaVal_mu (g : GammaFn ℝ) (hg : g.Tagged) (c : ℝ) (n : Nat) (mu mu' s2 : ℝ)
    (team team' : List (Rating ℝ)) (r : Nat) :
    gammaVal g c n mu' s2 team' r = gammaVal g c n mu s2 team r :=
  gam_tagged_mu_team hg c n mu mu' s2 team team' r

/-- **Change of unit.**  Every tagged member is a pure number. -/
theorem Gamma_tagged_scaleInv (g : GammaFn ℝ) (ht : g.Tagged) : GammaScaleInv g :=
  fun k hk c n mu s2 team r => gammaVal_scale g ht k c hk n mu (k * mu) s2 team _ r

/-- **Change of origin.**  No tagged member reads a `mu`. -/
theorem Gamma_tagged_shiftInv (g : GammaFn ℝ) (ht : g.Tagged) : GammaShiftInv g ∧ GammaMuFree g :=
  ⟨fun _ c n mu s2 team r => gam_tagged_mu_team ht c n mu _ s2 team _ r,
   fun c n mu mu' s2 team r => gam_tagged_mu_team ht c n mu mu' s2 team team r⟩

theorem gam_teamSigma_val (c : ℝ) (k : Nat) (mu s2 : ℝ) (team : List (Rating ℝ)) (r : Nat) :
    gammaVal gammaTeamSigma c k mu s2 team r
      = Real.sqrt ((team.map (fun p => p.sigma * p.sigma)).sum) / c := by
  simp only [gammaTeamSigma, gam_gammaVal_fn, sc_sqrt, sumL_eq_sum]

theorem gam_teamSigma_scaleInv : GammaScaleInv gammaTeamSigma := by
  intro k hk c n mu s2 team r
  simp only [gam_teamSigma_val, List.map_map, Function.comp_def, mul_mul_mul_comm k _ k, ← pow_two k,
    List.sum_map_mul_left, sqrt_scale k _ hk, mul_div_mul_left _ _ hk.ne']

theorem gam_teamSigma_shiftInv : GammaShiftInv gammaTeamSigma := by
  intro d c n mu s2 team r
  rw [gam_teamSigma_val, gam_teamSigma_val, List.map_map]
  rfl

theorem gam_teamSigma_permInv : GammaPermInv (gammaTeamSigma : GammaFn ℝ) := by
  intro c k mu s2 team team' r h
  rw [gam_teamSigma_val, gam_teamSigma_val, (h.map _).sum_eq]

/-- on the arguments `_compute` passes (`s2` is the team's summed variance) the team-reading
callback is the default one -/
theorem gam_teamSigma_eq_dflt (c : ℝ) (k : Nat) (t : TeamAgg ℝ)
    (ht : t.sig2 = sumL (t.players.map (fun p => p.sigma * p.sigma))) :
    GammaAt gammaTeamSigma c k t = GammaAt .dflt c k t := by
  simp only [GammaAt, gammaTeamSigma, gammaVal, ht]

/-- the gamma callback returns a non-negative number whenever it is handed a non-negative
`c` and a non-negative team variance (the only way the five models call it) -/
def GammaOK (g : GammaFn ℝ) : Prop :=
  ∀ (c : ℝ) (k : Nat) (mu s2 : ℝ) (team : List (Rating ℝ)) (r : Nat),
    0 ≤ c → 0 ≤ s2 → 0 ≤ gammaVal g c k mu s2 team r

/-- every callback of the tagged family is non-negative (a constant one iff its constant is) -/
theorem gammaVal_nonneg (g : GammaFn ℝ) (ht : g.Tagged) (hg : ∀ x, g = .const x → 0 ≤ x)
    (c : ℝ) (k : Nat) (mu s2 : ℝ) (team : List (Rating ℝ)) (r : Nat) (hc : 0 ≤ c) (hs : 0 ≤ s2) :
    0 ≤ gammaVal g c k mu s2 team r := by
  -- over ℝ `sqrt` is `Real.sqrt` and `ofNat n` the cast of `n`, by definition
  cases g with
  | fn f => exact ht.elim
  | dflt => exact div_nonneg (Real.sqrt_nonneg _) hc
  | const x => exact hg x rfl
  | invK => exact div_nonneg (Nat.cast_nonneg 1) (Nat.cast_nonneg k)
  | rankDep => exact div_nonneg (Nat.cast_nonneg 1) (Nat.cast_nonneg (r + 1))
  | sq => exact div_nonneg hs (mul_self_nonneg c)
  | zero => exact Nat.cast_nonneg 0

/-- **Non-negativity.**  Every tagged member is non-negative whenever `c ≥ 0` and `σ² ≥ 0` (a
constant one: iff its constant is). -/
theorem Gamma_tagged_nonneg (g : GammaFn ℝ) (ht : g.Tagged) (hc : ∀ x, g = .const x → 0 ≤ x) :
    GammaOK g :=
  fun c k mu s2 team r => gammaVal_nonneg g ht hc c k mu s2 team r

theorem gammaOK_dflt : GammaOK (.dflt : GammaFn ℝ) :=
  Gamma_tagged_nonneg _ trivial fun _ h => nomatch h

/-- an arbitrary callback is `GammaOK` exactly when the function is non-negative for `c, σ² ≥ 0` -/
theorem gam_gammaOK_fn (f : ℝ → Nat → ℝ → ℝ → List (Rating ℝ) → Nat → ℝ) :
    GammaOK (.fn f) ↔ ∀ c k mu s2 team r, 0 ≤ c → 0 ≤ s2 → 0 ≤ f c k mu s2 team r := Iff.rfl

/-- the team-reading callback `sqrt(Σ_team σ²)/c` is non-negative for `c ≥ 0` -/
theorem gam_teamSigma_gammaOK : GammaOK gammaTeamSigma := fun c k mu s2 team r hc _ => by
  rw [gam_teamSigma_val]
  exact div_nonneg (Real.sqrt_nonneg _) hc

end OS
end
