import OSModel
import OSProofs.MonoArith
import OSProofs.PredictLemmas
import OSProofs.MonoLemmas
/-!
# Helper lemmas for FL2: the prediction ranges in every arithmetic with monotone rounding

Everything here is for an arbitrary `α` with `[Scalar α]` and `M : MonoArith α` (no field axioms):
generic facts about `chunk`, differences of two values of Φ, the regrouped averages.
-/
namespace OS
open Scalar

/-! ### scalar-free list facts -/

theorem fl2_chunk_orderedPairs_length {β γ : Type} (l : List β) (f : β × β → γ) :
    ∀ c ∈ chunk (l.length - 1) ((orderedPairs l).map f), c.length = l.length - 1 := by
  apply length_of_mem_chunk
  rw [List.length_map, length_orderedPairs]
  exact Nat.dvd_mul_left _ _

section toolkit
variable {α : Type} [Scalar α] (M : MonoArith α)
include M

theorem fl2_lt_of_le_of_lt {a b c : α} (h1 : a ≤ b) (h2 : b < c) : a < c :=
  M.orderLaws.lt_of_le_of_lt h1 h2

theorem fl2_zero_le_one : (ofNat 0 : α) ≤ ofNat 1 := M.zero_le_one

theorem fl2_one_sub_zero_le : (ofNat 1 - ofNat 0 : α) ≤ ofNat 1 :=
  M.sub_le_self' (M.le_refl' _)

/-! ### the pairwise terms of `predict_draw` -/

/-- term by term: `Φ a − Φ b ≤ 1 − 0 ≤ 1`, and `−(Φ a − Φ b) ≤ −(0 − 1) ≤ 1 − 0 ≤ 1`, the middle step by the
sign symmetry of the computed difference (`neg_sub_le'`) -/
theorem fl2_draw_sum_le {β : Type} (ts : List β) (g h : β × β → α) :
    sabs (sumL ((orderedPairs ts).map (fun ab => Phi (g ab) - Phi (h ab))))
      ≤ ofNat (ts.length * (ts.length - 1)) := by
  have key := M.sabs_sumL_le ((orderedPairs ts).map (fun ab => Phi (g ab) - Phi (h ab)))
    (List.forall_mem_map.2 fun _ _ =>
      M.le_trans' (M.sub_le_sub' (M.Phi_le_one' _) (M.Phi_nonneg' _)) (fl2_one_sub_zero_le M))
    (List.forall_mem_map.2 fun _ _ =>
      M.le_trans' (M.neg_le_neg' (M.sub_le_sub' (M.Phi_nonneg' _) (M.Phi_le_one' _)))
        (M.le_trans' (M.neg_sub_le' _ _) (fl2_one_sub_zero_le M)))
  rwa [List.length_map, length_orderedPairs] at key

/-! ### the regrouped averages `sumL c / (n (n − 1) / 2)` -/

theorem fl2_denom_eq {n : Nat} (hn : 2 ≤ n) :
    ∃ m, n - 1 ≤ m ∧ (ofNat (n * (n - 1)) / ofNat 2 : α) = ofNat m := by
  -- `n (n − 1)` is twice the number `m` of unordered pairs of a list with `n` entries
  have hm := length_unorderedPairs (List.replicate n ())
  rw [List.length_replicate] at hm
  refine ⟨(unorderedPairs (List.replicate n ())).length, Nat.le_of_mul_le_mul_left
    (Nat.le_trans (Nat.mul_le_mul_right (n - 1) hn) (Nat.le_of_eq hm.symm)) Nat.two_pos, ?_⟩
  rw [← hm, Nat.mul_comm]
  exact M.ofNat_mul_div' Nat.two_pos

/-- no hypothesis on `n`: for `n < 2` there is no group -/
theorem chunk_avg_range {β : Type} (n : Nat) (l : List β) (f : β → α)
    (hf : ∀ x, ofNat 0 ≤ f x ∧ f x ≤ ofNat 1) :
    ∀ p ∈ (chunk (n - 1) (l.map f)).map (fun c => sumL c / (ofNat (n * (n - 1)) / ofNat 2)),
      ofNat 0 ≤ p ∧ p ≤ ofNat 1 := by
  intro p hp
  obtain ⟨c, hc, rfl⟩ := List.mem_map.mp hp
  obtain ⟨hk, hlen, hmem⟩ := of_mem_chunk (n - 1) (l.map f) c hc
  have hc01 : ∀ x ∈ c, ofNat 0 ≤ x ∧ x ≤ ofNat 1 := by
    intro x hx
    obtain ⟨y, _, rfl⟩ := List.mem_map.mp (hmem x hx)
    exact hf y
  obtain ⟨m, hle, e⟩ := fl2_denom_eq M (n := n) (by omega)
  have hmpos : (ofNat 0 : α) < ofNat m := M.zero_lt_ofNat (by omega)
  rw [e]
  exact ⟨M.div_nonneg' (M.sumL_nonneg fun x hx => (hc01 x hx).1) hmpos,
    M.div_le_one' (M.le_trans' (M.sumL_le_ofNat_length c fun x hx => (hc01 x hx).2)
      (M.ofNat_le' (Nat.le_trans hlen hle))) hmpos⟩

end toolkit

end OS
