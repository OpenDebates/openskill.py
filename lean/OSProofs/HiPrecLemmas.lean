import OSModel.HiPrec
import Mathlib.Analysis.Real.Sqrt
import Mathlib.Algebra.Order.Floor.Ring
import Mathlib.Tactic.Ring
import Mathlib.Tactic.Linarith
import Mathlib.Tactic.Positivity
import Mathlib.Tactic.FieldSimp
import Mathlib.Tactic.NormNum

/-!
# Real-number meaning of a big float, and truncation toward zero

`BF.toReal`, the predicate `RelTrunc` every rounding step of `OSModel/HiPrec.lean` satisfies,
and the one way a `RelTrunc` is ever established (`RelTrunc.of_sub_le`: the result falls short
of the exact value by less than one unit, and the exact value is at least `2^k` units), with its
integer-division instance `tdiv_relTrunc`.  Nothing here mentions an operation of the evaluator;
those are in `OSProofs/Props/Oracle.lean`.
-/
namespace OS.HP

noncomputable section

/-- real value of a big float: `m · 2^e` (integer power, `e` may be negative) -/
def BF.toReal (x : BF) : ℝ := (x.m : ℝ) * (2 : ℝ) ^ x.e

@[simp] theorem toReal_mk (m e : Int) : (BF.mk m e).toReal = (m : ℝ) * (2 : ℝ) ^ e := rfl

theorem two_zpow_pos (e : Int) : (0 : ℝ) < (2 : ℝ) ^ e := zpow_pos (by norm_num) e

theorem two_zpow_add (a b : Int) : (2 : ℝ) ^ (a + b) = (2 : ℝ) ^ a * (2 : ℝ) ^ b :=
  zpow_add₀ two_ne_zero a b

/-- `y` is `x` truncated toward zero with relative loss at most `ε`:
`y = x·(1-θ)` for some `0 ≤ θ ≤ min ε 1`. -/
def RelTrunc (y x ε : ℝ) : Prop := ∃ θ : ℝ, 0 ≤ θ ∧ θ ≤ ε ∧ θ ≤ 1 ∧ y = x * (1 - θ)

theorem RelTrunc.refl (x : ℝ) {ε : ℝ} (h : 0 ≤ ε) : RelTrunc x x ε :=
  ⟨0, le_refl _, h, zero_le_one, by rw [sub_zero, mul_one]⟩

theorem RelTrunc.mono {y x ε ε' : ℝ} (h : RelTrunc y x ε) (he : ε ≤ ε') : RelTrunc y x ε' := by
  obtain ⟨θ, h0, h1, h2, h3⟩ := h
  exact ⟨θ, h0, h1.trans he, h2, h3⟩

/-- losses compose as `1 - θ = (1 - θ₁)(1 - θ₂)` -/
theorem RelTrunc.trans {z y x ε₁ ε₂ : ℝ} (h₂ : RelTrunc z y ε₂) (h₁ : RelTrunc y x ε₁) :
    RelTrunc z x (ε₁ + ε₂) := by
  obtain ⟨θ₂, a0, a1, a2, a3⟩ := h₂
  obtain ⟨θ₁, b0, b1, b2, b3⟩ := h₁
  have hp := mul_nonneg b0 a0
  have hq := mul_nonneg (sub_nonneg.2 b2) (sub_nonneg.2 a2)
  have hr := mul_nonneg a0 (sub_nonneg.2 b2)
  exact ⟨θ₁ + θ₂ - θ₁ * θ₂, by linarith, by linarith, by linarith, by rw [a3, b3]; ring⟩

theorem RelTrunc.err {y x ε : ℝ} (h : RelTrunc y x ε) : |y - x| ≤ |x| * ε := by
  obtain ⟨θ, h0, h1, _, h3⟩ := h
  have : y - x = -(x * θ) := by rw [h3]; ring
  rw [this, abs_neg, abs_mul, abs_of_nonneg h0]
  exact mul_le_mul_of_nonneg_left h1 (abs_nonneg x)

theorem RelTrunc.abs_le {y x ε : ℝ} (h : RelTrunc y x ε) : |y| ≤ |x| := by
  obtain ⟨θ, h0, _, h2, h3⟩ := h
  rw [h3, abs_mul, abs_of_nonneg (sub_nonneg.2 h2)]
  exact mul_le_of_le_one_right (abs_nonneg x) (sub_le_self 1 h0)

theorem RelTrunc.nonneg {y x ε : ℝ} (h : RelTrunc y x ε) (hx : 0 ≤ x) : 0 ≤ y := by
  obtain ⟨θ, _, _, h2, h3⟩ := h
  rw [h3]; exact mul_nonneg hx (sub_nonneg.2 h2)

theorem RelTrunc.nonpos {y x ε : ℝ} (h : RelTrunc y x ε) (hx : x ≤ 0) : y ≤ 0 := by
  obtain ⟨θ, _, _, h2, h3⟩ := h
  rw [h3]; exact mul_nonpos_of_nonpos_of_nonneg hx (sub_nonneg.2 h2)

theorem RelTrunc.mul_right {y x ε : ℝ} (h : RelTrunc y x ε) (c : ℝ) :
    RelTrunc (y * c) (x * c) ε := by
  obtain ⟨θ, h0, h1, h2, h3⟩ := h
  exact ⟨θ, h0, h1, h2, by rw [h3]; ring⟩

theorem RelTrunc.of_eq {y x y' x' ε : ℝ} (h : RelTrunc y x ε) (hy : y' = y) (hx : x' = x) :
    RelTrunc y' x' ε := hy ▸ hx ▸ h

theorem RelTrunc.neg {y x ε : ℝ} (h : RelTrunc y x ε) : RelTrunc (-y) (-x) ε := by
  simpa only [mul_neg_one] using h.mul_right (-1)

/-- The one way a truncation arises: `y ≤ x` falls short of `x` by at most one unit `δ`,
and `x` is at least `2^k` units. -/
theorem RelTrunc.of_sub_le {y x δ : ℝ} {k : ℕ} (hδ : 0 < δ) (hyx : y ≤ x) (hxy : x - y ≤ δ)
    (hx : 2 ^ k * δ ≤ x) : RelTrunc y x ((2 : ℝ) ^ (-(k : ℤ))) := by
  have hK : (0 : ℝ) < 2 ^ k := pow_pos two_pos k
  have hx0 : 0 < x := (mul_pos hK hδ).trans_le hx
  have h1 : δ ≤ 2 ^ k * δ := le_mul_of_one_le_left hδ.le (one_le_pow₀ one_le_two)
  refine ⟨(x - y) / x, div_nonneg (sub_nonneg.2 hyx) hx0.le, ?_, ?_, ?_⟩
  · rw [zpow_neg, zpow_natCast, div_le_iff₀ hx0, inv_mul_eq_div, le_div_iff₀ hK]
    exact (mul_le_mul_of_nonneg_right hxy hK.le).trans (by rwa [mul_comm])
  · rw [div_le_one hx0]; linarith
  · rw [mul_sub, mul_one, mul_div_cancel₀ _ hx0.ne', sub_sub_cancel]

/-- `Int.tdiv` truncates toward zero: `tdiv m d · d` is `m` truncated, the unit being `|d|`. -/
theorem tdiv_relTrunc {m d : Int} (hd : d ≠ 0) {k : ℕ}
    (h : m ≠ 0 → (2 : ℝ) ^ k * |(d : ℝ)| ≤ |(m : ℝ)|) :
    RelTrunc (((Int.tdiv m d : Int) : ℝ) * (d : ℝ)) (m : ℝ) ((2 : ℝ) ^ (-(k : ℤ))) := by
  -- for `0 ≤ m` this is `m / d * d ≤ m < m / d * d + |d|`; `tdiv (-m) d = -tdiv m d` gives the rest
  have key : ∀ n : Int, 0 < n → (2 : ℝ) ^ k * |(d : ℝ)| ≤ (n : ℝ) →
      RelTrunc (((Int.tdiv n d : Int) : ℝ) * (d : ℝ)) (n : ℝ) ((2 : ℝ) ^ (-(k : ℤ))) := by
    intro n hn hk
    rw [Int.tdiv_eq_ediv_of_nonneg hn.le]
    have e : ((n / d * d : Int) : ℝ) + ((n % d : Int) : ℝ) = (n : ℝ) := by
      exact_mod_cast Int.ediv_mul_add_emod n d
    have r0 : (0 : ℝ) ≤ ((n % d : Int) : ℝ) := by exact_mod_cast Int.emod_nonneg n hd
    have r1 : ((n % d : Int) : ℝ) ≤ |(d : ℝ)| := by exact_mod_cast (Int.emod_lt_abs n hd).le
    rw [← Int.cast_mul]
    exact RelTrunc.of_sub_le (abs_pos.2 (Int.cast_ne_zero.2 hd)) (by linarith) (by linarith) hk
  rcases lt_trichotomy m 0 with hm | rfl | hm
  · have := (key (-m) (neg_pos.2 hm) (by
      rw [Int.cast_neg, ← abs_of_neg (Int.cast_lt_zero.2 hm)]; exact h hm.ne)).neg
    rwa [Int.neg_tdiv, Int.cast_neg, neg_mul, neg_neg, Int.cast_neg, neg_neg] at this
  · rw [Int.zero_tdiv, Int.cast_zero, zero_mul]; exact RelTrunc.refl 0 (two_zpow_pos _).le
  · exact key m hm (by rw [← abs_of_pos (Int.cast_pos.2 hm)]; exact h hm.ne')

end

end OS.HP
