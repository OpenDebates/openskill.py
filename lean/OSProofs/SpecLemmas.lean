import OSProofs.Spec
import OSProofs.WrapBasics
import OSProofs.RealSums

/-!
# Bridging lemmas: list folds in code order  ↔  `Finset` sums over `Fin n`

Bookkeeping used by `OSProofs/Props/C01.lean`: every list the model's `_compute` builds is a
`List.ofFn` over the team index, and `sumL ∘ map ∘ filter` is a filtered `Finset` sum.
-/

noncomputable section
namespace OS
open Finset

section lists
variable {β γ M : Type} [AddCommMonoid M]

-- A read at a `Fin` index is written with its bound, `l[i]'i.2`, in this file: the bound is then not
-- searched for at every occurrence.

theorem zipIdx_map_eq_ofFn (l : List β) (f : β × Nat → γ) :
    l.zipIdx.map f = List.ofFn (fun i : Fin l.length => f (l[i]'i.2, i.1)) := by
  rw [zipIdx_eq_ofFn, List.map_ofFn]
  rfl

theorem sum_filter_map (l : List β) (p : β → Bool) (g : β → M) :
    ((l.filter p).map g).sum = (l.map (fun x => if p x then g x else 0)).sum := by
  induction l with
  | nil => simp
  | cons a l ih => by_cases h : p a <;> simp [h, ih]

theorem sum_filter_map_ofFn {n : ℕ} (f : Fin n → β) (p : β → Bool) (g : β → M) :
    (((List.ofFn f).filter p).map g).sum
      = ∑ q ∈ univ.filter (fun q => p (f q) = true), g (f q) := by
  rw [sum_filter_map, List.map_ofFn, List.sum_ofFn, Finset.sum_filter]
  rfl

theorem sum_filter_map_list (l : List β) (p : β → Bool) (g : β → M) :
    ((l.filter p).map g).sum
      = ∑ q ∈ univ.filter (fun q : Fin l.length => p (l[q]'q.2) = true), g (l[q]'q.2) := by
  rw [sum_filter_map, ← Fin.sum_univ_fun_getElem, Finset.sum_filter]
  rfl

theorem length_filter_list (l : List β) (p : β → Bool) :
    (l.filter p).length = (univ.filter (fun q : Fin l.length => p (l[q]'q.2) = true)).card := by
  rw [Finset.card_eq_sum_ones, ← sum_filter_map_list l p (fun _ => 1), List.map_const',
    List.sum_replicate, smul_eq_mul, mul_one]

end lists

section opponents
variable {β M : Type} [AddCommMonoid M]

/-- full pairing: the loop over `othersOf ts i` is the sum over the positions `q ≠ i` -/
theorem sum_othersOf (l : List β) (i : Fin l.length) (g : β → M) :
    ((othersOf l i.1).map g).sum = ∑ q ∈ univ.filter (fun q : Fin l.length => q ≠ i), g (l[q]'q.2) := by
  unfold othersOf
  rw [List.map_map, zipIdx_eq_ofFn, sum_filter_map_ofFn]
  exact Finset.sum_congr
    (Finset.filter_congr (fun q _ => by simp only [bne_iff_ne, ne_eq, Fin.ext_iff])) (fun _ _ => rfl)

/-- the ladder neighbours of `i`, one by one -/
theorem sum_nbrs {n : ℕ} (i : Fin n) (f : Fin n → M) :
    ∑ q ∈ nbrs i, f q
      = (if h : 0 < i.1 then f ⟨i.1 - 1, by omega⟩ else 0)
        + (if h : i.1 + 1 < n then f ⟨i.1 + 1, h⟩ else 0) := by
  unfold nbrs
  rw [Finset.filter_or, Finset.sum_union (Finset.disjoint_filter.mpr (fun q _ h1 h2 => by omega))]
  congr 1
  · split_ifs with h
    · exact Finset.sum_eq_single_of_mem _ (mem_filter.2 ⟨mem_univ _, Nat.sub_add_cancel h⟩)
        fun q hq hne => absurd (Fin.ext (Nat.eq_sub_of_add_eq (mem_filter.1 hq).2)) hne
    · exact Finset.sum_eq_zero fun q hq => absurd (mem_filter.1 hq).2 (by omega)
  · split_ifs with h
    · exact Finset.sum_eq_single_of_mem _ (mem_filter.2 ⟨mem_univ _, rfl⟩)
        fun q hq hne => absurd (Fin.ext (mem_filter.1 hq).2) hne
    · exact Finset.sum_eq_zero fun q hq => absurd ((mem_filter.1 hq).2 ▸ q.2) h

/-- partial pairing: the loop over `neighboursOf ts i` (left, then right) is the sum over the
positions adjacent to `i` -/
theorem sum_neighboursOf (l : List β) (i : Fin l.length) (g : β → ℝ) :
    ((neighboursOf l i.1).map g).sum = ∑ q ∈ nbrs i, g (l[q]'q.2) := by
  rw [← sumL_eq_sum, sumL_neighboursOf g l i.1 i.2, sum_nbrs]
  rfl

end opponents

section model
/-! ### the five `_compute` bodies, piece by piece -/

/-- the code's `_c` is the published normaliser -/
theorem plC_eq (β : ℝ) (ts : List (TeamAgg ℝ)) : plC β ts = SpecPL.c (gameOf ts) β := by
  unfold plC SpecPL.c
  rw [sumL_eq_sum, ← Fin.sum_univ_fun_getElem]
  simp only [sc_sqrt, gameOf, sq]
  rfl

/-- entry `q` of the code's `_sum_q` is `S_q` -/
theorem plSumQ_entry (β : ℝ) (ts : List (TeamAgg ℝ)) (q : Fin ts.length) :
    fl1_plSum ts (plC β ts) (ts[q]'q.2) = SpecPL.S (gameOf ts) β q := by
  rw [fl1_plSum, sumL_eq_sum, sum_filter_map_list, plC_eq]
  simp only [decide_eq_true_eq, sc_exp]
  rfl

/-- entry `q` of the code's `_a` is `A_q` -/
theorem plA_entry (ts : List (TeamAgg ℝ)) (q : Fin ts.length) :
    fl1_plCnt ts (ts[q]'q.2) = SpecPL.A (gameOf ts) q := by
  rw [fl1_plCnt, length_filter_list]
  exact congrArg Finset.card (Finset.filter_congr fun s _ => decide_eq_true_iff.trans eq_comm)

/-- the rows `enumerate(zip(team_ratings, zip(sum_q, a)))` the Plackett–Luce loop walks over -/
theorem pl_rows (β : ℝ) (ts : List (TeamAgg ℝ)) :
    (ts.zip ((plSumQ ts (plC β ts)).zip (plA ts))).zipIdx
      = List.ofFn (fun q : Fin ts.length =>
          ((ts[q]'q.2, SpecPL.S (gameOf ts) β q, SpecPL.A (gameOf ts) q), q.1)) := by
  rw [fl1_pl_zip, List.zipIdx_map, zipIdx_map_eq_ofFn]
  congr 1
  funext q
  show ((ts[q]'q.2, _, _), q.1) = _
  rw [plSumQ_entry, plA_entry]

theorem plOmegaDelta_eq (g : GammaFn ℝ) (β : ℝ) (ts : List (TeamAgg ℝ)) (i : Fin ts.length) :
    plOmegaDelta g ts (plC β ts) (plSumQ ts (plC β ts)) (plA ts) i.1 (ts[i]'i.2)
      = (SpecPL.Ω (gameOf ts) β i, SpecPL.Δ (gameOf ts) β (gammaOf g ts) i) := by
  unfold plOmegaDelta
  simp only [pl_rows]
  simp only [sumL_eq_sum, sum_filter_map_ofFn, plC_eq]
  simp only [decide_eq_true_eq, sc_ofNat, sc_exp, Nat.cast_one]
  refine congrArg₂ Prod.mk ?_ ?_
  · unfold SpecPL.Ω SpecPL.p SpecPL.e
    rw [mul_comm]
    congr 1
    apply Finset.sum_congr rfl
    intro q _
    by_cases h : q = i
    · rw [if_pos (congrArg Fin.val h), if_pos h]; rfl
    · rw [if_neg (fun h' => h (Fin.ext h')), if_neg h, zero_sub, neg_div]; rfl
  · unfold SpecPL.Δ SpecPL.p SpecPL.e
    rw [sq]
    rfl

/-- **the pairing loops of all four pairwise models, for an arbitrary pair term `pr`**: the list
`_compute` builds (for each enumerated team the two accumulators of the loop over its opponents `sel`)
is, team by team, the pair of `Finset` sums of `pr` over the opponent positions `S i` -/
theorem pairing_eq (ts : List (TeamAgg ℝ)) (pr : TeamAgg ℝ → TeamAgg ℝ → ℝ × ℝ)
    (sel : List (TeamAgg ℝ) → Nat → List (TeamAgg ℝ)) (S : Fin ts.length → Finset (Fin ts.length))
    (hsel : ∀ (i : Fin ts.length) (g : TeamAgg ℝ → ℝ),
      ((sel ts i.1).map g).sum = ∑ q ∈ S i, g (ts[q]'q.2)) :
    ts.zipIdx.map (fun x => sumPairs ((sel ts x.2).map (pr x.1)))
      = List.ofFn (fun i : Fin ts.length =>
          (∑ q ∈ S i, (pr (ts[i]'i.2) (ts[q]'q.2)).1, ∑ q ∈ S i, (pr (ts[i]'i.2) (ts[q]'q.2)).2)) := by
  rw [zipIdx_map_eq_ofFn]
  congr 1
  funext i
  rw [sumPairs_map, hsel, hsel]

theorem pairing_full_eq (ts : List (TeamAgg ℝ)) (pr : TeamAgg ℝ → TeamAgg ℝ → ℝ × ℝ) :
    ts.zipIdx.map (fun x => sumPairs ((othersOf ts x.2).map (pr x.1)))
      = List.ofFn (fun i : Fin ts.length =>
          (∑ q ∈ univ.filter (fun q => q ≠ i), (pr (ts[i]'i.2) (ts[q]'q.2)).1,
           ∑ q ∈ univ.filter (fun q => q ≠ i), (pr (ts[i]'i.2) (ts[q]'q.2)).2)) :=
  pairing_eq ts pr othersOf _ (sum_othersOf ts)

theorem pairing_part_eq (ts : List (TeamAgg ℝ)) (pr : TeamAgg ℝ → TeamAgg ℝ → ℝ × ℝ) :
    ts.zipIdx.map (fun x => sumPairs ((neighboursOf ts x.2).map (pr x.1)))
      = List.ofFn (fun i : Fin ts.length =>
          (∑ q ∈ nbrs i, (pr (ts[i]'i.2) (ts[q]'q.2)).1, ∑ q ∈ nbrs i, (pr (ts[i]'i.2) (ts[q]'q.2)).2)) :=
  pairing_eq ts pr neighboursOf _ (sum_neighboursOf ts)

theorem btPair_eq (β : ℝ) (g : GammaFn ℝ) (ts : List (TeamAgg ℝ)) (i q : Fin ts.length) :
    btPair β g ts.length (ts[i]'i.2) (ts[q]'q.2)
      = (SpecBT.ω (gameOf ts) β i q, SpecBT.δ (gameOf ts) β (gammaOf g ts) i q) := by
  unfold btPair SpecBT.ω SpecBT.δ SpecBT.p SpecBT.s SpecBT.c
  simp only [sc_sqrt, sc_exp, sc_ofNat, Nat.cast_one, Nat.cast_ofNat, Nat.cast_zero, sq]
  simp only [gameOf, gammaOf]
  rw [if_congr Iff.rfl rfl (if_congr (@eq_comm _ (ts[q]'q.2).rank (ts[i]'i.2).rank) rfl rfl)]
  congr 4

theorem tmPair_eq (L : Leaves ℝ) (cmul β κ : ℝ) (g : GammaFn ℝ) (ts : List (TeamAgg ℝ))
    (i q : Fin ts.length) :
    tmPair L cmul β κ g ts.length (ts[i]'i.2) (ts[q]'q.2)
      = (SpecTM.ω (gameOf ts) L cmul β κ i q, SpecTM.δ (gameOf ts) L cmul β κ (gammaOf g ts) i q) := by
  unfold tmPair SpecTM.ω SpecTM.δ SpecTM.x SpecTM.t SpecTM.c
  simp only [sc_sqrt, sc_ofNat, Nat.cast_ofNat, sq, gameOf, gammaOf]
  by_cases h1 : (ts[i]'i.2).rank < (ts[q]'q.2).rank
  · simp only [if_pos h1]
  · by_cases h2 : (ts[q]'q.2).rank < (ts[i]'i.2).rank
    · simp only [if_neg h1, if_pos h2]
    · simp only [if_neg h1, if_neg h2]

/-! `omegaDelta` of the two Thurstone–Mosteller models over ℝ, the multiplier `cmul` as a real literal -/

theorem omegaDelta_TMF (L : Leaves ℝ) (P : Params ℝ) (ts : List (TeamAgg ℝ)) :
    omegaDelta .TMF L P ts = ts.zipIdx.map (fun x =>
      sumPairs ((othersOf ts x.2).map (tmPair L 1 P.beta P.kappa P.gamma ts.length x.1))) := by
  simp only [omegaDelta, sc_one]

theorem omegaDelta_TMP (L : Leaves ℝ) (P : Params ℝ) (ts : List (TeamAgg ℝ)) :
    omegaDelta .TMP L P ts = ts.zipIdx.map (fun x =>
      sumPairs ((neighboursOf ts x.2).map (tmPair L 2 P.beta P.kappa P.gamma ts.length x.1))) := by
  simp only [omegaDelta, sc_ofNat, Nat.cast_ofNat]

theorem zip_ofFn_map {β γ δ : Type} (l : List β) (f : Fin l.length → γ) (g : β × γ → δ) :
    (l.zip (List.ofFn f)).map g = List.ofFn (fun i : Fin l.length => g (l[i]'i.2, f i)) := by
  apply List.ext_getElem <;> simp

/-- `teamAggs_length` over ℝ; the index bound in the statement of `C01_teamAgg_inflate` is proved from it -/
theorem teamAggs_length_real (teams : List (List (Rating ℝ))) (dense : List Nat) :
    (teamAggs teams dense).length = min teams.length dense.length :=
  teamAggs_length teams dense

end model

end OS
end
