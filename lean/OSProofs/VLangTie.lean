import OSModel
import OSProofs.ValidateLemmas
/-!
# The validation code, as a program of the embedded statement language, computes the model's verdicts

`canonCheckTeams` / `canonRateHead` are the translation (tools/py2lean.py) of `_check_teams` and of the head of `rate` as they stand in
the pinned tree; the five model files give the same program.  The two theorems say that running the program with the semantics `exec`
of `OSModel/VLang.lean` yields exactly `checkTeams` / `validateRate` — for every model kind and EVERY argument triple of dynamic values.
`OSProofs/GenValTie.lean` (generated from the current source on every run) applies them to the freshly translated programs via `rfl`.
-/
namespace OS
namespace VLangTie

def canonCheckTeams : VStmt :=
  (.ite (.isList "teams") (.seq (.ite (.lenLt "teams" 2) (.raise .ValueError) .pass) (.forIn "team" "teams" (.ite (.isList "team") (.seq (.ite (.lenLt "team" 1) (.raise .ValueError) .pass) (.forIn "player" "team" (.ite (.isOwnRating "player") .pass (.raise .TypeError)))) (.raise .TypeError)))) (.raise .TypeError))

def canonRateHead : VStmt :=
  (.seq (.seq (.ite (.isList "teams") (.seq (.ite (.lenLt "teams" 2) (.raise .ValueError) .pass) (.forIn "team" "teams" (.ite (.isList "team") (.seq (.ite (.lenLt "team" 1) (.raise .ValueError) .pass) (.forIn "player" "team" (.ite (.isOwnRating "player") .pass (.raise .TypeError)))) (.raise .TypeError)))) (.raise .TypeError)) (.ite (.truthy "ranks") (.seq (.ite (.isList "ranks") (.seq (.ite (.lenNe "ranks" "teams") (.raise .ValueError) .pass) (.forIn "rank" "ranks" (.ite (.isNumber "rank") .pass (.raise .TypeError)))) (.raise .TypeError)) (.ite (.truthy "scores") (.raise .ValueError) .pass)) .pass)) (.ite (.truthy "scores") (.ite (.isList "scores") (.seq (.ite (.lenNe "scores" "teams") (.raise .ValueError) .pass) (.forIn "score" "scores" (.ite (.isNumber "score") .pass (.raise .TypeError)))) (.raise .TypeError)) .pass))

theorem get_hd (x : String) (v : PyVal) (env : VEnv) : VEnv.get ((x, v) :: env) x = v := by
  simp [VEnv.get, List.find?]

theorem evalTest_lenLt {k : Kind} {env : VEnv} {x : String} {n : Nat} {xs : List PyVal} (h : env.get x = .list xs) :
    evalTest k env (.lenLt x n) = .ok (decide (xs.length < n)) := by
  rw [evalTest, h]; rfl

/-- `if not c: raise TypeError` -/
def okProg (c : VTest) : VStmt := .ite c .pass (.raise .TypeError)

theorem exec_okProg {k : Kind} {env : VEnv} {c : VTest} {b : Bool} (h : evalTest k env c = .ok b) :
    exec k (okProg c) env = okIf b := by
  rw [okProg, exec, h]; cases b <;> rfl

/-- `if isinstance(x, list): (if c: raise ValueError); for v in x: body` / `else: raise TypeError`: the code's three checks of a
container are written in this shape -/
def listProg (x : String) (c : VTest) (v : String) (body : VStmt) : VStmt :=
  .ite (.isList x) (.seq (.ite c (.raise .ValueError) .pass) (.forIn v x body)) (.raise .TypeError)

theorem exec_listProg {k : Kind} {env : VEnv} {x v : String} {c : VTest} {body : VStmt} {bad : Nat → Prop} [DecidablePred bad]
    {f : PyVal → Except PyExc Unit} (hc : ∀ xs, env.get x = .list xs → evalTest k env c = .ok (decide (bad xs.length)))
    (hbody : ∀ y, exec k body ((v, y) :: env) = f y) :
    exec k (listProg x c v body) env = checkList bad (execFor f) (env.get x) := by
  simp only [listProg, exec, evalTest]
  cases h : env.get x <;> simp only [checkList]
  case list xs =>
    simp only [hc xs h, PyVal.elems?, hbody]
    by_cases hb : bad xs.length <;> simp [hb]

theorem canonCheckTeams_eq : canonCheckTeams =
    listProg "teams" (.lenLt "teams" 2) "team" (listProg "team" (.lenLt "team" 1) "player" (okProg (.isOwnRating "player"))) := rfl

theorem exec_teamsProg (k : Kind) (env : VEnv) : exec k canonCheckTeams env = checkTeams k (env.get "teams") := by
  rw [canonCheckTeams_eq, checkTeams_eq, checkTeamList_eq]
  refine exec_listProg (fun _ => evalTest_lenLt) (fun t => ?_)
  rw [checkTeam, checkPlayers_eq]
  refine (exec_listProg (fun _ => evalTest_lenLt) (fun p => exec_okProg ?_)).trans (by rw [get_hd])
  rw [evalTest, get_hd]

def selProg (name var : String) : VStmt := listProg name (.lenNe name "teams") var (okProg (.isNumber var))

theorem exec_selProg {k : Kind} {env : VEnv} (name var : String) {ts : List PyVal} (ht : env.get "teams" = .list ts) :
    exec k (selProg name var) env = checkList (· != ts.length) checkNumbers (env.get name) := by
  rw [checkNumbers_eq]
  refine exec_listProg (fun xs h => ?_) (fun x => exec_okProg (by rw [evalTest, get_hd]))
  rw [evalTest, h, ht, Bool.decide_eq_true]; rfl

theorem canonRateHead_eq : canonRateHead =
    .seq (.seq canonCheckTeams
            (.ite (.truthy "ranks")
              (.seq (selProg "ranks" "rank") (.ite (.truthy "scores") (.raise .ValueError) .pass))
              .pass))
         (.ite (.truthy "scores") (selProg "scores" "score") .pass) := rfl

section
variable (t r s : PyVal)
theorem env_teams : VEnv.get [("teams", t), ("ranks", r), ("scores", s)] "teams" = t := rfl
theorem env_ranks : VEnv.get [("teams", t), ("ranks", r), ("scores", s)] "ranks" = r := rfl
theorem env_scores : VEnv.get [("teams", t), ("ranks", r), ("scores", s)] "scores" = s := rfl
end

/-- `_check_teams` as written = `checkTeams` of the model -/
theorem exec_checkTeams (k : Kind) (p : VStmt) (h : p = canonCheckTeams) (t : PyVal) :
    exec k p [("teams", t)] = checkTeams k t := by
  subst h
  rw [exec_teamsProg, get_hd]

/-- the validation head of `rate` as written = `validateRate` of the model -/
theorem exec_rateHead (k : Kind) (p : VStmt) (h : p = canonRateHead) (t r s : PyVal) :
    exec k p [("teams", t), ("ranks", r), ("scores", s)] = validateRate k t r s := by
  subst h
  rw [canonRateHead_eq]
  simp only [exec, exec_teamsProg, evalTest, env_teams, env_ranks, env_scores, validateRate]
  cases hct : checkTeams k t with
  | error e => rfl
  | ok u =>
    rw [checkTeams_eq] at hct
    obtain ⟨ts, rfl, -⟩ := checkList_ok_iff.1 hct
    simp only [exec_selProg _ _ (env_teams _ _ _), env_ranks, env_scores, checkSelector_eq, teamCount]
    generalize checkList (· != ts.length) checkNumbers r = A
    generalize checkList (· != ts.length) checkNumbers s = B
    -- both sides are now the same decision on (`ranks` given?, the verdict `A` on `ranks`, `scores` given?), nested differently
    cases r.truthy <;> cases s.truthy <;> rcases A with _ | ⟨⟨⟩⟩ <;> rfl

end VLangTie
end OS
