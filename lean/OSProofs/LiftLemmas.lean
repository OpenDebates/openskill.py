import OSProofs.SortLemmas
import OSProofs.Props.C02
import OSProofs.Props.C03
import OSProofs.Props.C05b

/-!
# From `_compute` to `rate`  (C05d, C07b)

`rate` = tau inflation → stable sort by the rank values → dense ranks → `_compute` → un-sort →
optional clamp.  Three facts carry a statement about `_compute` through this wrapper:

* the un-sort is a permutation of the list of pairs (input team, result team)
  (`lft_unsort_zip_perm`), so sums over the teams do not see the sort;
* at sorted position `k` sit the team and the key of one original position `tenet[k]`
  (`lft_sorted_pos`), and the dense ranks at two sorted positions compare as the rank values at the
  two original positions do (`lft_dense_iff`);
* the inflation and the clamp never touch a mu (`lft_rateCore_of_raw`, `lft_clamp_zip`).
-/

noncomputable section
namespace OS
open Scalar

/-- the variance of a team after the tau inflation: `Σ_j (σ_j² + τ²)` -/
def teamVar (τ : ℝ) (team : List (Rating ℝ)) : ℝ :=
  (team.map (fun p => p.sigma ^ 2 + τ ^ 2)).sum

theorem teamVar_nonneg (τ : ℝ) (team : List (Rating ℝ)) : 0 ≤ teamVar τ team :=
  sum_map_nonneg team _ fun p _ => by positivity

/-! ### sums over the teams do not see the sort -/

section generic
variable {κ β γ δ : Type}

/-- **the un-sort is a permutation of (input, result) pairs.**  Sort `teams` by `ranks`, let `C` be
any list computed in sorted order, sort `C` back by the tenet: pairing every ORIGINAL team with the
entry that comes back to its position gives the same pairs as pairing every SORTED team with its
entry of `C` — in another order. -/
theorem lft_unsort_zip_perm (le : κ → κ → Bool) (ranks : List κ) (teams : List β) (C : List γ)
    (hlen : ranks.length = teams.length) (hC : C.length = teams.length) :
    (teams.zip (unwind leNat (unwind le ranks teams).2 C).1).Perm
      ((unwind le ranks teams).1.zip C) := by
  have h := unwind_roundtrip_zip le ranks teams C Prod.mk hlen hC
  rw [← List.zip_eq_zipWith, ← List.zip_eq_zipWith] at h
  rw [← h]
  exact unwind_fst_perm _ _ _ (by simp [hlen, hC])

theorem map_zip_zipWith_right {f : γ → β → γ} {g : β × γ → δ}
    (hg : ∀ a b, g (a, f b a) = g (a, b)) (l : List β) (r : List γ) :
    (l.zip (List.zipWith f r l)).map g = (l.zip r).map g := by
  induction l generalizing r with
  | nil => rfl
  | cons a l ih =>
    cases r with
    | nil => rfl
    | cons b r => simp only [List.zipWith_cons_cons, List.zip_cons_cons, List.map_cons, hg, ih]

end generic

/-- the summand of `C07_compute` for the aggregate of an inflated team and its result `T`, in the
caller's terms -/
theorem lft_summand (τ : ℝ) (S T : List (Rating ℝ)) (r : Nat) :
    ((T.zip (teamAgg (S.map (inflPlayer τ)) r).players).map (fun y => y.1.mu - y.2.mu)).sum
        / (teamAgg (S.map (inflPlayer τ)) r).sig2
      = ((S.zip T).map (fun pq => pq.2.mu - pq.1.mu)).sum / teamVar τ S := by
  rw [teamAgg_inflPlayer]
  -- the denominators are equal by definition of `teamVar`
  congr 2
  show (T.zip (S.map _)).map _ = _
  rw [List.zip_map_right, ← List.zip_swap S T, List.map_map, List.map_map]
  rfl

/-- the form in which `C07_compute` is stated, team by team in the caller's terms -/
theorem lft_zip_teamAggs (τ : ℝ) (S : List (List (Rating ℝ))) (d : List Nat)
    (C : List (List (Rating ℝ))) (h : S.length ≤ d.length) :
    (C.zip (teamAggs (inflate τ S) d)).map (fun x =>
        ((x.1.zip x.2.players).map (fun y => y.1.mu - y.2.mu)).sum / x.2.sig2)
      = (S.zip C).map (fun tr =>
          ((tr.1.zip tr.2).map (fun pq => pq.2.mu - pq.1.mu)).sum / teamVar τ tr.1) := by
  induction S generalizing d C with
  | nil => simp [inflate, teamAggs]
  | cons s S ih =>
    cases d with
    | nil => simp at h
    | cons r d =>
      cases C with
      | nil => simp
      | cons c C =>
        have ih' := ih d C (by simpa using h)
        simp only [inflate, teamAggs, List.map_cons, List.zip_cons_cons] at ih' ⊢
        rw [ih']
        exact congrArg (· :: _) (lft_summand τ s c r)

/-- the precision-weighted mu change does not see the clamp (no hypothesis on the shapes) -/
theorem lft_clamp_zip {ρ : Type} (K : Kind) (L : Leaves ℝ) (P : Params ℝ) (le : ρ → ρ → Bool)
    (teams : List (List (Rating ℝ))) (ranks : Option (List ρ)) (o : CallOpts ℝ) :
    (teams.zip (rateCore K L P le teams ranks o)).map (fun tr =>
        ((tr.1.zip tr.2).map (fun pq => pq.2.mu - pq.1.mu)).sum / teamVar (resolveTau P o) tr.1)
      = (teams.zip (rateRaw K L P le (resolveTau P o) teams ranks)).map (fun tr =>
        ((tr.1.zip tr.2).map (fun pq => pq.2.mu - pq.1.mu)).sum / teamVar (resolveTau P o) tr.1) := by
  rw [rateCore_eq_clamp_rateRaw]
  split
  · rw [clampTeams_eq_zipWith_clampPlayer]
    refine map_zip_zipWith_right (fun S T => ?_) teams _
    show ((S.zip (List.zipWith clampPlayer T S)).map _).sum / _ = _
    rw [map_zip_zipWith_right (fun p q => by rw [clampPlayer_mu]) S T]
  · rfl

/-- **the `limit_sigma` clamp keeps every mu**: if the result has the shape of the original teams,
the clamped result has, slot by slot, the mu of the unclamped one. -/
theorem lft_clamp_mu (orig res : List (List (Rating ℝ)))
    (h : List.Forall₂ (fun a b => a.length = b.length) orig res) :
    List.Forall₂ (List.Forall₂ (fun q q' => q'.mu = q.mu)) res (clampTeams orig res) := by
  rw [clampTeams_eq_zipWith_clampPlayer]
  induction h with
  | nil => exact List.Forall₂.nil
  | cons hab _ ih =>
    refine List.Forall₂.cons (List.forall₂_iff_get.2 ⟨by simp [hab], fun j _ _ => ?_⟩) ih
    simp only [List.get_eq_getElem, List.getElem_zipWith, clampPlayer_mu]

/-- **the sort, the un-sort, the inflation and the clamp are invisible to the precision-weighted
mu change.**  Pure rearrangement: no positivity, no hypothesis on the model. -/
theorem lft_rate_sum_eq {ρ : Type} (K : Kind) (L : Leaves ℝ) (P : Params ℝ) (le : ρ → ρ → Bool)
    (teams : List (List (Rating ℝ))) (ranks : Option (List ρ)) (o : CallOpts ℝ)
    (hr : ∀ r, ranks = some r → r.length = teams.length) :
    ((teams.zip (rateCore K L P le teams ranks o)).map (fun tr =>
        ((tr.1.zip tr.2).map (fun pq => pq.2.mu - pq.1.mu)).sum
          / teamVar (resolveTau P o) tr.1)).sum
      = (((computeOn K L P (prepared P le teams ranks o)).zip (prepared P le teams ranks o)).map
          (fun x => ((x.1.zip x.2.players).map (fun y => y.1.mu - y.2.mu)).sum / x.2.sig2)).sum := by
  rw [lft_clamp_zip]
  cases ranks with
  | none => exact (congrArg List.sum (lft_zip_teamAggs _ teams _ _ (by simp))).symm
  | some r =>
    have hrl := hr r rfl
    -- sorting the inflated teams is inflating the sorted teams
    have e : unwind le r (inflate (resolveTau P o) teams)
        = (inflate (resolveTau P o) (unwind le r teams).1, (unwind le r teams).2) :=
      unwind_map le r teams _
    simp only [rateRaw, prepared, e]
    rw [← compute_eq_computeOn, lft_zip_teamAggs _ _ _ _ (by simp [hrl])]
    exact ((lft_unsort_zip_perm le r teams _ hrl (by simp [hrl])).map _).sum_eq

theorem lft_prepared_pos {ρ : Type} (P : Params ℝ) (le : ρ → ρ → Bool)
    (teams : List (List (Rating ℝ))) (ranks : Option (List ρ)) (o : CallOpts ℝ)
    (hs : ∀ team ∈ teams, teamVar (resolveTau P o) team ≠ 0) :
    ∀ t ∈ prepared P le teams ranks o, 0 < t.sig2 := by
  intro t ht
  obtain ⟨S, hS, r, rfl⟩ := mem_prepared ht
  obtain ⟨S₀, hS₀, rfl⟩ := mem_inflate hS
  rw [teamAgg_inflPlayer]
  exact lt_of_le_of_ne (teamVar_nonneg _ _) (Ne.symm (hs S₀ hS₀))

/-! ### the sorted keys are the keys of the sorted teams -/

section sortedpos
variable {κ β : Type}

/-- at sorted position `k` sit the original index `t = tenet[k]`, the object `objs[t]` and the key
`r[t]` of one and the same original position -/
theorem lft_sorted_pos (le : κ → κ → Bool) (r : List κ) (objs : List β)
    (hlen : r.length = objs.length) (k : Nat) (hk : k < objs.length) :
    ∃ (t : Nat) (ht : t < objs.length), ((unwind le r objs).2)[k]? = some t ∧
      ((unwind le r objs).1)[k]? = some objs[t] ∧
      (sortedKeys le r)[k]? = some (r[t]'(hlen ▸ ht)) := by
  have hkS : k < ((unwind le r objs).2).length := by simp [hlen, hk]
  obtain ⟨ht, h2, h3⟩ := unwind_slot_of_tenet le r objs hlen k _ (List.getElem?_eq_getElem hkS)
  exact ⟨_, ht, List.getElem?_eq_getElem hkS, h2, h3⟩

variable {ρ : Type}

/-- **dense ranks in the caller's terms.**  If sorted positions `k`, `q` hold the teams of original
positions `a`, `b`, then `dense[k] < dense[q]` iff rank value `r[a]` is strictly smaller than
`r[b]`, and `dense[k] = dense[q]` iff the two rank values are tied. -/
theorem lft_dense_iff (le : ρ → ρ → Bool)
    (total : ∀ a b, (le a b || le b a) = true)
    (trans : ∀ a b c, le a b = true → le b c = true → le a c = true)
    (r : List ρ) (objs : List β) (hlen : r.length = objs.length)
    (k q a b : Nat) (ha : a < r.length) (hb : b < r.length)
    (hk : ((unwind le r objs).2)[k]? = some a) (hq : ((unwind le r objs).2)[q]? = some b) :
    ∃ (hk' : k < (denseRanks (fun a b => !le b a) (sortedKeys le r)).length)
      (hq' : q < (denseRanks (fun a b => !le b a) (sortedKeys le r)).length),
      ((denseRanks (fun a b => !le b a) (sortedKeys le r))[k]
          < (denseRanks (fun a b => !le b a) (sortedKeys le r))[q] ↔ le r[b] r[a] = false) ∧
      ((denseRanks (fun a b => !le b a) (sortedKeys le r))[k]
          = (denseRanks (fun a b => !le b a) (sortedKeys le r))[q]
        ↔ (le r[a] r[b] = true ∧ le r[b] r[a] = true)) := by
  obtain ⟨_, -, hsa⟩ := unwind_slot_of_tenet le r objs hlen k a hk
  obtain ⟨_, -, hsb⟩ := unwind_slot_of_tenet le r objs hlen q b hq
  obtain ⟨hks, e1⟩ := List.getElem?_eq_some_iff.1 hsa
  obtain ⟨hqs, e2⟩ := List.getElem?_eq_some_iff.1 hsb
  have hsorted := sortedKeys_sorted le total trans r
  refine ⟨by rwa [length_denseRanks], by rwa [length_denseRanks], ?_, ?_⟩
  · rw [C03_strict le total trans _ hsorted k q hks hqs, e1, e2]
    simp
  · rw [C03_ties le total trans _ hsorted k q hks hqs, e1, e2]

end sortedpos

/-! ### a strictly best (worst) rank value gets a strictly smallest (largest) dense rank -/

section sole
variable {ρ β : Type}

/-- the sorted position `k` of the team at original position `i`: every other sorted position `q`
holds another original position `b`, and the dense ranks at `k`, `q` compare as the rank values at
`i`, `b` do -/
theorem lft_dense_of_pos (le : ρ → ρ → Bool)
    (total : ∀ a b, (le a b || le b a) = true)
    (trans : ∀ a b c, le a b = true → le b c = true → le a c = true)
    (r : List ρ) (objs : List β) (hlen : r.length = objs.length) (i : Nat) (hi : i < r.length) :
    ∃ k, k < objs.length ∧ ((unwind le r objs).2)[k]? = some i ∧
      ∃ hk : k < (denseRanks (fun a b => !le b a) (sortedKeys le r)).length,
      ∀ (q : Nat) (hq : q < (denseRanks (fun a b => !le b a) (sortedKeys le r)).length), q ≠ k →
        ∃ (b : Nat) (hb : b < r.length), b ≠ i ∧
          ((denseRanks (fun a b => !le b a) (sortedKeys le r))[k]
            < (denseRanks (fun a b => !le b a) (sortedKeys le r))[q] ↔ le r[b] r[i] = false) ∧
          ((denseRanks (fun a b => !le b a) (sortedKeys le r))[q]
            < (denseRanks (fun a b => !le b a) (sortedKeys le r))[k] ↔ le r[i] r[b] = false) := by
  obtain ⟨k, hkn, hk⟩ := unwind_tenet_pos le r objs hlen i (hlen ▸ hi)
  refine ⟨k, hkn, hk, by simp [hlen, hkn], fun q hq hne => ?_⟩
  obtain ⟨b, hb, hqb, -, -⟩ := lft_sorted_pos le r objs hlen q (by simpa [hlen] using hq)
  have hb' : b < r.length := hlen ▸ hb
  obtain ⟨_, _, h1, -⟩ := lft_dense_iff le total trans r objs hlen k q i b hi hb' hk hqb
  obtain ⟨_, _, h2, -⟩ := lft_dense_iff le total trans r objs hlen q k b i hb' hi hqb hk
  exact ⟨b, hb', fun e => hne (unwind_tenet_inj le r objs hlen q k i (e ▸ hqb) hk), h1, h2⟩

/-- **sole first.**  If the rank value of original position `i` is strictly smaller than every other
rank value, the sorted position `k` that holds team `i` has a dense rank strictly smaller than every
other dense rank. -/
theorem lft_sole_first_dense (le : ρ → ρ → Bool)
    (total : ∀ a b, (le a b || le b a) = true)
    (trans : ∀ a b c, le a b = true → le b c = true → le a c = true)
    (r : List ρ) (objs : List β) (hlen : r.length = objs.length) (i : Nat) (hi : i < r.length)
    (hfirst : ∀ (q : Nat) (hq : q < r.length), q ≠ i → le r[q] r[i] = false) :
    ∃ k, k < objs.length ∧ ((unwind le r objs).2)[k]? = some i ∧
      ∃ hk : k < (denseRanks (fun a b => !le b a) (sortedKeys le r)).length,
      ∀ (q : Nat) (hq : q < (denseRanks (fun a b => !le b a) (sortedKeys le r)).length), q ≠ k →
        (denseRanks (fun a b => !le b a) (sortedKeys le r))[k]
          < (denseRanks (fun a b => !le b a) (sortedKeys le r))[q] := by
  obtain ⟨k, hkn, hk, hkd, h⟩ := lft_dense_of_pos le total trans r objs hlen i hi
  refine ⟨k, hkn, hk, hkd, fun q hq hne => ?_⟩
  obtain ⟨b, hb, hbi, h1, -⟩ := h q hq hne
  exact h1.2 (hfirst b hb hbi)

/-- **sole last.**  If the rank value of original position `i` is strictly larger than every other
rank value, the sorted position `k` that holds team `i` has a dense rank strictly larger than every
other dense rank. -/
theorem lft_sole_last_dense (le : ρ → ρ → Bool)
    (total : ∀ a b, (le a b || le b a) = true)
    (trans : ∀ a b c, le a b = true → le b c = true → le a c = true)
    (r : List ρ) (objs : List β) (hlen : r.length = objs.length) (i : Nat) (hi : i < r.length)
    (hlast : ∀ (q : Nat) (hq : q < r.length), q ≠ i → le r[i] r[q] = false) :
    ∃ k, k < objs.length ∧ ((unwind le r objs).2)[k]? = some i ∧
      ∃ hk : k < (denseRanks (fun a b => !le b a) (sortedKeys le r)).length,
      ∀ (q : Nat) (hq : q < (denseRanks (fun a b => !le b a) (sortedKeys le r)).length), q ≠ k →
        (denseRanks (fun a b => !le b a) (sortedKeys le r))[q]
          < (denseRanks (fun a b => !le b a) (sortedKeys le r))[k] := by
  obtain ⟨k, hkn, hk, hkd, h⟩ := lft_dense_of_pos le total trans r objs hlen i hi
  refine ⟨k, hkn, hk, hkd, fun q hq hne => ?_⟩
  obtain ⟨b, hb, hbi, -, h2⟩ := h q hq hne
  exact h2.2 (hlast b hb hbi)

end sole

/-! ### transfer of a mu-relation from a sorted slot of `_compute` to the caller's slot of `rate` -/

/-- **the inflation of the input and the clamp of the result are invisible to a relation on mu**:
from slot `i` before the clamp against the inflated team `i`, to slot `i` of `rateCore` against the
caller's team `i` -/
theorem lft_rateCore_of_raw {ρ : Type} (K : Kind) (L : Leaves ℝ) (P : Params ℝ)
    (le : ρ → ρ → Bool) (teams : List (List (Rating ℝ))) (ranks : Option (List ρ))
    (o : CallOpts ℝ) (Rel : ℝ → ℝ → Prop) (i : Nat) (hi : i < teams.length)
    (S T : List (Rating ℝ)) (hS : (inflate (resolveTau P o) teams)[i]? = some S)
    (hT : (rateRaw K L P le (resolveTau P o) teams ranks)[i]? = some T)
    (h : List.Forall₂ (fun p p' => Rel p.mu p'.mu) S T) :
    ∃ T', (rateCore K L P le teams ranks o)[i]? = some T' ∧
      List.Forall₂ (fun p p' => Rel p.mu p'.mu) teams[i] T' := by
  rw [inflate_eq_map_inflPlayer, List.getElem?_map, List.getElem?_eq_getElem hi] at hS
  obtain rfl := Option.some.inj hS
  rw [List.forall₂_map_left_iff] at h
  rw [rateCore_eq_clamp_rateRaw]
  split
  · refine ⟨_, ?_, (forall₂_zipWith_right clampPlayer h).imp fun p q ⟨q₀, hr, e⟩ => ?_⟩
    · rw [clampTeams_eq_zipWith_clampPlayer, List.getElem?_zipWith, hT,
        List.getElem?_eq_getElem hi]
    · rw [e, clampPlayer_mu]
      exact hr
  · exact ⟨T, hT, h⟩

/-- **slot transfer.**  If sorted position `k` holds the team of original position `i`
(`tenet[k] = i`) and a relation on mu holds, member by member, between the `k`-th sorted inflated
team and the `k`-th team `_compute` returns, then it holds between the caller's `teams[i]` and
slot `i` of the result of `rateCore` (un-sorted, clamped or not). -/
theorem lft_rateCore_slot {ρ : Type} (K : Kind) (L : Leaves ℝ) (P : Params ℝ)
    (le : ρ → ρ → Bool) (teams : List (List (Rating ℝ))) (r : List ρ) (o : CallOpts ℝ)
    (hlen : r.length = teams.length) (Rel : ℝ → ℝ → Prop) (i k : Nat) (hi : i < teams.length)
    (hk : ((unwind le r (inflate (resolveTau P o) teams)).2)[k]? = some i)
    (S T : List (Rating ℝ))
    (hS : ((unwind le r (inflate (resolveTau P o) teams)).1)[k]? = some S)
    (hT : (compute K L P (unwind le r (inflate (resolveTau P o) teams)).1
            (denseRanks (fun a b => !le b a) (sortedKeys le r)))[k]? = some T)
    (h : List.Forall₂ (fun p p' => Rel p.mu p'.mu) S T) :
    ∃ T', (rateCore K L P le teams (some r) o)[i]? = some T' ∧
      List.Forall₂ (fun p p' => Rel p.mu p'.mu) teams[i] T' := by
  have hrl : r.length = (inflate (resolveTau P o) teams).length := by rw [inflate_length, hlen]
  obtain ⟨h1, h2⟩ := unwind_roundtrip_slot le r (inflate (resolveTau P o) teams)
    (compute K L P (unwind le r (inflate (resolveTau P o) teams)).1
      (denseRanks (fun a b => !le b a) (sortedKeys le r))) hrl (by simp [hrl]) k i hk
  exact lft_rateCore_of_raw K L P le teams (some r) o Rel i hi S T (h2.trans hS) (h1.trans hT) h

/-- `rate` returns one team per input team -/
theorem lft_rate_length {ρ : Type} (K : Kind) (L : Leaves ℝ) (P : Params ℝ) (le : ρ → ρ → Bool)
    (neg : ρ → ρ) (teams : List (List (Rating ℝ))) (oc : Outcome ρ) (o : CallOpts ℝ)
    (hoc : oc.fits teams.length) :
    (rate K L P le neg teams oc o).length = teams.length := by
  rw [rate_eq_rateCore]
  exact rateCore_length K L P le teams _ o (lft_fits neg oc _ hoc)

/-! ### sole first / sole last: `rateCore` -/

section rateCoreSole
variable {ρ : Type}

/-- **sole first / sole last, from `_compute` to `rateCore`.**  The team whose rank value is strictly best
(worst) sits at one sorted position `k`, and there its dense rank is strictly smallest (largest):
`lft_sole_first_dense`, `lft_sole_last_dense`.  At `k`, `compute_sole` says that no member loses (gains) mu;
`lft_rateCore_slot` carries that back to slot `i` of the result. -/
theorem lft_rateCore_sole (K : Kind) (L : Leaves ℝ)
    (hL : K = .TMF ∨ K = .TMP → LeafFacts L) (P : Params ℝ) (le : ρ → ρ → Bool)
    (total : ∀ a b, (le a b || le b a) = true)
    (trans : ∀ a b c, le a b = true → le b c = true → le a c = true)
    (teams : List (List (Rating ℝ))) (r : List ρ) (o : CallOpts ℝ)
    (hlen : r.length = teams.length) (i : Nat) (hi : i < teams.length) :
    ((∀ (q : Nat) (hq : q < teams.length), q ≠ i →
        le (r[q]'(hlen ▸ hq)) (r[i]'(hlen ▸ hi)) = false) →
      ∃ T', (rateCore K L P le teams (some r) o)[i]? = some T' ∧
        List.Forall₂ (fun p p' => p.mu ≤ p'.mu) teams[i] T') ∧
    ((∀ (q : Nat) (hq : q < teams.length), q ≠ i →
        le (r[i]'(hlen ▸ hi)) (r[q]'(hlen ▸ hq)) = false) →
      ∃ T', (rateCore K L P le teams (some r) o)[i]? = some T' ∧
        List.Forall₂ (fun p p' => p'.mu ≤ p.mu) teams[i] T') := by
  have hrl : r.length = (inflate (resolveTau P o) teams).length := by rw [inflate_length, hlen]
  have hsd : (denseRanks (fun a b => !le b a) (sortedKeys le r)).length
      = ((unwind le r (inflate (resolveTau P o) teams)).1).length := by simp [hrl]
  constructor
  · intro hfirst
    obtain ⟨k, -, hk, hkd, hdense⟩ := lft_sole_first_dense le total trans r
      (inflate (resolveTau P o) teams) hrl i (hlen ▸ hi) (fun q hq => hfirst q (hlen ▸ hq))
    exact lft_rateCore_slot K L P le teams r o hlen (· ≤ ·) i k hi hk _ _
      (List.getElem?_eq_getElem (hsd ▸ hkd))
      (List.getElem?_eq_getElem (compute_lt (hsd ▸ hkd) hkd))
      ((compute_sole K L hL P _ _ hsd k (hsd ▸ hkd)).1 hdense)
  · intro hlast
    obtain ⟨k, -, hk, hkd, hdense⟩ := lft_sole_last_dense le total trans r
      (inflate (resolveTau P o) teams) hrl i (hlen ▸ hi) (fun q hq => hlast q (hlen ▸ hq))
    exact lft_rateCore_slot K L P le teams r o hlen (fun a b => b ≤ a) i k hi hk _ _
      (List.getElem?_eq_getElem (hsd ▸ hkd))
      (List.getElem?_eq_getElem (compute_lt (hsd ▸ hkd) hkd))
      ((compute_sole K L hL P _ _ hsd k (hsd ▸ hkd)).2 hdense)

end rateCoreSole

/-! ### ties in `prepared`, in the caller's terms -/

/-- **`prepared`, position by position.**  Sorted position `k` holds the aggregate of the inflated
team of some original position `t` (the `k`-th entry of the tenet), with the `k`-th dense rank. -/
theorem prepared_getElem {ρ : Type} (P : Params ℝ) (le : ρ → ρ → Bool) (teams : List (List (Rating ℝ)))
    (r : List ρ) (o : CallOpts ℝ) (hlen : r.length = teams.length) (k : Nat)
    (hk : k < (prepared P le teams (some r) o).length) :
    ∃ (t : Nat) (ht : t < teams.length)
      (hd : k < (denseRanks (fun a b => !le b a) (sortedKeys le r)).length),
      ((unwind le r (inflate (resolveTau P o) teams)).2)[k]? = some t ∧
      (prepared P le teams (some r) o)[k]
        = teamAgg (teams[t].map (inflPlayer (resolveTau P o)))
            (denseRanks (fun a b => !le b a) (sortedKeys le r))[k] := by
  have hkn : k < teams.length :=
    prepared_length P le teams (some r) o (fun _ h => by cases h; exact hlen) ▸ hk
  have hil : r.length = (inflate (resolveTau P o) teams).length := by rw [inflate_length, hlen]
  have hd : k < (denseRanks (fun a b => !le b a) (sortedKeys le r)).length := by
    simp [hlen, hkn]
  obtain ⟨t, ht, h1, h2, -⟩ := lft_sorted_pos le r (inflate (resolveTau P o) teams) hil k
    (by rw [inflate_length]; exact hkn)
  obtain ⟨hs, e⟩ := List.getElem?_eq_some_iff.1 h2
  refine ⟨t, inflate_length (resolveTau P o) teams ▸ ht, hd, h1,
    (teamAggs_getElem _ _ k hs hd).trans ?_⟩
  rw [e]
  simp only [inflate_eq_map_inflPlayer, List.getElem_map]

/-- **ties in `prepared` are ties of the caller's rank values.**  Two different entries of
`prepared` with the same (dense) rank are the aggregates of two different teams `a ≠ b` of the
caller whose rank values are tied, and their `mu` is the total mu of those teams.  With the
outcome omitted there are no such entries. -/
theorem lft_prepared_tie {ρ : Type} (P : Params ℝ) (le : ρ → ρ → Bool)
    (total : ∀ a b, (le a b || le b a) = true)
    (trans : ∀ a b c, le a b = true → le b c = true → le a c = true)
    (teams : List (List (Rating ℝ))) (ranks : Option (List ρ)) (o : CallOpts ℝ)
    (hr : ∀ r, ranks = some r → r.length = teams.length)
    (i q : Nat) (hi : i < (prepared P le teams ranks o).length)
    (hq : q < (prepared P le teams ranks o).length) (hiq : i ≠ q)
    (hrank : (prepared P le teams ranks o)[i].rank = (prepared P le teams ranks o)[q].rank) :
    ∃ r, ranks = some r ∧ ∃ (a b : Nat) (ha : a < teams.length) (hb : b < teams.length)
      (ha' : a < r.length) (hb' : b < r.length), a ≠ b ∧
      le r[a] r[b] = true ∧ le r[b] r[a] = true ∧
      (prepared P le teams ranks o)[i].mu = (teams[a].map (·.mu)).sum ∧
      (prepared P le teams ranks o)[q].mu = (teams[b].map (·.mu)).sum := by
  cases ranks with
  | none =>
    -- the dense ranks are the positions
    exfalso
    have hn := prepared_length P le teams none o hr
    have e : ∀ (k : Nat) (hk : k < (prepared P le teams none o).length),
        (prepared P le teams none o)[k].rank = k := fun k hk =>
      (congrArg TeamAgg.rank (teamAggs_getElem _ _ k (by simpa [hn] using hk)
        (by simpa [hn] using hk))).trans (List.getElem_range _)
    rw [e i hi, e q hq] at hrank
    exact hiq hrank
  | some r =>
    have hlen := hr r rfl
    have hil : r.length = (inflate (resolveTau P o) teams).length := by rw [inflate_length, hlen]
    obtain ⟨a, ha, hdi, hta, ea⟩ := prepared_getElem P le teams r o hlen i hi
    obtain ⟨b, hb, hdq, htb, eb⟩ := prepared_getElem P le teams r o hlen q hq
    rw [ea, eb] at hrank ⊢
    obtain ⟨_, _, -, h2⟩ := lft_dense_iff le total trans r _ hil i q a b (hlen ▸ ha) (hlen ▸ hb)
      hta htb
    have htie := h2.1 hrank
    exact ⟨r, rfl, a, b, ha, hb, hlen ▸ ha, hlen ▸ hb,
      fun e => hiq (unwind_tenet_inj le r _ hil i q a hta (e ▸ htb)), htie.1, htie.2,
      congrArg TeamAgg.mu (teamAgg_inflPlayer _ _ _),
      congrArg TeamAgg.mu (teamAgg_inflPlayer _ _ _)⟩

end OS
end
