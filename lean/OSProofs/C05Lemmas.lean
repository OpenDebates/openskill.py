import OSProofs.PairLemmas
import OSProofs.RealSums
import Mathlib.Tactic.Ring
import Mathlib.Tactic.FieldSimp
/-!
# Helper lemmas for C05b (game-level direction of learning)

* `omegaDelta` and `compute` position by position
* the logistic and the Plackett–Luce probability of a pair against `1/2`; for two teams the
  Plackett–Luce normaliser and probability are the Bradley–Terry ones (`plC_two`, `plP_pairC`)
* the pair term of a team against itself
-/
noncomputable section
namespace OS

/-! ### `omegaDelta` position by position -/

variable (L : Leaves ℝ) (P : Params ℝ) (ts : List (TeamAgg ℝ))

theorem omegaDelta_lt {K : Kind} {i : Nat} (hi : i < ts.length) :
    i < (omegaDelta K L P ts).length := by rw [omegaDelta_length]; exact hi

theorem omegaDelta_getElem (K : Kind) (i : Nat) (hi : i < ts.length) :
    (omegaDelta K L P ts)[i]'(omegaDelta_lt L P ts hi) = fl1_od K L P ts (ts[i], i) := by
  have h := omegaDelta_getElem? K L P ts i
  rw [List.getElem?_eq_getElem (omegaDelta_lt L P ts hi), List.getElem?_eq_getElem hi] at h
  exact Option.some.inj h

/-! ### two-team games -/

/-- the index bound inside `omegaTwo`: `omegaDelta_lt` at a two-team list -/
theorem two_lt (K : Kind) (L : Leaves ℝ) (P : Params ℝ) (a b : TeamAgg ℝ) :
    0 < (omegaDelta K L P [a, b]).length := by
  rw [omegaDelta_length]
  exact Nat.zero_lt_two

/-- the Plackett–Luce probability that `a` comes first of `[a, b]` -/
def plP (c : ℝ) (a b : TeamAgg ℝ) : ℝ :=
  Real.exp (a.mu / c) / (Real.exp (a.mu / c) + Real.exp (b.mu / c))

theorem btP_ge_half (β : ℝ) (ti tq : TeamAgg ℝ) (h : tq.mu ≤ ti.mu) : 1 / 2 ≤ btP β ti tq :=
  not_lt.1 fun hlt => not_lt.2 (div_nonpos_of_nonpos_of_nonneg (sub_nonpos.2 h) (pairC_nonneg _ _ _))
    (logistic_lt_half_iff.1 hlt)

theorem btP_le_half (β : ℝ) (ti tq : TeamAgg ℝ) (h : ti.mu ≤ tq.mu) : btP β ti tq ≤ 1 / 2 :=
  logistic_le_half_iff.2 (div_nonneg (sub_nonneg.2 h) (pairC_nonneg _ _ _))

theorem btP_gt_half (β : ℝ) (ti tq : TeamAgg ℝ) (hc : 0 < pairC β ti tq) (h : tq.mu < ti.mu) :
    1 / 2 < btP β ti tq :=
  not_le.1 fun hle => not_le.2 (div_neg_of_neg_of_pos (sub_neg.2 h) hc) (logistic_le_half_iff.1 hle)

theorem btP_lt_half (β : ℝ) (ti tq : TeamAgg ℝ) (hc : 0 < pairC β ti tq) (h : ti.mu < tq.mu) :
    btP β ti tq < 1 / 2 :=
  logistic_lt_half_iff.2 (div_pos (sub_pos.2 h) hc)

theorem btP_eq_half (β : ℝ) {ti tq : TeamAgg ℝ} (h : ti.mu = tq.mu) : btP β ti tq = 1 / 2 := by
  unfold btP
  rw [h, sub_self, zero_div, Real.exp_zero, one_add_one_eq_two]

theorem plC_two (β : ℝ) (a b : TeamAgg ℝ) : plC β [a, b] = pairC β a b := by
  simp only [plC, pairC, List.map_cons, List.map_nil, sumL_pair, sc_sqrt]
  congr 1
  ring

theorem plP_pairC (β : ℝ) (a b : TeamAgg ℝ) : plP (pairC β a b) a b = btP β a b := by
  have ha := Real.exp_pos (a.mu / pairC β a b)
  unfold plP btP
  rw [sub_div, Real.exp_sub]
  field_simp

theorem plP_rank (c : ℝ) (a b : TeamAgg ℝ) (ra rb : Nat) :
    plP c { a with rank := ra } { b with rank := rb } = plP c a b := rfl

theorem share_nonneg (p : Rating ℝ) {s : ℝ} (hs : 0 ≤ s) : 0 ≤ p.sigma * p.sigma / s :=
  div_nonneg (mul_self_nonneg _) hs

/-! ### `compute` position by position -/

theorem compute_lt {K : Kind} {L : Leaves ℝ} {P : Params ℝ} {teams : List (List (Rating ℝ))}
    {dense : List Nat} {i : Nat} (h1 : i < teams.length) (h2 : i < dense.length) :
    i < (compute K L P teams dense).length := by
  rw [compute_length]
  exact Nat.lt_min.2 ⟨h1, h2⟩

theorem compute_getElem (K : Kind) (L : Leaves ℝ) (P : Params ℝ) (teams : List (List (Rating ℝ)))
    (dense : List Nat) (i : Nat) (h1 : i < teams.length) (h2 : i < dense.length) :
    (compute K L P teams dense)[i]'(compute_lt h1 h2) =
      applyTeam P.kappa ((teamAggs teams dense)[i]'(by rw [teamAggs_length]; omega))
        ((omegaDelta K L P (teamAggs teams dense))[i]'(by
          rw [omegaDelta_length, teamAggs_length]; omega)).1
        ((omegaDelta K L P (teamAggs teams dense))[i]'(by
          rw [omegaDelta_length, teamAggs_length]; omega)).2 := by
  simp only [compute, List.getElem_map, List.getElem_zip]

/-! ### the pair term of a team against itself (what full pairing leaves out) -/

theorem btPair_fst_self (β : ℝ) (g : GammaFn ℝ) (n : Nat) (ti : TeamAgg ℝ) :
    (btPair β g n ti ti).1 = 0 := by
  rw [btPair_fst, byOutcome_draw rfl, btP_eq_half β rfl, sub_self, mul_zero]

theorem tmPair_fst_self_twin (L : Leaves ℝ) (cmul β κ : ℝ) (g : GammaFn ℝ) (n : Nat)
    (ti tk : TeamAgg ℝ) (hsig : ti.sig2 = tk.sig2) :
    (tmPair L cmul β κ g n tk tk).1 = (tmPair L cmul β κ g n ti ti).1 := by
  rw [tmPair_fst, tmPair_fst, byOutcome_draw rfl, byOutcome_draw rfl,
    pairC_congr β hsig.symm hsig.symm, ← hsig, sub_self, sub_self]

end OS
end
