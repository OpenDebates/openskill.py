import OSModel
import OSProofs.MonoArith
import OSProofs.FL1Lemmas
import OSProofs.TwoTeamLemmas

/-!
# The two-team chain in every `MonoArith α`: the lemmas

The two-team `ω` of Bradley–Terry, Plackett–Luce and Thurstone–Mosteller (explicit terms:
`OSProofs/TwoTeamLemmas.lean`) in their order `ω_loss ≤ ω_draw ≤ ω_win`, `ω_loss ≤ 0 ≤ ω_win`, the laws
beyond `MonoArith` that this needs, and the lift of a chain of `ω` to every member's posterior mu.
-/

namespace OS
open Scalar
variable {α : Type} [Scalar α]

/-! ### the order laws beyond `MonoArith` that the chain needs

`MonoArith` has `mul_le_mul'` only for non-negative factors.  The draw `ω` of a two-team game can have
either sign, so the chain `ω_loss ≤ ω_draw` compares two products whose second factors are both `≤ 0`: that
is a law of its own.  It is *not* derivable from `MonoArith`: the laws of `MonoArith` constrain `a * x` for
`0 < a`, `x < 0` only by `a * x ≤ 0`, so redefining the product on that quadrant as any non-monotone
non-positive function gives a model of `MonoArith` in which the law fails.  It holds in ℝ and in every
"exact, then monotone rounding" arithmetic (`Props/FL3Inst.lean`). -/

/-- `0 ≤ a`, `x ≤ y ≤ 0` ⟹ `a * x ≤ a * y` (used by Bradley–Terry `s2c * (s − p)`, Thurstone–Mosteller and
by the per-player `share * ω`) -/
def MulLeftMonoNonpos (α : Type) [Scalar α] : Prop :=
  ∀ a x y : α, 𝟘 ≤ a → x ≤ y → y ≤ 𝟘 → a * x ≤ a * y

/-- `0 ≤ a`, `x ≤ y ≤ 0` ⟹ `x * a ≤ y * a` (used by Plackett–Luce `Σ… * (σ²/c)`; there is no
commutativity) -/
def MulRightMonoNonpos (α : Type) [Scalar α] : Prop :=
  ∀ a x y : α, 𝟘 ≤ a → x ≤ y → y ≤ 𝟘 → x * a ≤ y * a

/-- `0 ≤ a` ⟹ `a / 2 ≤ a / 1` (Plackett–Luce: `A_q = 2` for the tie, `1` otherwise).  Follows from
"division by 1 is exact" (`fl3_halfLeOne_of_div_one`) and from "division is antitone in a positive divisor"
(`fl3_halfLeOne_of_antitone`); `MonoArith` has neither (`div_le_self'` gives `a / 1 ≤ a` only). -/
def HalfLeOne (α : Type) [Scalar α] : Prop :=
  ∀ a : α, 𝟘 ≤ a → a / ofNat 2 ≤ a / ofNat 1

/-- `(−a) * b ≤ a * (−b)` (Thurstone–Mosteller: the loss term is `(−s2c) * v(−x, t)`); an equality in every
sign-symmetric arithmetic -/
def NegMulLe (α : Type) [Scalar α] : Prop :=
  ∀ a b : α, (-a) * b ≤ a * (-b)

/-- the four laws beyond `MonoArith` that the two-team chain uses; `ChainLaws.real`, `ChainLaws.rn` -/
structure ChainLaws (α : Type) [Scalar α] : Prop where
  mulL : MulLeftMonoNonpos α
  mulR : MulRightMonoNonpos α
  half : HalfLeOne α
  negMul : NegMulLe α

namespace MonoArith
variable (M : MonoArith α)
include M

theorem fl3_halfLeOne_of_div_one (h : ∀ a : α, a / ofNat 1 = a) : HalfLeOne α := by
  intro a ha
  rw [h a]
  exact M.div_le_self' ha (M.ofNat_le' (by decide))

omit M in
theorem fl3_halfLeOne_of_antitone
    (h : ∀ a b c : α, 𝟘 ≤ a → 𝟘 < c → c ≤ b → a / b ≤ a / c) (M : MonoArith α) : HalfLeOne α :=
  fun a ha => h a _ _ ha M.zero_lt_one (M.ofNat_le' (by decide))

/-- `a * ·` is monotone for `a ≥ 0` on all of `α`: `mul_le_mul'` where both arguments are `≥ 0`, the signs of
the two products where they lie on either side of `0`, the extra law where both are `≤ 0` -/
theorem mul_le_mul_of_nonneg_left (hL : MulLeftMonoNonpos α) {a x y : α} (ha : 𝟘 ≤ a) (h : x ≤ y) :
    a * x ≤ a * y := by
  rcases M.le_total' 𝟘 x with hx | hx
  · exact M.mul_le_mul' ha (M.le_refl' a) hx h
  · rcases M.le_total' 𝟘 y with hy | hy
    · exact M.le_trans' (M.mul_nonpos_right' ha hx) (M.mul_nonneg' ha hy)
    · exact hL a x y ha h hy

theorem mul_le_mul_of_nonneg_right (hR : MulRightMonoNonpos α) {a x y : α} (ha : 𝟘 ≤ a) (h : x ≤ y) :
    x * a ≤ y * a := by
  rcases M.le_total' 𝟘 x with hx | hx
  · exact M.mul_le_mul' hx h ha (M.le_refl' a)
  · rcases M.le_total' 𝟘 y with hy | hy
    · exact M.le_trans' (M.mul_nonpos_left' hx ha) (M.mul_nonneg' hy ha)
    · exact hR a x y ha h hy

end MonoArith

/-! ### chains -/

/-- the order of three computed values of one quantity after a loss, a draw, a win:
`loss ≤ draw`, `draw ≤ win`, `loss ≤ 0`, `0 ≤ win`, in this order -/
def FL3Chain (lo dr wi : α) : Prop := lo ≤ dr ∧ dr ≤ wi ∧ lo ≤ 𝟘 ∧ 𝟘 ≤ wi

/-- **What the chain needs of the leaves, at the two arguments the pair is evaluated at**: with
`x = (μ_i − μ_q)/c`, `t = κ/c`: `v(x,t) ≥ 0`, `v(−x,t) ≥ 0`, and `−v(−x,t) ≤ vt(x,t) ≤ v(x,t)`
(for the exact functions: `E[Z | Z < −t−x] ≤ E[Z | −t−x < Z < t−x] ≤ E[Z | Z > t−x]`). -/
structure LeavesChainAt (L : Leaves α) (x t : α) : Prop where
  v_nonneg : 𝟘 ≤ L.v x t
  v_neg_nonneg : 𝟘 ≤ L.v (-x) t
  vt_le_v : L.vt x t ≤ L.v x t
  neg_v_le_vt : -(L.v (-x) t) ≤ L.vt x t

namespace MonoArith
variable (M : MonoArith α)
include M

/-- the one-term sums `0 + term` that `sumPairs` forms for a two-team game keep a chain -/
theorem fl3_chain_singleton {lo dr wi : α} (h : FL3Chain lo dr wi) :
    FL3Chain (sumL [lo]) (sumL [dr]) (sumL [wi]) :=
  have ⟨hld, hdw, hlo, hwi⟩ := h
  ⟨M.sumL_singleton_mono hld, M.sumL_singleton_mono hdw,
   M.add_nonpos' (M.le_refl' _) hlo, M.add_nonneg' (M.le_refl' _) hwi⟩

/-- two-term sums times a weight `w ≥ 0`, in both orders of summation (there is no commutativity): a term
`a ≤ 0 ≤ a' ≤ a''` and a term `b ≤ b' ≤ 0`, the second one absent from the last sum -/
theorem fl3_sumL_chain (hR : MulRightMonoNonpos α) {a a' a'' b b' w : α} (ha : a ≤ 𝟘)
    (ha' : 𝟘 ≤ a') (haa : a' ≤ a'') (hb : b ≤ b') (hb' : b' ≤ 𝟘) (hw : 𝟘 ≤ w) :
    FL3Chain (sumL [a, b] * w) (sumL [a', b'] * w) (sumL [a''] * w)
    ∧ FL3Chain (sumL [b, a] * w) (sumL [b', a'] * w) (sumL [a''] * w) := by
  have h0 : (𝟘 : α) ≤ 𝟘 := M.le_refl' _
  have haa' : a ≤ a' := M.le_trans' ha ha'
  have hwin : 𝟘 ≤ sumL [a''] * w :=
    M.mul_nonneg' (M.add_nonneg' h0 (M.le_trans' ha' haa)) hw
  refine ⟨⟨M.mul_le_mul_of_nonneg_right hR hw ?_, M.mul_le_mul_of_nonneg_right hR hw ?_, ?_, hwin⟩,
    ⟨M.mul_le_mul_of_nonneg_right hR hw ?_, M.mul_le_mul_of_nonneg_right hR hw ?_, ?_, hwin⟩⟩
  · exact M.add_le_add' (M.add_le_add' h0 haa') hb
  · exact M.le_trans' (M.add_le_right' hb') (M.sumL_singleton_mono haa)
  · exact M.mul_nonpos_left' (M.add_nonpos' (M.add_nonpos' h0 ha) (M.le_trans' hb hb')) hw
  · exact M.add_le_add' (M.add_le_add' h0 hb) haa'
  · exact M.le_trans' (M.add_le_left' (M.add_nonpos' h0 hb'))
      (M.le_trans' haa (M.le_sumL_singleton a''))
  · exact M.mul_nonpos_left' (M.add_nonpos' (M.add_nonpos' h0 (M.le_trans' hb hb')) ha) hw

/-- **Plackett–Luce, both teams** (own term first: team 0; own term last: team 1): with `p = e/S ∈ [0,1]`
(`0 < e ≤ S`), `q = e/(0+e) ≥ 1`, `w ≥ 0` the own term is `(1−q)/1 ≤ 0 ≤ (1−p)/2 ≤ (1−p)/1`, the other
term `−(p/1) ≤ −(p/2) ≤ 0` -/
theorem fl3_pl_chain (hR : MulRightMonoNonpos α) (hH : HalfLeOne α) {e S w : α}
    (he : 𝟘 < e) (hle : e ≤ S) (hw : 𝟘 ≤ w) :
    FL3Chain (sumL [(𝟙 - e / sumL [e]) / ofNat 1, -(e / S / ofNat 1)] * w)
        (sumL [(𝟙 - e / S) / ofNat 2, -(e / S / ofNat 2)] * w) (sumL [(𝟙 - e / S) / ofNat 1] * w)
    ∧ FL3Chain (sumL [-(e / S / ofNat 1), (𝟙 - e / sumL [e]) / ofNat 1] * w)
        (sumL [-(e / S / ofNat 2), (𝟙 - e / S) / ofNat 2] * w) (sumL [(𝟙 - e / S) / ofNat 1] * w) :=
  have hS := M.orderLaws.lt_of_lt_of_le he hle
  have hp : 𝟘 ≤ e / S := M.div_nonneg' (M.orderLaws.le_of_lt he) hS
  have hx : 𝟘 ≤ 𝟙 - e / S := M.sub_nonneg' (M.div_le_one' hle hS)
  have h2 : (𝟘 : α) < ofNat 2 := M.zero_lt_ofNat (by decide)
  M.fl3_sumL_chain hR
    (M.div_nonpos' (M.sub_nonpos' (M.one_le_div_sumL_singleton he)) M.zero_lt_one)
    (M.div_nonneg' hx h2) (hH _ hx) (M.neg_le_neg' (hH _ hp)) (M.neg_nonpos' (M.div_nonneg' hp h2)) hw

end MonoArith

/-! ### the two-team `ω` of `omegaDelta` -/

/-- team 0's `ω` in the two-team game `[t0 with rank r0, t1 with rank r1]` -/
def FL3_omega0 (K : Kind) (L : Leaves α) (P : Params α) (t0 t1 : TeamAgg α) (r0 r1 : Nat) : α :=
  (fl1_od K L P [fl3_wr t0 r0, fl3_wr t1 r1] (fl3_wr t0 r0, 0)).1

/-- team 1's `ω` in the two-team game `[t0 with rank r0, t1 with rank r1]` -/
def FL3_omega1 (K : Kind) (L : Leaves α) (P : Params α) (t0 t1 : TeamAgg α) (r0 r1 : Nat) : α :=
  (fl1_od K L P [fl3_wr t0 r0, fl3_wr t1 r1] (fl3_wr t1 r1, 1)).1

theorem fl3_omega0_BT (K : Kind) (hK : K = .BTF ∨ K = .BTP) (L : Leaves α) (P : Params α)
    (t0 t1 : TeamAgg α) (r0 r1 : Nat) :
    FL3_omega0 K L P t0 t1 r0 r1
      = sumL [(btPair P.beta P.gamma 2 (fl3_wr t0 r0) (fl3_wr t1 r1)).1] := by
  rcases hK with rfl | rfl <;> rfl

theorem fl3_omega0_TM (K : Kind) (hK : K = .TMF ∨ K = .TMP) (L : Leaves α) (P : Params α)
    (t0 t1 : TeamAgg α) (r0 r1 : Nat) :
    FL3_omega0 K L P t0 t1 r0 r1
      = sumL [(tmPair L (fl3_cmul K) P.beta P.kappa P.gamma 2 (fl3_wr t0 r0) (fl3_wr t1 r1)).1] := by
  rcases hK with rfl | rfl <;> rfl

/-- for the pairwise models team 1 of `[t0, t1]` is team 0 of `[t1, t0]`: a pair term reads the two teams
and the number of teams.  (Not so for Plackett–Luce: the sums run in list order.) -/
theorem fl3_omega1_swap {K : Kind} (hK : K ≠ .PL) (L : Leaves α) (P : Params α)
    (t0 t1 : TeamAgg α) (r0 r1 : Nat) :
    FL3_omega1 K L P t0 t1 r0 r1 = FL3_omega0 K L P t1 t0 r1 r0 := by
  cases K with
  | PL => exact absurd rfl hK
  | BTF => rfl
  | BTP => rfl
  | TMF => rfl
  | TMP => rfl

theorem fl3_omega0_PL (L : Leaves α) (P : Params α) (t0 t1 : TeamAgg α) (r0 r1 : Nat) :
    FL3_omega0 .PL L P t0 t1 r0 r1
      = (plOmegaDelta P.gamma [fl3_wr t0 r0, fl3_wr t1 r1] (plC P.beta [t0, t1])
          (plSumQ [fl3_wr t0 r0, fl3_wr t1 r1] (plC P.beta [t0, t1]))
          (plA [fl3_wr t0 r0, fl3_wr t1 r1]) 0 (fl3_wr t0 r0)).1 := rfl

theorem fl3_omega1_PL (L : Leaves α) (P : Params α) (t0 t1 : TeamAgg α) (r0 r1 : Nat) :
    FL3_omega1 .PL L P t0 t1 r0 r1
      = (plOmegaDelta P.gamma [fl3_wr t0 r0, fl3_wr t1 r1] (plC P.beta [t0, t1])
          (plSumQ [fl3_wr t0 r0, fl3_wr t1 r1] (plC P.beta [t0, t1]))
          (plA [fl3_wr t0 r0, fl3_wr t1 r1]) 1 (fl3_wr t1 r1)).1 := rfl

/-! ### lifting the chain through `applyTeam` and `compute` -/

/-- what the chain says about one player: `p` the prior, `pl`, `pd`, `pw` the posteriors after a loss, a
draw, a win of the player's team -/
def FL3MuChain (p pl pd pw : Rating α) : Prop :=
  pl.id = p.id ∧ pd.id = p.id ∧ pw.id = p.id
  ∧ pl.mu ≤ pd.mu ∧ pd.mu ≤ pw.mu ∧ pl.mu ≤ p.mu ∧ p.mu ≤ pw.mu

/-- the two-team chain for a whole team: `T` the prior ratings, `Tl`, `Td`, `Tw` the posterior lists -/
def FL3TeamChain (T Tl Td Tw : List (Rating α)) : Prop :=
  ∀ (j : Nat) (p : Rating α), T[j]? = some p → ∃ pl pd pw, Tl[j]? = some pl ∧ Td[j]? = some pd ∧ Tw[j]? = some pw
    ∧ FL3MuChain p pl pd pw

/-- `mu + share·ω` is monotone in `ω` (`share = σ·σ/Σσ² ≥ 0`) -/
theorem MonoArith.fl3_team_chain (M : MonoArith α) (hL : MulLeftMonoNonpos α) {kappa sig2 : α}
    (hs : 𝟘 < sig2) {ol od ow : α} (h : FL3Chain ol od ow) (dl dd dw : α) (T : List (Rating α)) :
    FL3TeamChain T (T.map (fl1_upd kappa sig2 ol dl)) (T.map (fl1_upd kappa sig2 od dd))
      (T.map (fl1_upd kappa sig2 ow dw)) := by
  obtain ⟨h1, h2, h3, h4⟩ := h
  intro j p hj
  have hsh := M.fl1_share_nonneg p.sigma sig2 hs
  have hslot : ∀ o d, (T.map (fl1_upd kappa sig2 o d))[j]? = some (fl1_upd kappa sig2 o d p) :=
    fun o d => by rw [List.getElem?_map, hj, Option.map_some]
  exact ⟨_, _, _, hslot ol dl, hslot od dd, hslot ow dw, rfl, rfl, rfl,
    M.add_le_add' (M.le_refl' _) (M.mul_le_mul_of_nonneg_left hL hsh h1),
    M.add_le_add' (M.le_refl' _) (M.mul_le_mul_of_nonneg_left hL hsh h2),
    M.fl1_upd_mu_le p hs h3, M.fl1_upd_mu_ge p hs h4⟩

/-- `applyTeam` does not read the rank; the right-hand side names the variance with rank `0` so that it is
the same term under the three rank vectors of `fl3_compute_chain` -/
theorem fl3_applyTeam_teamAgg (kappa : α) (T : List (Rating α)) (r : Nat) (omega delta : α) :
    applyTeam kappa (teamAgg T r) omega delta
      = T.map (fl1_upd kappa (teamAgg T 0).sig2 omega delta) := rfl

/-- **a chain of team `i`'s `ω` under three rank vectors is a chain of every member's posterior mu**, for
any number of teams: slot `i` of `compute` is `applyTeam` of team `i` with its `ω`, and `mu + share·ω` is
monotone in `ω` -/
theorem MonoArith.fl3_compute_chain (M : MonoArith α) (hL : MulLeftMonoNonpos α) (K : Kind)
    (L : Leaves α) (P : Params α) (teams : List (List (Rating α))) (i : Nat) (T : List (Rating α))
    (hT : teams[i]? = some T) (hv : 𝟘 < (teamAgg T 0).sig2) {dl dd dw : List Nat} {rl rd rw : Nat}
    (hl : dl[i]? = some rl) (hd : dd[i]? = some rd) (hw : dw[i]? = some rw)
    (h : FL3Chain (fl1_od K L P (teamAggs teams dl) (teamAgg T rl, i)).1
      (fl1_od K L P (teamAggs teams dd) (teamAgg T rd, i)).1
      (fl1_od K L P (teamAggs teams dw) (teamAgg T rw, i)).1) :
    ∃ Tl Td Tw, (compute K L P teams dl)[i]? = some Tl ∧ (compute K L P teams dd)[i]? = some Td
      ∧ (compute K L P teams dw)[i]? = some Tw ∧ FL3TeamChain T Tl Td Tw := by
  refine ⟨_, _, _, compute_getElem? K L P teams dl i hT hl,
    compute_getElem? K L P teams dd i hT hd, compute_getElem? K L P teams dw i hT hw, ?_⟩
  simp only [fl3_applyTeam_teamAgg]
  exact M.fl3_team_chain hL hv h _ _ _ T

/-- the conclusion of the two-team chain for team `i ∈ {0, 1}` of `compute` -/
def FL3ComputeChain (K : Kind) (L : Leaves α) (P : Params α) (T0 T1 : List (Rating α)) (i : Nat)
    (T : List (Rating α)) (rl0 rl1 rd rw0 rw1 : Nat) : Prop :=
  ∃ Tl Td Tw, (compute K L P [T0, T1] [rl0, rl1])[i]? = some Tl
    ∧ (compute K L P [T0, T1] [rd, rd])[i]? = some Td
    ∧ (compute K L P [T0, T1] [rw0, rw1])[i]? = some Tw
    ∧ FL3TeamChain T Tl Td Tw

/-- `fl3_compute_chain` at the two-team game: `FL3_omega0 … (teamAgg T0 0) (teamAgg T1 0) r0 r1` unfolds to team 0's
`fl1_od` on `teamAggs [T0, T1] [r0, r1]` (`fl3_wr (teamAgg T d) r` is `teamAgg T r`) -/
theorem MonoArith.fl3_lift0 (M : MonoArith α) (hL : MulLeftMonoNonpos α) (K : Kind) (L : Leaves α)
    (P : Params α) (T0 T1 : List (Rating α)) (hv : 𝟘 < (teamAgg T0 0).sig2)
    {rl0 rl1 rd rw0 rw1 : Nat}
    (h : FL3Chain (FL3_omega0 K L P (teamAgg T0 0) (teamAgg T1 0) rl0 rl1)
      (FL3_omega0 K L P (teamAgg T0 0) (teamAgg T1 0) rd rd)
      (FL3_omega0 K L P (teamAgg T0 0) (teamAgg T1 0) rw0 rw1)) :
    FL3ComputeChain K L P T0 T1 0 T0 rl0 rl1 rd rw0 rw1 :=
  M.fl3_compute_chain hL K L P [T0, T1] 0 T0 rfl hv rfl rfl rfl h

theorem MonoArith.fl3_lift1 (M : MonoArith α) (hL : MulLeftMonoNonpos α) (K : Kind) (L : Leaves α)
    (P : Params α) (T0 T1 : List (Rating α)) (hv : 𝟘 < (teamAgg T1 0).sig2)
    {rl0 rl1 rd rw0 rw1 : Nat}
    (h : FL3Chain (FL3_omega1 K L P (teamAgg T0 0) (teamAgg T1 0) rl0 rl1)
      (FL3_omega1 K L P (teamAgg T0 0) (teamAgg T1 0) rd rd)
      (FL3_omega1 K L P (teamAgg T0 0) (teamAgg T1 0) rw0 rw1)) :
    FL3ComputeChain K L P T0 T1 1 T1 rl0 rl1 rd rw0 rw1 :=
  M.fl3_compute_chain hL K L P [T0, T1] 1 T1 rfl hv rfl rfl rfl h

end OS
