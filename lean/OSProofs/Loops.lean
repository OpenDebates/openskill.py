import OSModel.Loops
import OSProofs.Ladder
import OSProofs.WrapBasics
/-!
# The loops of `OSModel/Loops.lean`, one by one, equal the closed forms they stand for

Generic over `[Scalar α]` and without Mathlib: no law of arithmetic is used except where a hypothesis
says so (`hsub` for Plackett–Luce, `hone` for Thurstone–Mosteller full pairing, `0 + x = x` for the
first term of a `reduce`).  The theorems about `_compute` and `rate` as a whole are in
`OSProofs/Props/Loops.lean`.
-/
namespace OS
open Scalar

/-! ## loops over a list -/

theorem foldl_ext {β γ : Type} (f g : β → γ → β) (l : List γ) (b : β)
    (h : ∀ a, ∀ x ∈ l, f a x = g a x) : l.foldl f b = l.foldl g b := by
  induction l generalizing b with
  | nil => rfl
  | cons x xs ih =>
    rw [List.foldl_cons, List.foldl_cons, h b x (List.mem_cons_self ..)]
    exact ih _ (fun a y hy => h a y (List.mem_cons_of_mem _ hy))

/-- `for x in l: result.append(f(x))` -/
theorem foldl_append_singleton {β γ : Type} (f : γ → β) (l : List γ) (acc : List β) :
    l.foldl (fun r x => r ++ [f x]) acc = acc ++ l.map f := by
  induction l generalizing acc with
  | nil => exact (List.append_nil acc).symm
  | cons x xs ih => rw [List.foldl_cons, ih, List.map_cons, List.append_assoc]; rfl

theorem foldl_append_singleton_nil {β γ : Type} (f : γ → β) (l : List γ) :
    l.foldl (fun r x => r ++ [f x]) [] = l.map f := by
  rw [foldl_append_singleton, List.nil_append]

/-- `for x in l: if p(x): continue; body` -/
theorem lp_foldl_skip {β γ : Type} (p : γ → Prop) [DecidablePred p] (f : β → γ → β) (l : List γ)
    (b : β) :
    l.foldl (fun a x => if p x then a else f a x) b = (l.filter (fun x => !decide (p x))).foldl f b := by
  rw [List.foldl_filter]
  apply foldl_ext
  intro a x _
  by_cases hp : p x <;> simp [hp]

section
variable {α : Type} [Scalar α]

theorem foldl_pair {γ : Type} (f g : γ → α) (l : List γ) (a b : α) :
    l.foldl (fun od x => (od.1 + f x, od.2 + g x)) (a, b) =
      ((l.map f).foldl (· + ·) a, (l.map g).foldl (· + ·) b) := by
  induction l generalizing a b with
  | nil => rfl
  | cons x xs ih => rw [List.foldl_cons, ih]; rfl

/-- A loop over opponents whose body adds the two components of a pair term `F x` to `omega` and
    `delta`, started at `(0.0, 0.0)`, is `sumPairs` of the pair terms: same additions, same order.
    The body is a variable, so that the statement of the step (`lp_bt_step`, `lp_tm_step`) is all a
    model has to supply. -/
theorem lp_foldl_sumPairs {γ : Type} (F : γ → α × α) (body : α × α → γ → α × α)
    (hbody : ∀ od x, body od x = (od.1 + (F x).1, od.2 + (F x).2)) (l : List γ) :
    l.foldl body (ofNat 0, ofNat 0) = sumPairs (l.map F) := by
  rw [foldl_ext body _ l _ fun od x _ => hbody od x, foldl_pair]
  unfold sumPairs sumL
  rw [List.map_map, List.map_map]
  rfl

/-- the same under `for q, team_q in enumerate(ts): if q == i: continue`: the sum over `othersOf ts i` -/
theorem lp_inner_sumPairs {γ : Type} (F : γ → α × α) (body : α × α → γ → α × α)
    (hbody : ∀ od x, body od x = (od.1 + (F x).1, od.2 + (F x).2)) (ts : List γ) (i : Nat) :
    ts.zipIdx.foldl (fun od tq => if tq.2 = i then od else body od tq.1) (ofNat 0, ofNat 0) =
      sumPairs ((othersOf ts i).map F) := by
  rw [lp_foldl_skip (fun tq : γ × Nat => tq.2 = i), othersOf, List.map_map]
  exact lp_foldl_sumPairs (fun tq : γ × Nat => F tq.1) _ (fun od tq => hbody od tq.1) _

end

/-! ## `enumerate`, `zip` and list reads -/

theorem range_eq_zipIdx_snd {β : Type} (l : List β) : List.range l.length = l.zipIdx.map (·.2) := by
  rw [List.zipIdx_map_snd, List.range_eq_range']

theorem map_zipIdx_fst {β γ : Type} (l : List β) (g : β → γ) :
    l.zipIdx.map (fun x => g x.1) = l.map g :=
  List.map_map.symm.trans (congrArg (List.map g) (List.zipIdx_map_fst 0 l))

/-- `zip(team_ratings, _ladder_pairs(team_ratings))` pairs every team with its neighbours -/
theorem zip_ladderPairsCode {β : Type} (ts : List β) :
    ts.zip (ladderPairsCode ts) = ts.zipIdx.map (fun x => (x.1, neighboursOf ts x.2)) := by
  cases ts with
  | nil => rfl
  | cons a as =>
    rw [ladderPairsCode_eq (a :: as) (List.cons_ne_nil _ _), range_eq_zipIdx_snd, List.map_map]
    exact zip_zipIdx_map _ 0 _

theorem getD_of_getElem? {β : Type} {l : List β} {k : Nat} {x : β} (d : β) (h : l[k]? = some x) :
    l.getD k d = x := by
  rw [List.getD_eq_getElem?_getD, h]
  rfl

/-- `enumerate(l)` seen from `enumerate(zip(l, m))`, for a loop over `l` that reads `m[k]` -/
theorem zipIdx_of_zip {β γ : Type} (l : List β) (m : List γ) (k : Nat) (h : l.length ≤ m.length) :
    l.zipIdx k = ((l.zip m).zipIdx k).map (Prod.map Prod.fst id) := by
  rw [← List.zipIdx_map, List.map_fst_zip h]

/-- `[F(x, m[k]) for k, x in enumerate(l)]` is `[F(x, y) for x, y in zip(l, m)]` -/
theorem zipIdx_map_getD {β γ δ : Type} (F : β × γ → δ) (d : γ) (l : List β) (m : List γ)
    (h : l.length ≤ m.length) :
    l.zipIdx.map (fun x => F (x.1, m.getD x.2 d)) = (l.zip m).map F := by
  rw [zipIdx_of_zip l m 0 h, List.map_map, ← map_zipIdx_fst (l.zip m) F]
  refine List.map_congr_left fun y hy => ?_
  have hy' := (List.getElem?_zip_eq_some.mp (List.mem_zipIdx_iff_getElem?.mp hy)).2
  show F (y.1.1, m.getD y.2 d) = F y.1
  rw [getD_of_getElem? d hy']

/-- two games with the same nesting: every read `original_teams[team_index][player_index]` of the
    `limit_sigma` loop is in range -/
theorem length_le_of_map_map_eq {β γ : Type} (f : β → γ) (res orig : List (List β))
    (h : res.map (·.map f) = orig.map (·.map f)) :
    res.length ≤ orig.length ∧ ∀ p ∈ res.zip orig, p.1.length ≤ p.2.length := by
  refine ⟨Nat.le_of_eq (by simpa using congrArg List.length h), fun p hp => ?_⟩
  obtain ⟨i, hi⟩ := List.mem_iff_getElem?.mp hp
  obtain ⟨h1, h2⟩ := List.getElem?_zip_eq_some.mp hi
  have h3 := congrArg (fun l => l[i]?) h
  simp only [List.getElem?_map, h1, h2, Option.map_some, Option.some.injEq] at h3
  exact Nat.le_of_eq (by simpa using congrArg List.length h3)

section
variable {α : Type} [Scalar α]

/-! ## the player loop and the outer loop -/

/-- the player loop is `applyTeam`, when the modified player is read from the team's own list -/
theorem lp_loopPlayers_eq (kappa : α) (t : TeamAgg α) (src : List (Rating α)) (hsrc : src = t.players)
    (omega delta : α) : loopPlayers kappa t src omega delta = applyTeam kappa t omega delta := by
  subst hsrc
  unfold loopPlayers applyTeam
  rw [← map_zipIdx_fst, ← foldl_append_singleton_nil]
  refine foldl_ext _ _ _ _ fun r jp hjp => ?_
  simp only [getD_of_getElem? Rating.dflt (List.mem_zipIdx_iff_getElem?.mp hjp)]

/-- the loops that append one `loopPlayers` row per enumerated team (Plackett–Luce and full pairing;
    `om`, `de` are what the body has in `omega`, `delta` when it reaches the player loop) are `compute`
    as soon as `(om, de)` is the model's `(omega, delta)` of each team -/
theorem lp_full_eq (K : Kind) (L : Leaves α) (P : Params α) (teams : List (List (Rating α)))
    (dense : List Nat) (om de : TeamAgg α × Nat → α)
    (h : ∀ x, fl1_od K L P (teamAggs teams dense) x = (om x, de x)) :
    (teamAggs teams dense).zipIdx.foldl
      (fun result it => result ++ [loopPlayers P.kappa it.1 (teams.getD it.2 []) (om it) (de it)]) [] =
    compute K L P teams dense := by
  rw [compute_eq_map_zipIdx, foldl_append_singleton_nil]
  refine List.map_congr_left fun x hx => ?_
  -- `original_teams[i]` is `team_ratings[i].team`
  obtain ⟨T, d, hT, _, hx⟩ :=
    teamAggs_getElem?_inv teams dense x.2 (List.mem_zipIdx_iff_getElem?.mp hx)
  rw [h, lp_loopPlayers_eq P.kappa x.1 _ (by rw [getD_of_getElem? [] hT, hx]; rfl)]

/-- the same for partial pairing: `map` of `i_map` over `zip(team_ratings, _ladder_pairs(team_ratings))`,
    `red team_i adjacent_i` being what `od_reduce` returns -/
theorem lp_part_eq (K : Kind) (L : Leaves α) (P : Params α) (teams : List (List (Rating α)))
    (dense : List Nat) (red : TeamAgg α → List (TeamAgg α) → α × α)
    (h : ∀ x, fl1_od K L P (teamAggs teams dense) x =
      red x.1 (neighboursOf (teamAggs teams dense) x.2)) :
    ((teamAggs teams dense).zip (ladderPairsCode (teamAggs teams dense))).map
      (fun i => loopPlayers P.kappa i.1 i.1.players (red i.1 i.2).1 (red i.1 i.2).2) =
    compute K L P teams dense := by
  rw [compute_eq_map_zipIdx, zip_ladderPairsCode, List.map_map]
  refine List.map_congr_left fun x _ => ?_
  rw [h]
  exact lp_loopPlayers_eq P.kappa x.1 _ rfl _ _

/-! ## Bradley–Terry -/

/-- one iteration of the Bradley–Terry loop body adds the two components of `btPair` -/
theorem lp_bt_step (P : Params α) (n : Nat) (ti tq : TeamAgg α) (od : α × α) :
    (let beta := P.beta
     let omega := od.1
     let delta := od.2
     let c_iq := sqrt (ti.sig2 + tq.sig2 + (ofNat 2 * (beta * beta)))
     let piq := ofNat 1 / (ofNat 1 + exp ((tq.mu - ti.mu) / c_iq))
     let sigma_squared_to_ciq := ti.sig2 / c_iq
     let s : α := ofNat 0
     let s : α :=
       if tq.rank > ti.rank then ofNat 1
       else if tq.rank = ti.rank then ofNat 1 / ofNat 2
       else s
     let omega := omega + sigma_squared_to_ciq * (s - piq)
     let gamma_value := gammaVal P.gamma c_iq n ti.mu ti.sig2 ti.players ti.rank
     let delta := delta + ((gamma_value * sigma_squared_to_ciq) / c_iq) * piq * (ofNat 1 - piq)
     (omega, delta)) =
    (od.1 + (btPair P.beta P.gamma n ti tq).1, od.2 + (btPair P.beta P.gamma n ti tq).2) := rfl

theorem lp_loopBTFInner_eq (P : Params α) (ts : List (TeamAgg α)) (i : Nat) (ti : TeamAgg α) :
    loopBTFInner P ts i ti = sumPairs ((othersOf ts i).map (btPair P.beta P.gamma ts.length ti)) :=
  lp_inner_sumPairs _ _ (fun od tq => lp_bt_step P ts.length ti tq od) ts i

theorem lp_loopBTPReduce_eq (P : Params α) (n : Nat) (ti : TeamAgg α) (game_q : List (TeamAgg α)) :
    loopBTPReduce P n ti (ofNat 0, ofNat 0) game_q = sumPairs (game_q.map (btPair P.beta P.gamma n ti)) :=
  lp_foldl_sumPairs _ _ (fun od tq => lp_bt_step P n ti tq od) game_q

/-! ## Thurstone–Mosteller -/

/-- one iteration of the Thurstone–Mosteller loop body adds the two components of `tmPair`.  `c` is
    what the text assigns to `c_iq`: `2 * math.sqrt(…)` under partial pairing, `math.sqrt(…)` under
    full pairing, where `tmPair` multiplies the root by `cmul = ofNat 1`. -/
theorem lp_tm_step (L : Leaves α) (P : Params α) (cmul : α) (n : Nat) (ti tq : TeamAgg α) (od : α × α)
    (c : α) (hc : c = cmul * sqrt (ti.sig2 + tq.sig2 + (ofNat 2 * (P.beta * P.beta)))) :
    (let omega := od.1
     let delta := od.2
     let c_iq := c
     let delta_mu := (ti.mu - tq.mu) / c_iq
     let s2c := ti.sig2 / c_iq
     let gamma_value := gammaVal P.gamma c_iq n ti.mu ti.sig2 ti.players ti.rank
     if tq.rank > ti.rank then
       (omega + s2c * L.v delta_mu (P.kappa / c_iq),
        delta + gamma_value * s2c / c_iq * L.w delta_mu (P.kappa / c_iq))
     else if tq.rank < ti.rank then
       (omega + -s2c * L.v (-delta_mu) (P.kappa / c_iq),
        delta + gamma_value * s2c / c_iq * L.w (-delta_mu) (P.kappa / c_iq))
     else
       (omega + s2c * L.vt delta_mu (P.kappa / c_iq),
        delta + gamma_value * s2c / c_iq * L.wt delta_mu (P.kappa / c_iq))) =
    (od.1 + (tmPair L cmul P.beta P.kappa P.gamma n ti tq).1,
     od.2 + (tmPair L cmul P.beta P.kappa P.gamma n ti tq).2) := by
  subst hc
  unfold tmPair
  by_cases h1 : tq.rank > ti.rank
  · simp only [h1, if_true]
  · by_cases h2 : tq.rank < ti.rank
    · simp only [h1, h2, if_true, if_false]
    · simp only [h1, h2, if_false]

theorem lp_loopTMPReduce_eq (L : Leaves α) (P : Params α) (n : Nat) (ti : TeamAgg α)
    (game_q : List (TeamAgg α)) :
    loopTMPReduce L P n ti (ofNat 0, ofNat 0) game_q =
      sumPairs (game_q.map (tmPair L (ofNat 2) P.beta P.kappa P.gamma n ti)) :=
  lp_foldl_sumPairs _ _ (fun od tq => lp_tm_step L P (ofNat 2) n ti tq od _ rfl) game_q

/-- the full-pairing text has no factor in front of the square root: equal as soon as `1 * x = x` -/
theorem lp_loopTMFInner_eq (hone : ∀ a : α, ofNat 1 * a = a) (L : Leaves α) (P : Params α)
    (ts : List (TeamAgg α)) (i : Nat) (ti : TeamAgg α) :
    loopTMFInner L P ts i ti =
      sumPairs ((othersOf ts i).map (tmPair L (ofNat 1) P.beta P.kappa P.gamma ts.length ti)) :=
  lp_inner_sumPairs _ _ (fun od tq => lp_tm_step L P (ofNat 1) ts.length ti tq od
    (sqrt (ti.sig2 + tq.sig2 + ofNat 2 * (P.beta * P.beta))) (hone _).symm) ts i

/-! ## Plackett–Luce -/

/-- the inner loop of Plackett–Luce: the pair of sums of `plOmegaDelta` before the final scalings.
    `hsub` is the only arithmetic law used: the code subtracts (`omega -= x`), the closed form adds
    the negation.  The loop enumerates `team_ratings` and reads `sum_q[q]`, `a[q]`; `plOmegaDelta`
    enumerates the three lists zipped. -/
theorem lp_loopPLInner_eq (hsub : ∀ a b : α, a - b = a + -b) (ts : List (TeamAgg α)) (c : α)
    (sq : List α) (a : List Nat) (hsq : sq.length = ts.length) (ha : a.length = ts.length)
    (i : Nat) (ti : TeamAgg α) :
    loopPLInner ts c sq a i ti =
      (let ei := exp (ti.mu / c)
       let qs := ((ts.zip (sq.zip a)).zipIdx).filter (fun x => decide (x.1.1.rank ≤ ti.rank))
       (sumL (qs.map (fun x =>
          let p := ei / x.1.2.1
          if x.2 = i then (ofNat 1 - p) / ofNat x.1.2.2 else -(p / ofNat x.1.2.2))),
        sumL (qs.map (fun x =>
          let p := ei / x.1.2.1
          p * (ofNat 1 - p) / ofNat x.1.2.2)))) := by
  have hlen : ts.length ≤ (sq.zip a).length := by
    rw [List.length_zip, hsq, ha, Nat.min_self]
    exact Nat.le_refl _
  unfold loopPLInner sumL
  simp only []
  rw [← foldl_pair, List.foldl_filter, zipIdx_of_zip ts (sq.zip a) 0 hlen, List.foldl_map]
  refine foldl_ext _ _ _ _ fun od x hx => ?_
  have hx' := List.getElem?_zip_eq_some.mp
    (List.getElem?_zip_eq_some.mp (List.mem_zipIdx_iff_getElem?.mp hx)).2
  simp only [Prod.map, id, getD_of_getElem? _ hx'.1, getD_of_getElem? _ hx'.2]
  by_cases hr : x.1.1.rank ≤ ti.rank
  · by_cases hq : x.2 = i
    · simp only [hr, hq, decide_true, if_true]
    · simp only [hr, hq, decide_true, if_true, if_false, hsub]
  · simp only [hr, decide_false, if_false, Bool.false_eq_true]

end

/-! # The loops of `rate` and of the helper methods -/

/-! ## in-place writes -/

/-- `for k, x in enumerate(l): l[k] = G(x, l[k])`: every slot is written once, from its own old value
    (`pre`: what stands in front of `l` in the list written to, for the induction) -/
theorem foldl_modify_self {β : Type} (G : β → β → β) (pre l : List β) :
    (l.zipIdx pre.length).foldl (fun r x => r.modify x.2 (G x.1)) (pre ++ l) =
      pre ++ l.map (fun x => G x x) := by
  induction l generalizing pre with
  | nil => rfl
  | cons a l ih =>
    have hw : (pre ++ a :: l).modify pre.length (G a) = pre ++ [G a a] ++ l := by
      simp [List.modify_eq_take_cons_drop]
    have h := ih (pre ++ [G a a])
    rw [List.length_append, List.length_singleton] at h
    rw [List.zipIdx_cons, List.foldl_cons, hw, h, List.append_assoc]
    rfl

/-- a loop that only ever writes into row `i` is a write of the looped row into row `i` -/
theorem foldl_modify_row {β γ : Type} (i : Nat) (H : γ → β → β) (l : List γ) (T : List β) :
    l.foldl (fun T x => T.modify i (H x)) T = T.modify i (fun row => l.foldl (fun row x => H x row) row) := by
  induction l generalizing T with
  | nil =>
    simp only [List.foldl_nil]
    exact (List.modify_id i T).symm
  | cons x xs ih =>
    rw [List.foldl_cons, ih, List.modify_modify_eq]
    rfl

section
variable {α : Type} [Scalar α]

/-! ## `_calculate_team_ratings` -/

/-- `reduce(+, map(f, team))` starts from the first element, `sumL` from `0.0`: equal exactly when
    adding the FIRST element's value to `0.0` gives it back -/
theorem reduceAdd_map_eq_sumL {β : Type} (team : List β) (f : β → α)
    (h : ∀ p, team.head? = some p → ofNat 0 + f p = f p) :
    reduceAdd (team.map f) = sumL (team.map f) := by
  cases team with
  | nil => rfl
  | cons p ps =>
    unfold reduceAdd sumL
    rw [List.map_cons, List.foldl_cons, h p rfl]

/-- `_calculate_team_ratings` (loop, `reduce` without initial value, `rank[index]`) is `teamAggs`,
    provided every team's FIRST player satisfies `0.0 + mu = mu` and `0.0 + sigma² = sigma²`, and there
    are at least as many ranks as teams. -/
theorem lp_teamRatingsLoop_eq (game : List (List (Rating α))) (rank : List Nat)
    (hlen : game.length ≤ rank.length)
    (hz : ∀ team ∈ game, ∀ p, team.head? = some p →
      ofNat 0 + p.mu = p.mu ∧ ofNat 0 + p.sigma * p.sigma = p.sigma * p.sigma) :
    teamRatingsLoop game rank = teamAggs game rank := by
  unfold teamRatingsLoop teamAggs
  rw [foldl_append_singleton_nil, ← zipIdx_map_getD _ 0 game rank hlen]
  refine List.map_congr_left fun x hx => ?_
  have hz' := hz x.1 (List.fst_mem_of_mem_zipIdx hx)
  unfold teamAgg
  rw [reduceAdd_map_eq_sumL _ _ fun q hq => (hz' q hq).1, reduceAdd_map_eq_sumL _ _ fun q hq => (hz' q hq).2]

/-! ## `_c` -/

/-- the `_c` loop is `plC`, same additions in the same order -/
theorem lp_plCLoop_eq (beta : α) (ts : List (TeamAgg α)) : plCLoop beta ts = plC beta ts := by
  unfold plCLoop plC sumL
  rw [List.foldl_map]

end

/-! ## `_calculate_rankings` -/

theorem dictSet_fresh {β : Type} (d : List (Nat × β)) (k : Nat) (v : β)
    (h : ∀ p ∈ d, p.1 ≠ k) : dictSet d k v = d ++ [(k, v)] := by
  induction d with
  | nil => rfl
  | cons e d ih =>
    exact (if_neg (h e (List.mem_cons_self ..))).trans
      (congrArg (e :: ·) (ih fun p hp => h p (List.mem_cons_of_mem _ hp)))

/-- the `rank_output` loop from position `k + 1` on: `prev = team_scores[k]`, the keys so far are
    `≤ k`, so every `rank_output[index] = s` appends, and the values appended are `denseRanksAux` -/
theorem lp_rankOutput_aux {ρ : Type} (lt : ρ → ρ → Bool) (S suf : List ρ) (k : Nat) (prev : ρ)
    (hprev : S[k]? = some prev) (hsuf : S.drop (k + 1) = suf) (s : Nat) (d : List (Nat × Nat))
    (hd : ∀ p ∈ d, p.1 ≤ k) :
    ((suf.zipIdx (k + 1)).foldl
      (fun (st : Nat × List (Nat × Nat)) (vi : ρ × Nat) =>
        let s := st.1
        let rank_output := st.2
        let index := vi.2
        let s :=
          if index > 0 then
            match S[index - 1]?, S[index]? with
            | some a, some b => if lt a b then index else s
            | _, _ => s
          else s
        (s, dictSet rank_output index s))
      (s, d)).2.map (·.2) = d.map (·.2) ++ denseRanksAux lt prev (k + 1) s suf := by
  induction suf generalizing k prev s d with
  | nil => exact (List.append_nil _).symm
  | cons x xs ih =>
    have hx : S[k + 1]? = some x := by rw [← List.head?_drop, hsuf]; rfl
    have hxs : S.drop (k + 1 + 1) = xs := by rw [← List.tail_drop, hsuf]; rfl
    rw [List.zipIdx_cons, List.foldl_cons]
    simp only [Nat.add_sub_cancel, hprev, hx, Nat.succ_pos, gt_iff_lt, if_true]
    rw [dictSet_fresh d _ _ fun p hp => Nat.ne_of_lt (Nat.lt_succ_of_le (hd p hp)),
      ih (k + 1) x hx hxs, denseRanksAux, List.map_append, List.append_assoc]
    · rfl
    · intro p hp
      rcases List.mem_append.mp hp with hp | hp
      · exact Nat.le_succ_of_le (hd p hp)
      · rw [List.mem_singleton.mp hp]
        exact Nat.le_refl _

/-- **the `rank_output` loop of `_calculate_rankings` is `denseRanks`** (any comparison, any list) -/
theorem lp_rankOutputLoop_eq {ρ : Type} (lt : ρ → ρ → Bool) (S : List ρ) :
    rankOutputLoop lt S = denseRanks lt S := by
  cases S with
  | nil => rfl
  | cons x xs =>
    exact lp_rankOutput_aux lt (x :: xs) xs 0 x rfl rfl 0 [(0, 0)]
      fun p hp => Nat.le_of_eq (congrArg Prod.fst (List.mem_singleton.mp hp))

/-- `team_scores = []; for index, _ in enumerate(game): team_scores.append(ranks[index])` -/
theorem lp_teamScores_aux {ρ γ : Type} (game : List γ) (ranks : List ρ) (k : Nat) (acc : List ρ) :
    (game.zipIdx k).foldl (fun ts gi => ts ++ (ranks[gi.2]?).toList) acc =
      acc ++ (ranks.drop k).take game.length := by
  induction game generalizing k acc with
  | nil => simp
  | cons g gs ih =>
    rw [List.zipIdx_cons, List.foldl_cons, ih, List.append_assoc]
    congr 1
    by_cases hk : k < ranks.length
    · rw [List.getElem?_eq_getElem hk, List.drop_eq_getElem_cons hk]
      rfl
    · have hk' : ranks.length ≤ k := Nat.le_of_not_lt hk
      rw [List.getElem?_eq_none hk', List.drop_eq_nil_of_le hk',
        List.drop_eq_nil_of_le (Nat.le_succ_of_le hk')]
      simp

/-- **`_calculate_rankings(game, ranks)` is `denseRanks ranks`** when there is one rank per team
    (in general the loop ranks the first `len(game)` values: `lp_teamScores_aux`) -/
theorem lp_rankingsLoopRanks_eq {ρ γ : Type} (lt : ρ → ρ → Bool) (game : List γ) (ranks : List ρ)
    (h : ranks.length = game.length) : rankingsLoopRanks lt game ranks = denseRanks lt ranks := by
  unfold rankingsLoopRanks
  simp only []
  rw [lp_teamScores_aux, lp_rankOutputLoop_eq, List.drop_zero, List.nil_append, ← h, List.take_length]

/-- **`_calculate_rankings(game)` (no ranks) is `range(len(game))`** — the shortcut `rateCore` takes -/
theorem lp_rankingsLoopNone_eq {γ : Type} (game : List γ) :
    rankingsLoopNone game = List.range game.length := by
  unfold rankingsLoopNone
  simp only []
  rw [lp_rankOutputLoop_eq, ← range_eq_zipIdx_snd]
  exact denseRanks_range _ (fun p => by simp) _

section
variable {α : Type} [Scalar α]

/-! ## the loops of `rate` -/

/-- **the tau loop (in-place writes, slot by slot) is `inflate`** -/
theorem lp_inflateLoop_eq (tau : α) (teams : List (List (Rating α))) :
    inflateLoop tau teams = inflate tau teams := by
  unfold inflateLoop inflate
  -- the player loop writes into row `team_index` only; then every row, and within a row every
  -- slot, is written once, from the value the loop variable holds
  simp only [foldl_modify_row]
  refine (foldl_modify_self (fun (team row : List (Rating α)) => team.zipIdx.foldl _ row)
    [] teams).trans (List.map_congr_left fun team _ => ?_)
  exact foldl_modify_self
    (fun (p obj : Rating α) => { obj with sigma := sqrt (p.sigma * p.sigma + tau * tau) }) [] team

/-- the score negation loop is `map` -/
theorem lp_negateLoop_eq {ρ : Type} (neg : ρ → ρ) (scores : List ρ) :
    negateLoop neg scores = scores.map neg := foldl_append_singleton_nil neg scores

/-- the copy into `processed_result` is the identity on values -/
theorem lp_copyLoop_eq {β : Type} (result : List (List β)) : copyLoop result = result := by
  unfold copyLoop
  simp only [foldl_append_singleton_nil, List.map_id']

/-- **the `limit_sigma` loop is `clampTeams`**, when every result row is read inside the original
    (`original_teams[team_index][player_index]` in range) -/
theorem lp_clampLoop_eq (orig res : List (List (Rating α))) (hlen : res.length ≤ orig.length)
    (hrow : ∀ p ∈ res.zip orig, p.1.length ≤ p.2.length) : clampLoop orig res = clampTeams orig res := by
  unfold clampLoop clampTeams
  -- outer loop: enumerate `zip(processed_result, original_teams)` instead of reading `original_teams[i]`
  rw [foldl_append_singleton_nil, zipIdx_of_zip res orig 0 hlen, List.map_map,
    ← map_zipIdx_fst (res.zip orig)]
  refine List.map_congr_left fun y hy => ?_
  have hy' := List.mem_zipIdx_iff_getElem?.mp hy
  simp only [Function.comp, Prod.map, id,
    getD_of_getElem? [] (List.getElem?_zip_eq_some.mp hy').2]
  rw [foldl_append_singleton_nil, ← zipIdx_map_getD _ Rating.dflt y.1.1 y.1.2
    (hrow y.1 (List.mem_of_getElem? hy'))]

end
end OS
