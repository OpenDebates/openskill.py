import OSProofs.Props.C08
import OSProofs.C06Lemmas
import OSProofs.Props.C17
import OSProofs.SortLemmas
import Mathlib.Tactic.Linarith
import Mathlib.Tactic.Positivity
import Mathlib.Tactic.Ring
import Mathlib.Tactic.NormNum
/-!
# Helper lemmas for C08b (the arithmetic guards of every site of the model)

The numeric consequences of the domain for one team aggregate, and the counts of players and pairs.
(The facts behind the two Plackett–Luce divisors: `fl1_plCnt_pos` of `WrapBasics` for `A`,
`pl_term_le_sumQ` of `C06Lemmas` for `sum_q`.)
-/
noncomputable section
namespace OS

/-! ### one team aggregate on the domain -/

theorem grd_team_mu_bound (team : List (Rating ℝ)) (rk : Nat) (β : ℝ) (hβ : 0 < β)
    (hlen : team.length ≤ 16) (h : ∀ p ∈ team, |p.mu| ≤ 20 * β) :
    |(teamAgg team rk).mu| ≤ 320 * β := by
  simp only [teamAgg, sumL_eq_sum]
  exact (abs_sum_map_le_of_length team _ (20 * β) 16 (mul_nonneg (by norm_num) hβ.le) hlen h).trans_eq
    (by ring)

theorem sqrt_two_mul_le_plC (β : ℝ) (hβ : 0 < β) (ts : List (TeamAgg ℝ)) (hlen : 2 ≤ ts.length)
    (hs : ∀ t ∈ ts, 0 ≤ t.sig2) : Real.sqrt 2 * β ≤ plC β ts :=
  (mul_le_mul_of_nonneg_right (Real.sqrt_le_sqrt (by exact_mod_cast hlen)) hβ.le).trans
    (plC_ge_sqrt_length β hβ.le ts hs)

/-! ### counting players and pairs -/

theorem length_le_playerCount {γ : Type} (teams : List (List γ)) (h : ∀ t ∈ teams, 1 ≤ t.length) :
    teams.length ≤ playerCount teams := by
  rw [playerCount_eq_sum]
  have h1 := List.card_nsmul_le_sum (teams.map List.length) 1 (List.forall_mem_map.2 h)
  rwa [List.length_map, smul_eq_mul, mul_one] at h1

theorem playerCount_le_mul {γ : Type} (teams : List (List γ)) (m : ℕ)
    (h : ∀ t ∈ teams, t.length ≤ m) : playerCount teams ≤ teams.length * m := by
  rw [playerCount_eq_sum]
  have h1 := List.sum_le_card_nsmul (teams.map List.length) m (List.forall_mem_map.2 h)
  rwa [List.length_map, smul_eq_mul] at h1

theorem mul_pred_mono {a n : ℕ} (h : a ≤ n) : a * (a - 1) ≤ n * (n - 1) :=
  Nat.mul_le_mul h (Nat.sub_le_sub_right h 1)

theorem grd_pairs_cast_bounds {n : ℕ} (h2 : 2 ≤ n) (h8 : n ≤ 8) :
    (2 : ℝ) ≤ ((n * (n - 1) : ℕ) : ℝ) ∧ ((n * (n - 1) : ℕ) : ℝ) ≤ 56 :=
  ⟨by exact_mod_cast mul_pred_mono h2, by exact_mod_cast mul_pred_mono h8⟩

/-! ### the inhabitation examples -/

theorem forall_players_one_two {γ : Type} {P : γ → Prop} {a b c : γ} (ha : P a) (hb : P b)
    (hc : P c) : ∀ t ∈ [[a], [b, c]], ∀ p ∈ t, P p := by
  simp only [List.forall_mem_cons, List.not_mem_nil, false_imp_iff, implies_true, and_true]
  exact ⟨ha, hb, hc⟩

end OS
end
