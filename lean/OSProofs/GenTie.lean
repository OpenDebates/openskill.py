import OSModel
import OSProofs.RatingOpsLemmas
/-!
# Generated by tools/py2lean.py from the source text of openskill.py — do not edit

source digest (common.py, models/common.py, the five model files): a3f755d05692a9fb

Every `def` below is a mechanical translation of one Python function; every `theorem …_eq` says that the translation IS the
hand-written model definition the theorems of OSProofs are about (for every scalar type, so also at `Float`).
recognised primitives: phi_major := 0.5 * math.erfc(-x / math.sqrt(2.0)); phi_minor := _normal.pdf(x); phi_major_inverse := _normal.inv_cdf(x)
`return NotImplemented` in `__eq__` is translated as `false`: Python falls back to identity, and a foreign operand is another object.
-/
set_option linter.unusedVariables false
set_option linter.unusedSectionVars false
namespace OS
namespace Gen
open Scalar
variable {α : Type} [Scalar α]

/-! ### openskill/models/weng_lin/common.py -/
def v (x t : α) : α :=
  let xt := (x - t)
  let denominator := (Phi xt)
  (if denominator < epsF then (-xt) else ((phi xt) / denominator))

theorem v_eq (x t : α) : Gen.v x t = vCode x t := by
  rfl

def w (x t : α) : α :=
  let xt := (x - t)
  let denominator := (Phi xt)
  if denominator < epsF then
    (if x < ofNat 0 then ofNat 1 else ofNat 0)
  else
    ((Gen.v x t) * ((Gen.v x t) + xt))

theorem w_eq (x t : α) : Gen.w x t = wCode x t := by
  rfl

def vt (x t : α) : α :=
  let xx := (sabs x)
  let b := ((Phi (t - xx)) - (Phi ((-t) - xx)))
  if b < (ofNat 1 / ofNat 100000) then
    if x < ofNat 0 then
      ((-x) - t)
    else
      ((-x) + t)
  else
    let a := ((phi ((-t) - xx)) - (phi (t - xx)))
    ((if x < ofNat 0 then (-a) else a) / b)

theorem vt_eq (x t : α) : Gen.vt x t = vtCode x t := by
  rfl

def wt (x t : α) : α :=
  let xx := (sabs x)
  let b := ((Phi (t - xx)) - (Phi ((-t) - xx)))
  if b < epsF then
    ofNat 1
  else
    let vtx := (((phi ((-t) - xx)) - (phi (t - xx))) / b)
    (((((t - xx) * (phi (t - xx))) + ((t + xx) * (phi ((-t) - xx)))) / b) + (vtx * vtx))

theorem wt_eq (x t : α) : Gen.wt x t = wtCode x t := by
  rfl

/-! ### openskill/models/common.py -/
def unaryMinus (number : α) : α :=
  (-number)

theorem unaryMinus_eq (a : α) : Gen.unaryMinus a = -a := rfl

/-! ### openskill/models/weng_lin/plackett_luce.py -/
def ordinal_PL (z : α) (self : Rating α) : α :=
  (self.mu - (z * self.sigma))

theorem ordinal_PL_eq (z : α) (r : Rating α) : Gen.ordinal_PL z r = ordinal z r := rfl

def lt_PL (self : Rating α) (b : Operand α) : CmpOut :=
  match b with
  | .same other =>
      if (Gen.ordinal_PL three self) < (Gen.ordinal_PL three other) then
        .bool true
      else
        .bool false
  | .foreign =>
      .valueError

theorem lt_PL_eq (a : Rating α) (b : Operand α) : Gen.lt_PL a b = cmpOp .lt a b := by
  cases b
  · exact CmpOut.ite_bool _
  · rfl

def le_PL (self : Rating α) (b : Operand α) : CmpOut :=
  match b with
  | .same other =>
      if (Gen.ordinal_PL three self) ≤ (Gen.ordinal_PL three other) then
        .bool true
      else
        .bool false
  | .foreign =>
      .valueError

theorem le_PL_eq (a : Rating α) (b : Operand α) : Gen.le_PL a b = cmpOp .le a b := by
  cases b
  · exact CmpOut.ite_bool _
  · rfl

def gt_PL (self : Rating α) (b : Operand α) : CmpOut :=
  match b with
  | .same other =>
      if (Gen.ordinal_PL three other) < (Gen.ordinal_PL three self) then
        .bool true
      else
        .bool false
  | .foreign =>
      .valueError

theorem gt_PL_eq (a : Rating α) (b : Operand α) : Gen.gt_PL a b = cmpOp .gt a b := by
  cases b
  · exact CmpOut.ite_bool _
  · rfl

def ge_PL (self : Rating α) (b : Operand α) : CmpOut :=
  match b with
  | .same other =>
      if (Gen.ordinal_PL three other) ≤ (Gen.ordinal_PL three self) then
        .bool true
      else
        .bool false
  | .foreign =>
      .valueError

theorem ge_PL_eq (a : Rating α) (b : Operand α) : Gen.ge_PL a b = cmpOp .ge a b := by
  cases b
  · exact CmpOut.ite_bool _
  · rfl

def eq_PL (self : Rating α) (b : Operand α) : Bool :=
  match b with
  | .same other =>
      if (feq self.mu other.mu = true) ∧ (feq self.sigma other.sigma = true) then
        true
      else
        false
  | .foreign =>
      false

theorem eq_PL_eq (a : Rating α) (b : Operand α) : Gen.eq_PL a b = eqOp a b := by
  cases b
  · exact ite_and_bool _ _
  · rfl

def gamma_PL (c : α) (k : Nat) (mu sigma_squared : α) (team : List (Rating α)) (rank : Nat) : α :=
  ((sqrt sigma_squared) / c)

theorem gamma_PL_eq (c : α) (k : Nat) (mu s2 : α) (team : List (Rating α)) (rank : Nat) :
    Gen.gamma_PL c k mu s2 team rank = gammaVal .dflt c k mu s2 team rank := rfl

/-! ### openskill/models/weng_lin/bradley_terry_full.py -/
def ordinal_BTF (z : α) (self : Rating α) : α :=
  (self.mu - (z * self.sigma))

theorem ordinal_BTF_eq (z : α) (r : Rating α) : Gen.ordinal_BTF z r = ordinal z r := rfl

def lt_BTF (self : Rating α) (b : Operand α) : CmpOut :=
  match b with
  | .same other =>
      if (Gen.ordinal_BTF three self) < (Gen.ordinal_BTF three other) then
        .bool true
      else
        .bool false
  | .foreign =>
      .valueError

theorem lt_BTF_eq (a : Rating α) (b : Operand α) : Gen.lt_BTF a b = cmpOp .lt a b := by
  cases b
  · exact CmpOut.ite_bool _
  · rfl

def le_BTF (self : Rating α) (b : Operand α) : CmpOut :=
  match b with
  | .same other =>
      if (Gen.ordinal_BTF three self) ≤ (Gen.ordinal_BTF three other) then
        .bool true
      else
        .bool false
  | .foreign =>
      .valueError

theorem le_BTF_eq (a : Rating α) (b : Operand α) : Gen.le_BTF a b = cmpOp .le a b := by
  cases b
  · exact CmpOut.ite_bool _
  · rfl

def gt_BTF (self : Rating α) (b : Operand α) : CmpOut :=
  match b with
  | .same other =>
      if (Gen.ordinal_BTF three other) < (Gen.ordinal_BTF three self) then
        .bool true
      else
        .bool false
  | .foreign =>
      .valueError

theorem gt_BTF_eq (a : Rating α) (b : Operand α) : Gen.gt_BTF a b = cmpOp .gt a b := by
  cases b
  · exact CmpOut.ite_bool _
  · rfl

def ge_BTF (self : Rating α) (b : Operand α) : CmpOut :=
  match b with
  | .same other =>
      if (Gen.ordinal_BTF three other) ≤ (Gen.ordinal_BTF three self) then
        .bool true
      else
        .bool false
  | .foreign =>
      .valueError

theorem ge_BTF_eq (a : Rating α) (b : Operand α) : Gen.ge_BTF a b = cmpOp .ge a b := by
  cases b
  · exact CmpOut.ite_bool _
  · rfl

def eq_BTF (self : Rating α) (b : Operand α) : Bool :=
  match b with
  | .same other =>
      if (feq self.mu other.mu = true) ∧ (feq self.sigma other.sigma = true) then
        true
      else
        false
  | .foreign =>
      false

theorem eq_BTF_eq (a : Rating α) (b : Operand α) : Gen.eq_BTF a b = eqOp a b := by
  cases b
  · exact ite_and_bool _ _
  · rfl

def gamma_BTF (c : α) (k : Nat) (mu sigma_squared : α) (team : List (Rating α)) (rank : Nat) : α :=
  ((sqrt sigma_squared) / c)

theorem gamma_BTF_eq (c : α) (k : Nat) (mu s2 : α) (team : List (Rating α)) (rank : Nat) :
    Gen.gamma_BTF c k mu s2 team rank = gammaVal .dflt c k mu s2 team rank := rfl

/-! ### openskill/models/weng_lin/bradley_terry_part.py -/
def ordinal_BTP (z : α) (self : Rating α) : α :=
  (self.mu - (z * self.sigma))

theorem ordinal_BTP_eq (z : α) (r : Rating α) : Gen.ordinal_BTP z r = ordinal z r := rfl

def lt_BTP (self : Rating α) (b : Operand α) : CmpOut :=
  match b with
  | .same other =>
      if (Gen.ordinal_BTP three self) < (Gen.ordinal_BTP three other) then
        .bool true
      else
        .bool false
  | .foreign =>
      .valueError

theorem lt_BTP_eq (a : Rating α) (b : Operand α) : Gen.lt_BTP a b = cmpOp .lt a b := by
  cases b
  · exact CmpOut.ite_bool _
  · rfl

def le_BTP (self : Rating α) (b : Operand α) : CmpOut :=
  match b with
  | .same other =>
      if (Gen.ordinal_BTP three self) ≤ (Gen.ordinal_BTP three other) then
        .bool true
      else
        .bool false
  | .foreign =>
      .valueError

theorem le_BTP_eq (a : Rating α) (b : Operand α) : Gen.le_BTP a b = cmpOp .le a b := by
  cases b
  · exact CmpOut.ite_bool _
  · rfl

def gt_BTP (self : Rating α) (b : Operand α) : CmpOut :=
  match b with
  | .same other =>
      if (Gen.ordinal_BTP three other) < (Gen.ordinal_BTP three self) then
        .bool true
      else
        .bool false
  | .foreign =>
      .valueError

theorem gt_BTP_eq (a : Rating α) (b : Operand α) : Gen.gt_BTP a b = cmpOp .gt a b := by
  cases b
  · exact CmpOut.ite_bool _
  · rfl

def ge_BTP (self : Rating α) (b : Operand α) : CmpOut :=
  match b with
  | .same other =>
      if (Gen.ordinal_BTP three other) ≤ (Gen.ordinal_BTP three self) then
        .bool true
      else
        .bool false
  | .foreign =>
      .valueError

theorem ge_BTP_eq (a : Rating α) (b : Operand α) : Gen.ge_BTP a b = cmpOp .ge a b := by
  cases b
  · exact CmpOut.ite_bool _
  · rfl

def eq_BTP (self : Rating α) (b : Operand α) : Bool :=
  match b with
  | .same other =>
      if (feq self.mu other.mu = true) ∧ (feq self.sigma other.sigma = true) then
        true
      else
        false
  | .foreign =>
      false

theorem eq_BTP_eq (a : Rating α) (b : Operand α) : Gen.eq_BTP a b = eqOp a b := by
  cases b
  · exact ite_and_bool _ _
  · rfl

def gamma_BTP (c : α) (k : Nat) (mu sigma_squared : α) (team : List (Rating α)) (rank : Nat) : α :=
  ((sqrt sigma_squared) / c)

theorem gamma_BTP_eq (c : α) (k : Nat) (mu s2 : α) (team : List (Rating α)) (rank : Nat) :
    Gen.gamma_BTP c k mu s2 team rank = gammaVal .dflt c k mu s2 team rank := rfl

/-! ### openskill/models/weng_lin/thurstone_mosteller_full.py -/
def ordinal_TMF (z : α) (self : Rating α) : α :=
  (self.mu - (z * self.sigma))

theorem ordinal_TMF_eq (z : α) (r : Rating α) : Gen.ordinal_TMF z r = ordinal z r := rfl

def lt_TMF (self : Rating α) (b : Operand α) : CmpOut :=
  match b with
  | .same other =>
      if (Gen.ordinal_TMF three self) < (Gen.ordinal_TMF three other) then
        .bool true
      else
        .bool false
  | .foreign =>
      .valueError

theorem lt_TMF_eq (a : Rating α) (b : Operand α) : Gen.lt_TMF a b = cmpOp .lt a b := by
  cases b
  · exact CmpOut.ite_bool _
  · rfl

def le_TMF (self : Rating α) (b : Operand α) : CmpOut :=
  match b with
  | .same other =>
      if (Gen.ordinal_TMF three self) ≤ (Gen.ordinal_TMF three other) then
        .bool true
      else
        .bool false
  | .foreign =>
      .valueError

theorem le_TMF_eq (a : Rating α) (b : Operand α) : Gen.le_TMF a b = cmpOp .le a b := by
  cases b
  · exact CmpOut.ite_bool _
  · rfl

def gt_TMF (self : Rating α) (b : Operand α) : CmpOut :=
  match b with
  | .same other =>
      if (Gen.ordinal_TMF three other) < (Gen.ordinal_TMF three self) then
        .bool true
      else
        .bool false
  | .foreign =>
      .valueError

theorem gt_TMF_eq (a : Rating α) (b : Operand α) : Gen.gt_TMF a b = cmpOp .gt a b := by
  cases b
  · exact CmpOut.ite_bool _
  · rfl

def ge_TMF (self : Rating α) (b : Operand α) : CmpOut :=
  match b with
  | .same other =>
      if (Gen.ordinal_TMF three other) ≤ (Gen.ordinal_TMF three self) then
        .bool true
      else
        .bool false
  | .foreign =>
      .valueError

theorem ge_TMF_eq (a : Rating α) (b : Operand α) : Gen.ge_TMF a b = cmpOp .ge a b := by
  cases b
  · exact CmpOut.ite_bool _
  · rfl

def eq_TMF (self : Rating α) (b : Operand α) : Bool :=
  match b with
  | .same other =>
      if (feq self.mu other.mu = true) ∧ (feq self.sigma other.sigma = true) then
        true
      else
        false
  | .foreign =>
      false

theorem eq_TMF_eq (a : Rating α) (b : Operand α) : Gen.eq_TMF a b = eqOp a b := by
  cases b
  · exact ite_and_bool _ _
  · rfl

def gamma_TMF (c : α) (k : Nat) (mu sigma_squared : α) (team : List (Rating α)) (rank : Nat) : α :=
  ((sqrt sigma_squared) / c)

theorem gamma_TMF_eq (c : α) (k : Nat) (mu s2 : α) (team : List (Rating α)) (rank : Nat) :
    Gen.gamma_TMF c k mu s2 team rank = gammaVal .dflt c k mu s2 team rank := rfl

/-! ### openskill/models/weng_lin/thurstone_mosteller_part.py -/
def ordinal_TMP (z : α) (self : Rating α) : α :=
  (self.mu - (z * self.sigma))

theorem ordinal_TMP_eq (z : α) (r : Rating α) : Gen.ordinal_TMP z r = ordinal z r := rfl

def lt_TMP (self : Rating α) (b : Operand α) : CmpOut :=
  match b with
  | .same other =>
      if (Gen.ordinal_TMP three self) < (Gen.ordinal_TMP three other) then
        .bool true
      else
        .bool false
  | .foreign =>
      .valueError

theorem lt_TMP_eq (a : Rating α) (b : Operand α) : Gen.lt_TMP a b = cmpOp .lt a b := by
  cases b
  · exact CmpOut.ite_bool _
  · rfl

def le_TMP (self : Rating α) (b : Operand α) : CmpOut :=
  match b with
  | .same other =>
      if (Gen.ordinal_TMP three self) ≤ (Gen.ordinal_TMP three other) then
        .bool true
      else
        .bool false
  | .foreign =>
      .valueError

theorem le_TMP_eq (a : Rating α) (b : Operand α) : Gen.le_TMP a b = cmpOp .le a b := by
  cases b
  · exact CmpOut.ite_bool _
  · rfl

def gt_TMP (self : Rating α) (b : Operand α) : CmpOut :=
  match b with
  | .same other =>
      if (Gen.ordinal_TMP three other) < (Gen.ordinal_TMP three self) then
        .bool true
      else
        .bool false
  | .foreign =>
      .valueError

theorem gt_TMP_eq (a : Rating α) (b : Operand α) : Gen.gt_TMP a b = cmpOp .gt a b := by
  cases b
  · exact CmpOut.ite_bool _
  · rfl

def ge_TMP (self : Rating α) (b : Operand α) : CmpOut :=
  match b with
  | .same other =>
      if (Gen.ordinal_TMP three other) ≤ (Gen.ordinal_TMP three self) then
        .bool true
      else
        .bool false
  | .foreign =>
      .valueError

theorem ge_TMP_eq (a : Rating α) (b : Operand α) : Gen.ge_TMP a b = cmpOp .ge a b := by
  cases b
  · exact CmpOut.ite_bool _
  · rfl

def eq_TMP (self : Rating α) (b : Operand α) : Bool :=
  match b with
  | .same other =>
      if (feq self.mu other.mu = true) ∧ (feq self.sigma other.sigma = true) then
        true
      else
        false
  | .foreign =>
      false

theorem eq_TMP_eq (a : Rating α) (b : Operand α) : Gen.eq_TMP a b = eqOp a b := by
  cases b
  · exact ite_and_bool _ _
  · rfl

def gamma_TMP (c : α) (k : Nat) (mu sigma_squared : α) (team : List (Rating α)) (rank : Nat) : α :=
  ((sqrt sigma_squared) / c)

theorem gamma_TMP_eq (c : α) (k : Nat) (mu s2 : α) (team : List (Rating α)) (rank : Nat) :
    Gen.gamma_TMP c k mu s2 team rank = gammaVal .dflt c k mu s2 team rank := rfl

/-! ### constructing and copying ratings (rating classes, model.rating, model.create_rating) -/
def deepcopy_PL (self : Rating α) : Rating α :=
  { id := self.id, mu := self.mu, sigma := self.sigma }

theorem deepcopy_PL_eq (r : Rating α) : Gen.deepcopy_PL r = deepcopyRating r := rfl

def rating_PL (selfMu selfSigma : α) (freshId : Nat) (mu sigma : Option α) : Rating α :=
  { id := freshId, mu := (match mu with | some v => v | none => selfMu), sigma := (match sigma with | some v => v | none => selfSigma) }

theorem rating_PL_eq (dm ds : α) (i : Nat) (mu sigma : Option α) : Gen.rating_PL dm ds i mu sigma = mkRating dm ds i mu sigma := rfl

def createRating_PL (freshId : Nat) (mu sigma : α) : Rating α :=
  { id := freshId, mu := mu, sigma := sigma }

theorem createRating_PL_eq (i : Nat) (mu sigma : α) : Gen.createRating_PL i mu sigma = createRating i mu sigma := rfl

def deepcopy_BTF (self : Rating α) : Rating α :=
  { id := self.id, mu := self.mu, sigma := self.sigma }

theorem deepcopy_BTF_eq (r : Rating α) : Gen.deepcopy_BTF r = deepcopyRating r := rfl

def rating_BTF (selfMu selfSigma : α) (freshId : Nat) (mu sigma : Option α) : Rating α :=
  { id := freshId, mu := (match mu with | some v => v | none => selfMu), sigma := (match sigma with | some v => v | none => selfSigma) }

theorem rating_BTF_eq (dm ds : α) (i : Nat) (mu sigma : Option α) : Gen.rating_BTF dm ds i mu sigma = mkRating dm ds i mu sigma := rfl

def createRating_BTF (freshId : Nat) (mu sigma : α) : Rating α :=
  { id := freshId, mu := mu, sigma := sigma }

theorem createRating_BTF_eq (i : Nat) (mu sigma : α) : Gen.createRating_BTF i mu sigma = createRating i mu sigma := rfl

def deepcopy_BTP (self : Rating α) : Rating α :=
  { id := self.id, mu := self.mu, sigma := self.sigma }

theorem deepcopy_BTP_eq (r : Rating α) : Gen.deepcopy_BTP r = deepcopyRating r := rfl

def rating_BTP (selfMu selfSigma : α) (freshId : Nat) (mu sigma : Option α) : Rating α :=
  { id := freshId, mu := (match mu with | some v => v | none => selfMu), sigma := (match sigma with | some v => v | none => selfSigma) }

theorem rating_BTP_eq (dm ds : α) (i : Nat) (mu sigma : Option α) : Gen.rating_BTP dm ds i mu sigma = mkRating dm ds i mu sigma := rfl

def createRating_BTP (freshId : Nat) (mu sigma : α) : Rating α :=
  { id := freshId, mu := mu, sigma := sigma }

theorem createRating_BTP_eq (i : Nat) (mu sigma : α) : Gen.createRating_BTP i mu sigma = createRating i mu sigma := rfl

def deepcopy_TMF (self : Rating α) : Rating α :=
  { id := self.id, mu := self.mu, sigma := self.sigma }

theorem deepcopy_TMF_eq (r : Rating α) : Gen.deepcopy_TMF r = deepcopyRating r := rfl

def rating_TMF (selfMu selfSigma : α) (freshId : Nat) (mu sigma : Option α) : Rating α :=
  { id := freshId, mu := (match mu with | some v => v | none => selfMu), sigma := (match sigma with | some v => v | none => selfSigma) }

theorem rating_TMF_eq (dm ds : α) (i : Nat) (mu sigma : Option α) : Gen.rating_TMF dm ds i mu sigma = mkRating dm ds i mu sigma := rfl

def createRating_TMF (freshId : Nat) (mu sigma : α) : Rating α :=
  { id := freshId, mu := mu, sigma := sigma }

theorem createRating_TMF_eq (i : Nat) (mu sigma : α) : Gen.createRating_TMF i mu sigma = createRating i mu sigma := rfl

def deepcopy_TMP (self : Rating α) : Rating α :=
  { id := self.id, mu := self.mu, sigma := self.sigma }

theorem deepcopy_TMP_eq (r : Rating α) : Gen.deepcopy_TMP r = deepcopyRating r := rfl

def rating_TMP (selfMu selfSigma : α) (freshId : Nat) (mu sigma : Option α) : Rating α :=
  { id := freshId, mu := (match mu with | some v => v | none => selfMu), sigma := (match sigma with | some v => v | none => selfSigma) }

theorem rating_TMP_eq (dm ds : α) (i : Nat) (mu sigma : Option α) : Gen.rating_TMP dm ds i mu sigma = mkRating dm ds i mu sigma := rfl

def createRating_TMP (freshId : Nat) (mu sigma : α) : Rating α :=
  { id := freshId, mu := mu, sigma := sigma }

theorem createRating_TMP_eq (i : Nat) (mu sigma : α) : Gen.createRating_TMP i mu sigma = createRating i mu sigma := rfl

end Gen
end OS
