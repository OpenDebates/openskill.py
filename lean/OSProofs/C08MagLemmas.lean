import OSProofs.Props.C08b
/-!
# Helper lemmas for C08Mag: the domains, one pair of teams, `(Ω_i, Δ_i)` of every model

The arithmetic is interval arithmetic from `RealBounds`: each quantity gets its interval from the
intervals of its operands by one monotonicity lemma.  The pair terms are read through their closed
forms in `PairLemmas` (`Grd.ciq`, `Mag.btP` unfold to `pairC`, `btP`).
-/
noncomputable section
namespace OS

namespace Mag

/-! ### the domains -/

/-- a valid `rate` call in the supported numeric range, WITH the upper bounds that the
magnitude statements need: `β > 0`, `0 < κ ≤ 1/100`, `0 ≤ τ ≤ 10β`, 2..8 teams of 1..16 players,
`|mu| ≤ 20β`, `0 ≤ sigma ≤ 10β`, and a floor `lo > 0` such that every player has `lo ≤ sigma` or
`lo ≤ τ`  (`lo = 1e-4·β` when every sigma is at least `1e-4·β`; `lo = min(1e-4·β, τ)` when
`sigma = 0` is admitted together with `τ > 0`) -/
structure Domain (β κ τ lo : ℝ) (teams : List (List (Rating ℝ))) : Prop where
  beta_pos : 0 < β
  lo_pos : 0 < lo
  kappa_pos : 0 < κ
  kappa_le : κ ≤ 1 / 100
  tau_nonneg : 0 ≤ τ
  tau_le : τ ≤ 10 * β
  teams_ge : 2 ≤ teams.length
  teams_le : teams.length ≤ 8
  players_ge : ∀ t ∈ teams, 1 ≤ t.length
  players_le : ∀ t ∈ teams, t.length ≤ 16
  mu_bound : ∀ t ∈ teams, ∀ p ∈ t, |p.mu| ≤ 20 * β
  sigma_nonneg : ∀ t ∈ teams, ∀ p ∈ t, 0 ≤ p.sigma
  sigma_le : ∀ t ∈ teams, ∀ p ∈ t, p.sigma ≤ 10 * β
  floor : ∀ t ∈ teams, ∀ p ∈ t, lo ≤ p.sigma ∨ lo ≤ τ

/-- what `_compute` receives on `Mag.Domain`: tau-inflated ratings with
`lo ≤ σ̂` and `σ̂² ≤ 200β²` (`= (10β)² + (10β)²`), in any order -/
structure Inflated (β lo : ℝ) (teams : List (List (Rating ℝ))) : Prop where
  beta_pos : 0 < β
  lo_pos : 0 < lo
  teams_ge : 2 ≤ teams.length
  teams_le : teams.length ≤ 8
  players_ge : ∀ t ∈ teams, 1 ≤ t.length
  players_le : ∀ t ∈ teams, t.length ≤ 16
  mu_bound : ∀ t ∈ teams, ∀ p ∈ t, |p.mu| ≤ 20 * β
  sigma_ge : ∀ t ∈ teams, ∀ p ∈ t, lo ≤ p.sigma
  sigma_sq_le : ∀ t ∈ teams, ∀ p ∈ t, p.sigma * p.sigma ≤ 200 * (β * β)

/-- the bounds on a list of team aggregates from which every later bound is derived -/
structure AggBounds (β lo : ℝ) (ts : List (TeamAgg ℝ)) : Prop where
  beta_pos : 0 < β
  lo_pos : 0 < lo
  len_ge : 2 ≤ ts.length
  len_le : ts.length ≤ 8
  mu : ∀ t ∈ ts, |t.mu| ≤ 320 * β
  var_ge : ∀ t ∈ ts, lo * lo ≤ t.sig2
  var_le : ∀ t ∈ ts, t.sig2 ≤ 3200 * (β * β)
  player_mu : ∀ t ∈ ts, ∀ p ∈ t.players, |p.mu| ≤ 20 * β
  player_sigma_ge : ∀ t ∈ ts, ∀ p ∈ t.players, lo ≤ p.sigma
  player_sigma_sq_le : ∀ t ∈ ts, ∀ p ∈ t.players, p.sigma * p.sigma ≤ 200 * (β * β)
  player_share : ∀ t ∈ ts, ∀ p ∈ t.players, p.sigma * p.sigma ≤ t.sig2

end Mag

/-! ### the domain: relation to `Grd.Domain`, inflation, sorting -/

theorem mag_inflated_toGrd {β lo : ℝ} {teams : List (List (Rating ℝ))}
    (I : Mag.Inflated β lo teams) : Grd.Inflated β teams where
  teams_ge := I.teams_ge
  players_ge := I.players_ge
  players_le := I.players_le
  mu_bound := I.mu_bound
  sigma_pos := fun t ht p hp => lt_of_lt_of_le I.lo_pos (I.sigma_ge t ht p hp)

theorem mag_inflate_one {β τ lo σ : ℝ} (hlo : 0 < lo) (hσ0 : 0 ≤ σ) (hσ : σ ≤ 10 * β)
    (hτ0 : 0 ≤ τ) (hτ : τ ≤ 10 * β) (hf : lo ≤ σ ∨ lo ≤ τ) :
    let s := Real.sqrt (σ * σ + τ * τ)
    lo ≤ s ∧ s * s ≤ 200 * (β * β) := by
  have hσσ := mul_self_nonneg σ
  have hττ := mul_self_nonneg τ
  refine ⟨le_sqrt_of_mul_self_le hlo.le ?_, ?_⟩
  · rcases hf with h | h
    · exact (mul_le_mul h h hlo.le hσ0).trans (le_add_of_nonneg_right hττ)
    · exact (mul_le_mul h h hlo.le hτ0).trans (le_add_of_nonneg_left hσσ)
  · rw [Real.mul_self_sqrt (add_nonneg hσσ hττ)]
    have h10 := hσ0.trans hσ
    exact (add_le_add (mul_le_mul hσ hσ hσ0 h10) (mul_le_mul hτ hτ hτ0 h10)).trans_eq (by ring)

theorem mag_inflate_domain {β κ τ lo : ℝ} {teams : List (List (Rating ℝ))}
    (D : Mag.Domain β κ τ lo teams) : Mag.Inflated β lo (inflate τ teams) :=
  have h1 := fun t ht p hp => mag_inflate_one D.lo_pos (D.sigma_nonneg t ht p hp)
    (D.sigma_le t ht p hp) D.tau_nonneg D.tau_le (D.floor t ht p hp)
  ⟨D.beta_pos, D.lo_pos, (inflate_length τ teams).symm ▸ D.teams_ge,
    (inflate_length τ teams).symm ▸ D.teams_le,
    inflate_forall_length (Q := (1 ≤ ·)) D.players_ge, inflate_forall_length (Q := (· ≤ 16)) D.players_le,
    inflate_forall_players D.mu_bound, inflate_forall_players fun t ht p hp => (h1 t ht p hp).1,
    inflate_forall_players fun t ht p hp => (h1 t ht p hp).2⟩

theorem mag_unwind_inflated {ρ : Type} {β lo : ℝ} {teams : List (List (Rating ℝ))}
    (I : Mag.Inflated β lo teams) (le : ρ → ρ → Bool) (r : List ρ) (hr : r.length = teams.length) :
    Mag.Inflated β lo (unwind le r teams).1 :=
  have hl := (unwind_lengths le hr).1
  ⟨I.beta_pos, I.lo_pos, hl.symm ▸ I.teams_ge, hl.symm ▸ I.teams_le,
    fun t ht => I.players_ge t (mem_unwind_fst le r teams ht),
    fun t ht => I.players_le t (mem_unwind_fst le r teams ht),
    fun t ht => I.mu_bound t (mem_unwind_fst le r teams ht),
    fun t ht => I.sigma_ge t (mem_unwind_fst le r teams ht),
    fun t ht => I.sigma_sq_le t (mem_unwind_fst le r teams ht)⟩

/-! ### one team aggregate -/

theorem mag_team_var_le (team : List (Rating ℝ)) (rk : Nat) (B : ℝ) (hB : 0 ≤ B)
    (hlen : team.length ≤ 16) (h : ∀ p ∈ team, p.sigma * p.sigma ≤ B) :
    (teamAgg team rk).sig2 ≤ 16 * B := by
  simp only [teamAgg, sumL_eq_sum]
  exact sum_map_le_of_length team (fun p => p.sigma * p.sigma) B 16 hB hlen h

theorem mag_team_var_ge (team : List (Rating ℝ)) (rk : Nat) (lo : ℝ) (hlo : 0 ≤ lo)
    (hlen : 1 ≤ team.length) (h : ∀ p ∈ team, lo ≤ p.sigma) :
    lo * lo ≤ (teamAgg team rk).sig2 := by
  obtain ⟨p, hp⟩ := List.exists_mem_of_length_pos hlen
  exact (mul_le_mul (h p hp) (h p hp) hlo (hlo.trans (h p hp))).trans (sq_sigma_le_teamAgg_sig2 team rk hp)

theorem mag_aggBounds {β lo : ℝ} {teams : List (List (Rating ℝ))} (I : Mag.Inflated β lo teams)
    (dense : List Nat) (hd : dense.length = teams.length) :
    Mag.AggBounds β lo (teamAggs teams dense) := by
  have hβ := I.beta_pos
  have hl := teamAggs_length_of_eq hd
  -- every aggregate is `teamAgg tm rk` of a team of the game
  have key : ∀ {P : TeamAgg ℝ → Prop}, (∀ tm ∈ teams, ∀ rk, P (teamAgg tm rk)) →
      ∀ t ∈ teamAggs teams dense, P t := fun h t ht => by
    obtain ⟨tm, hm, rk, rfl⟩ := mem_teamAggs ht
    exact h tm hm rk
  exact ⟨hβ, I.lo_pos, hl.symm ▸ I.teams_ge, hl.symm ▸ I.teams_le,
    key fun tm hm rk => grd_team_mu_bound tm rk β hβ (I.players_le tm hm) (I.mu_bound tm hm),
    key fun tm hm rk => mag_team_var_ge tm rk lo I.lo_pos.le (I.players_ge tm hm) (I.sigma_ge tm hm),
    key fun tm hm rk => (mag_team_var_le tm rk (200 * (β * β)) (by positivity) (I.players_le tm hm)
      (I.sigma_sq_le tm hm)).trans_eq (by ring),
    key fun tm hm _ => I.mu_bound tm hm, key fun tm hm _ => I.sigma_ge tm hm,
    key fun tm hm _ => I.sigma_sq_le tm hm, key fun tm _ rk p hp => sq_sigma_le_teamAgg_sig2 tm rk hp⟩

theorem Mag.AggBounds.var_nonneg {β lo : ℝ} {ts : List (TeamAgg ℝ)} (A : Mag.AggBounds β lo ts)
    {t : TeamAgg ℝ} (ht : t ∈ ts) : 0 ≤ t.sig2 :=
  (mul_self_nonneg lo).trans (A.var_ge t ht)

/-! ### Bradley–Terry: one ordered pair of teams -/

namespace Mag

/-- the logistic argument of the Bradley–Terry pair `(i, q)` -/
def btArg (β : ℝ) (ti tq : TeamAgg ℝ) : ℝ := (tq.mu - ti.mu) / Grd.ciq β ti tq

/-- `p_iq = 1 / (1 + exp((θ_q − θ_i)/c_iq))` -/
def btP (β : ℝ) (ti tq : TeamAgg ℝ) : ℝ := 1 / (1 + Real.exp (btArg β ti tq))

/-- every intermediate quantity of `btPair β g n ti tq` (default gamma for the gamma and delta
fields) -/
structure BTPairBounds (β lo : ℝ) (n : ℕ) (ti tq : TeamAgg ℝ) : Prop where
  ciq_ge : Real.sqrt 2 * β ≤ Grd.ciq β ti tq
  ciq_le : Grd.ciq β ti tq ≤ 81 * β
  arg_abs : |btArg β ti tq| ≤ 453
  exp_ge : Real.exp (-453) ≤ Real.exp (btArg β ti tq)
  exp_le : Real.exp (btArg β ti tq) ≤ Real.exp 453
  denom_ge : 1 ≤ 1 + Real.exp (btArg β ti tq)
  denom_le : 1 + Real.exp (btArg β ti tq) ≤ 2 * Real.exp 453
  p_ge : Real.exp (-453) / 2 ≤ btP β ti tq
  p_le : btP β ti tq ≤ 1
  q_ge : Real.exp (-453) / 2 ≤ 1 - btP β ti tq
  q_le : 1 - btP β ti tq ≤ 1
  pq_ge : Real.exp (-453) / 4 ≤ btP β ti tq * (1 - btP β ti tq)
  pq_le : btP β ti tq * (1 - btP β ti tq) ≤ 1 / 4
  s2c_ge : lo * lo / (81 * β) ≤ ti.sig2 / Grd.ciq β ti tq
  s2c_le : ti.sig2 / Grd.ciq β ti tq ≤ 81 * β
  s2cc_ge : lo * lo / (81 * β) / (81 * β) ≤ ti.sig2 / Grd.ciq β ti tq / Grd.ciq β ti tq
  s2cc_le : ti.sig2 / Grd.ciq β ti tq / Grd.ciq β ti tq ≤ 1
  gamma_ge : lo / (81 * β) ≤ gammaVal .dflt (Grd.ciq β ti tq) n ti.mu ti.sig2 ti.players ti.rank
  gamma_le : gammaVal .dflt (Grd.ciq β ti tq) n ti.mu ti.sig2 ti.players ti.rank ≤ 1
  /-- the pair's contribution to `Ω_i`, for any gamma -/
  omega_abs : ∀ g : GammaFn ℝ, |(btPair β g n ti tq).1| ≤ 81 * β
  /-- the pair's contribution to `Δ_i`, default gamma -/
  delta_ge : lo / (81 * β) * (lo * lo / (81 * β) / (81 * β)) * (Real.exp (-453) / 4)
      ≤ (btPair β .dflt n ti tq).2
  delta_le : (btPair β .dflt n ti tq).2 ≤ 1 / 4

end Mag

/-- `c_iq` on the aggregates of the domain: `σ_i² + σ_q² + 2β² ≤ 6402β² ≤ (81β)²` -/
theorem mag_ciq_bounds {β lo : ℝ} {ts : List (TeamAgg ℝ)} (A : Mag.AggBounds β lo ts)
    {ti tq : TeamAgg ℝ} (hi : ti ∈ ts) (hq : tq ∈ ts) :
    let c := Grd.ciq β ti tq
    Real.sqrt 2 * β ≤ c ∧ c ≤ 81 * β ∧ β ≤ c ∧ ti.sig2 ≤ c * c := by
  have hβ := A.beta_pos
  have hββ := mul_self_nonneg β
  have hsi := A.var_nonneg hi
  have hsq := A.var_nonneg hq
  have h1 := (C08_ciq_pos β ti.sig2 tq.sig2 hβ hsi hsq).2
  refine ⟨h1, sqrt_le_of_le_mul_self (mul_nonneg (by norm_num) hβ.le) ?_,
    le_of_sqrt_two_mul_le hβ.le h1, ?_⟩
  · linarith [A.var_le ti hi, A.var_le tq hq]
  · rw [Grd.ciq, Real.mul_self_sqrt (by positivity)]
    linarith

theorem mag_btPair_bounds {β lo : ℝ} {ts : List (TeamAgg ℝ)} (A : Mag.AggBounds β lo ts) (n : ℕ)
    {ti tq : TeamAgg ℝ} (hi : ti ∈ ts) (hq : tq ∈ ts) : Mag.BTPairBounds β lo n ti tq := by
  have hβ := A.beta_pos
  have hlo := A.lo_pos
  obtain ⟨hc1, hc2, hc3, hsc⟩ := mag_ciq_bounds A hi hq
  have hcpos : 0 < Grd.ciq β ti tq := hβ.trans_le hc3
  have h81 : 0 ≤ 81 * β := hcpos.le.trans hc2
  have harg : |Mag.btArg β ti tq| ≤ 453 := C08_bt_exp_arg_bound β _ _ hβ
    ((abs_sub_le_add (A.mu tq hq) (A.mu ti hi)).trans_eq (by ring)) hc1
  obtain ⟨he1, he2⟩ := exp_bounds_of_abs_le harg
  obtain ⟨⟨l1, l2⟩, ⟨l3, l4⟩, l5, l6⟩ := logistic_bounds (Real.exp_pos _)
    (Real.exp_le_one_iff.mpr (by norm_num)) he1
    (he2.trans_eq (by rw [Real.exp_neg, one_div, inv_inv]))
  obtain ⟨⟨s1, s1'⟩, ⟨s2, s2'⟩, g1, g2⟩ := team_factors hlo.le (A.var_ge ti hi) hcpos hsc hc2
  have hs0 : 0 ≤ ti.sig2 / Grd.ciq β ti tq := div_nonneg (A.var_nonneg hi) hcpos.le
  have hε0 : 0 ≤ Real.exp (-453) / 4 := div_nonneg (Real.exp_pos _).le (by norm_num)
  have hp0 : 0 ≤ Mag.btP β ti tq := (div_nonneg (Real.exp_pos _).le zero_le_two).trans l1
  have hΔ : (btPair β .dflt n ti tq).2 = Real.sqrt ti.sig2 / Grd.ciq β ti tq
      * (ti.sig2 / Grd.ciq β ti tq / Grd.ciq β ti tq)
      * (Mag.btP β ti tq * (1 - Mag.btP β ti tq)) := by
    rw [btPair_snd, mul_div_assoc, mul_assoc]
    rfl  -- `pairC` is `Grd.ciq`, `btP` is `Mag.btP`, the default gamma is `√σ_i²/c`
  exact
    { ciq_ge := hc1, ciq_le := hc2, arg_abs := harg, exp_ge := he1, exp_le := he2
      denom_ge := le_add_of_nonneg_right (Real.exp_pos _).le
      denom_le := (two_mul (Real.exp 453)).symm ▸ add_le_add (Real.one_le_exp (by norm_num)) he2
      p_ge := l1, p_le := l2, q_ge := l3, q_le := l4, pq_ge := l5, pq_le := l6
      s2c_ge := s1, s2c_le := s1'.trans hc2, s2cc_ge := s2, s2cc_le := s2'
      gamma_ge := g1, gamma_le := g2
      omega_abs := fun g => by
        obtain ⟨hs0', hs1⟩ := byOutcome_mem (w := 1) (d := 1 / 2) (l := 0) (by norm_num) (by norm_num)
          ti.rank tq.rank
        rw [btPair_fst]
        -- in the vocabulary of the bounds: `pairC` is `Grd.ciq`, `btP` is `Mag.btP`
        show |ti.sig2 / Grd.ciq β ti tq * (_ - Mag.btP β ti tq)| ≤ 81 * β
        rw [abs_mul, abs_of_nonneg hs0]
        exact (mul_le_of_le_one_right hs0 (abs_sub_le_of_nonneg_of_le hs0' hs1 hp0 l2)).trans
          (s1'.trans hc2)
      delta_ge := (mul3_le_mul3 (div_nonneg hlo.le h81)
        (div_nonneg (div_nonneg (mul_self_nonneg lo) h81) h81) hε0 g1 s2 l5).trans_eq hΔ.symm
      delta_le := hΔ.trans_le (mul3_le_of_le_one (div_nonneg hs0 hcpos.le) g2 s2' (hε0.trans l5) l6) }

/-! ### pairing loops -/

theorem sumPairs_map_bounds {γ : Type} (l : List γ) (pr : γ → ℝ × ℝ) (m : ℕ) {B D : ℝ} (hB : 0 ≤ B)
    (hD : 0 ≤ D) (hl : l.length ≤ m) (h : ∀ q ∈ l, |(pr q).1| ≤ B ∧ 0 ≤ (pr q).2 ∧ (pr q).2 ≤ D) :
    let od := sumPairs (l.map pr)
    |od.1| ≤ m * B ∧ 0 ≤ od.2 ∧ od.2 ≤ m * D := by
  rw [sumPairs_map]
  exact ⟨abs_sum_map_le_of_length l _ B m hB hl fun q hq => (h q hq).1,
    sum_map_nonneg l _ fun q hq => (h q hq).2.1,
    sum_map_le_of_length l _ D m hD hl fun q hq => (h q hq).2.2⟩

/-- the opponents of position `i` under either pairing: all others, or the at most two ladder neighbours
(hence `2 ≤ m`) -/
theorem opponents_length_le_and_mem {γ : Type} {ts : List γ} {i m : ℕ} (h2 : 2 ≤ m) (hm : ts.length ≤ m)
    {l : List γ} (hl : l = othersOf ts i ∨ l = neighboursOf ts i) :
    l.length ≤ m ∧ ∀ q ∈ l, q ∈ ts := by
  rcases hl with rfl | rfl
  · rw [othersOf_eq_eraseIdx]
    exact ⟨(List.length_eraseIdx_le ts i).trans hm, fun _ h => List.mem_of_mem_eraseIdx h⟩
  · exact ⟨(neighboursOf_length_le ts i).trans h2, fun _ h => mem_of_mem_neighboursOf h⟩

theorem mag_pairing_BT {β lo : ℝ} {ts : List (TeamAgg ℝ)} (A : Mag.AggBounds β lo ts)
    {ti : TeamAgg ℝ} (hti : ti ∈ ts) {i : ℕ} {l : List (TeamAgg ℝ)}
    (hl : l = othersOf ts i ∨ l = neighboursOf ts i) :
    let od := sumPairs (l.map (btPair β .dflt ts.length ti))
    |od.1| ≤ 648 * β ∧ 0 ≤ od.2 ∧ od.2 ≤ 2 := by
  obtain ⟨hl8, hmem⟩ := opponents_length_le_and_mem (m := 8) (by norm_num) A.len_le hl
  obtain ⟨h1, h2, h3⟩ := sumPairs_map_bounds l (btPair β .dflt ts.length ti) 8
    (mul_nonneg (by norm_num) A.beta_pos.le) (by norm_num) hl8 fun q hq =>
      have B := mag_btPair_bounds A ts.length hti (hmem q hq)
      ⟨B.omega_abs .dflt, btPair_snd_nonneg β _ gammaOK_dflt _ ti q (A.var_nonneg hti), B.delta_le⟩
  exact ⟨h1.trans_eq (by ring), h2, h3.trans_eq (by norm_num)⟩

/-! ### Plackett–Luce -/

/-- the Plackett–Luce `c` on the aggregates of the domain: `Σ_i (σ_i² + β²) ≤ 8·3201β² = 25608β² ≤ (161β)²` -/
theorem mag_plC_bounds {β lo : ℝ} {ts : List (TeamAgg ℝ)} (A : Mag.AggBounds β lo ts) :
    let c := plC β ts
    Real.sqrt 2 * β ≤ c ∧ c ≤ 161 * β ∧ β ≤ c ∧ ∀ t ∈ ts, t.sig2 ≤ c * c := by
  have hβ := A.beta_pos
  have hββ := mul_self_nonneg β
  have hs : ∀ t ∈ ts, 0 ≤ t.sig2 := fun t ht => A.var_nonneg ht
  have h1 := sqrt_two_mul_le_plC β hβ ts A.len_ge hs
  have hnn : ∀ t ∈ ts, 0 ≤ (fun t : TeamAgg ℝ => t.sig2 + β * β) t :=
    fun t ht => add_nonneg (hs t ht) hββ
  have hc : plC β ts = Real.sqrt (ts.map (fun t => t.sig2 + β * β)).sum := by
    unfold plC; rw [sc_sqrt, sumL_eq_sum]
  refine ⟨h1, ?_, le_of_sqrt_two_mul_le hβ.le h1, fun t ht => ?_⟩
  · rw [hc]
    refine sqrt_le_of_le_mul_self (mul_nonneg (by norm_num) hβ.le) ?_
    have h2 := sum_map_le_of_length ts (fun t => t.sig2 + β * β) (3201 * (β * β)) 8 (by positivity)
      A.len_le (fun t ht => (add_le_add (A.var_le t ht) (le_refl (β * β))).trans_eq
        (by ring : 3200 * (β * β) + β * β = 3201 * (β * β)))
    push_cast at h2
    linarith
  · rw [hc, Real.mul_self_sqrt (sum_map_nonneg ts _ hnn)]
    exact (le_add_of_nonneg_right hββ).trans (le_sum_map_of_mem ts _ hnn ht)

theorem mag_pl_team_factors {β lo : ℝ} {ts : List (TeamAgg ℝ)} (A : Mag.AggBounds β lo ts)
    {ti : TeamAgg ℝ} (hti : ti ∈ ts) :
    let c := plC β ts
    let γ := gammaVal .dflt c ts.length ti.mu ti.sig2 ti.players ti.rank
    (lo * lo / (161 * β) ≤ ti.sig2 / c ∧ ti.sig2 / c ≤ 161 * β)
    ∧ (lo * lo / (161 * β) / (161 * β) ≤ ti.sig2 / (c * c) ∧ ti.sig2 / (c * c) ≤ 1)
    ∧ (lo / (161 * β) ≤ γ ∧ γ ≤ 1) := by
  intro c γ
  obtain ⟨_, hc2, hc3, hcs⟩ := mag_plC_bounds A
  obtain ⟨⟨s1, s1'⟩, s2, g⟩ := team_factors A.lo_pos.le (A.var_ge ti hti) (A.beta_pos.trans_le hc3)
    (hcs ti hti) hc2
  rw [← div_div ti.sig2]
  exact ⟨⟨s1, s1'.trans hc2⟩, s2, g⟩

theorem mag_plSumQ_bounds {ts : List (TeamAgg ℝ)} {m : ℕ} (hlen : ts.length ≤ m) (c : ℝ) {E : ℝ}
    (hc : ∀ t ∈ ts, |t.mu / c| ≤ E) :
    ∀ tq ∈ ts, Real.exp (-E) ≤ fl1_plSum ts c tq ∧ fl1_plSum ts c tq ≤ m * Real.exp E := by
  intro tq htq
  refine ⟨(exp_bounds_of_abs_le (hc tq htq)).1.trans (pl_term_le_sumQ ts c htq le_rfl), ?_⟩
  rw [fl1_plSum, sumL_eq_sum]
  exact sum_map_le_of_length _ (fun ti => Real.exp (ti.mu / c)) (Real.exp E) m (Real.exp_pos _).le
    ((List.length_filter_le _ _).trans hlen) fun x hx => (exp_bounds_of_abs_le (hc x (List.mem_filter.mp hx).1)).2

/-- `p_iq ≥ e^{-454}/8 = e^{-227} / (8·e^{227})`: numerator and denominator at their bounds -/
theorem mag_pl_p_ge {β lo : ℝ} {ts : List (TeamAgg ℝ)} (A : Mag.AggBounds β lo ts)
    (c : ℝ) (hc : ∀ t ∈ ts, |t.mu / c| ≤ 227) {ti tq : TeamAgg ℝ} (hti : ti ∈ ts) (htq : tq ∈ ts) :
    Real.exp (-454) / 8 ≤ Real.exp (ti.mu / c) / fl1_plSum ts c tq := by
  obtain ⟨h1, h2⟩ := mag_plSumQ_bounds A.len_le c hc tq htq
  have h4 : Real.exp (-454) / 8 = Real.exp (-227) / (8 * Real.exp 227) := by
    rw [show (-454 : ℝ) = -227 - 227 by norm_num, Real.exp_sub, div_div, mul_comm]
  rw [h4]
  exact div_le_div₀ (Real.exp_pos _).le (exp_bounds_of_abs_le (hc ti hti)).1
    ((Real.exp_pos _).trans_le h1) h2

/-- one row of the Plackett–Luce inner loop, with `p_iq ∈ [0,1]` and `A_q ≥ 1`: the summand of `Ω_i`
(whether or not the row is team `i`'s own) and the summand of `Δ_i` -/
theorem pl_row_bounds {p a : ℝ} (hp : 0 ≤ p ∧ p ≤ 1) (ha : 1 ≤ a) :
    (∀ (own : Prop) [Decidable own], |if own then (1 - p) / a else -(p / a)| ≤ 1)
    ∧ 0 ≤ p * (1 - p) / a ∧ p * (1 - p) / a ≤ 1 / 4 := by
  obtain ⟨p0, p1⟩ := hp
  have a0 := zero_le_one.trans ha
  have q0 := sub_nonneg.mpr p1
  refine ⟨fun own _ => ?_, div_nonneg (mul_nonneg p0 q0) a0,
    (div_le_self (mul_nonneg p0 q0) ha).trans (mul_one_sub_le_quarter p)⟩
  split_ifs
  · rw [abs_of_nonneg (div_nonneg q0 a0)]
    exact (div_le_self q0 ha).trans (sub_le_self _ p0)
  · rw [abs_neg, abs_of_nonneg (div_nonneg p0 a0)]
    exact (div_le_self p0 ha).trans p1

/-- the Plackett–Luce inner loop of team `i` for any `c` and any gamma: `Ω_i` is `σ_i²/c` times a sum
of at most `m` terms in `[-1, 1]`, `Δ_i` is `σ_i²/c²·γ` times a sum `D` of at most `m` terms in
`[0, 1/4]`; `m` bounds the number of teams -/
theorem mag_plOmegaDelta_any (g : GammaFn ℝ) {ts : List (TeamAgg ℝ)} (c : ℝ) (i : ℕ)
    {ti : TeamAgg ℝ} (hti : ti ∈ ts) {m : ℕ} (hlen : ts.length ≤ m) :
    let od := plOmegaDelta g ts c (plSumQ ts c) (plA ts) i ti
    |od.1| ≤ m * 1 * |ti.sig2 / c| ∧ ∃ D : ℝ, 0 ≤ D ∧ D ≤ m * (1 / 4)
      ∧ od.2 = D * (ti.sig2 / (c * c)) * gammaVal g c ts.length ti.mu ti.sig2 ti.players ti.rank := by
  -- the rows: `(q, sum_q[q], A_q)` for the teams `q` ranked no worse than `i`
  let qs := (ts.zip ((plSumQ ts c).zip (plA ts))).zipIdx.filter
    (fun x => decide (x.1.1.rank ≤ ti.rank))
  have hrow : ∀ x ∈ qs, (0 ≤ Real.exp (ti.mu / c) / x.1.2.1 ∧ Real.exp (ti.mu / c) / x.1.2.1 ≤ 1)
      ∧ (1 : ℝ) ≤ x.1.2.2 := fun x hx => by
    obtain ⟨tq, hq, hr, hxe⟩ := fl1_pl_mem_qs hx
    rw [hxe]
    exact ⟨pl_p_mem ts c ti tq hti hr,
      Nat.one_le_cast.mpr (fl1_plCnt_pos (List.mem_of_getElem? hq))⟩
  have hb := fun x hx => pl_row_bounds (hrow x hx).1 (hrow x hx).2
  have hm : qs.length ≤ m := (List.length_filter_le _ _).trans (by
    rw [List.length_zipIdx, fl1_pl_zip, List.length_map]; exact hlen)
  simp only [plOmegaDelta, sc_exp, sc_one, sumL_eq_sum]
  refine ⟨?_, _, sum_map_nonneg _ _ fun x hx => (hb x hx).2.1,
    sum_map_le_of_length _ _ (1 / 4) m (by norm_num) hm fun x hx => (hb x hx).2.2, rfl⟩
  rw [abs_mul]
  exact mul_le_mul_of_nonneg_right
    (abs_sum_map_le_of_length _ _ 1 m zero_le_one hm fun x hx => (hb x hx).1 _) (abs_nonneg _)

theorem mag_plOmegaDelta {β lo : ℝ} {ts : List (TeamAgg ℝ)} (A : Mag.AggBounds β lo ts) (i : Nat)
    (ti : TeamAgg ℝ) (hti : ti ∈ ts) :
    let od := plOmegaDelta .dflt ts (plC β ts) (plSumQ ts (plC β ts)) (plA ts) i ti
    |od.1| ≤ 1288 * β ∧ 0 ≤ od.2 ∧ od.2 ≤ 2 := by
  have hc0 : 0 ≤ plC β ts := A.beta_pos.le.trans (mag_plC_bounds A).2.2.1
  have hs0 := A.var_nonneg hti
  obtain ⟨⟨_, s1⟩, ⟨_, s2⟩, _, g2⟩ := mag_pl_team_factors A hti
  have hS : 0 ≤ ti.sig2 / plC β ts := div_nonneg hs0 hc0
  have hSS : 0 ≤ ti.sig2 / (plC β ts * plC β ts) := div_nonneg hs0 (mul_self_nonneg _)
  have hG : 0 ≤ gammaVal .dflt (plC β ts) ts.length ti.mu ti.sig2 ti.players ti.rank :=
    gammaOK_dflt _ _ _ _ _ _ hc0 hs0
  obtain ⟨hom, D, hD0, hD, hde⟩ := mag_plOmegaDelta_any .dflt (plC β ts) i hti A.len_le
  rw [abs_of_nonneg hS] at hom
  exact ⟨hom.trans ((mul_le_mul_of_nonneg_left s1 (by norm_num)).trans_eq (by ring)),
    (mul_nonneg (mul_nonneg hD0 hSS) hG).trans_eq hde.symm,
    hde.trans_le ((mul_le_mul (mul_le_mul hD s2 hSS (by norm_num)) g2 hG (by norm_num)).trans_eq
      (by norm_num))⟩

/-! ### Thurstone–Mosteller: the four correction functions -/

namespace Mag

/-- magnitude facts about the four correction functions `v, w, vt, wt` -/
structure LeafBounds (L : Leaves ℝ) : Prop where
  v_abs : ∀ x t : ℝ, |L.v x t| ≤ |x| + |t| + 1
  w_mem : ∀ x t : ℝ, 0 ≤ L.w x t ∧ L.w x t ≤ 1
  vt_abs : ∀ x t : ℝ, 0 ≤ t → |L.vt x t| ≤ |x| + t
  wt_mem : ∀ x t : ℝ, 0 ≤ t → 0 ≤ L.wt x t ∧ L.wt x t ≤ 1

end Mag

/-- the factor `tmPair_fst` selects by the outcome -/
theorem Mag.LeafBounds.byOutcome_v_abs {L : Leaves ℝ} (LB : Mag.LeafBounds L) (x : ℝ) {t : ℝ}
    (ht : 0 ≤ t) (ri rq : ℕ) :
    |byOutcome ri rq (L.v x t) (L.vt x t) (-L.v (-x) t)| ≤ |x| + t + 1 :=
  byOutcome_cases (P := fun V => |V| ≤ |x| + t + 1) ri rq
    ((LB.v_abs x t).trans_eq (by rw [abs_of_nonneg ht]))
    ((LB.vt_abs x t ht).trans (le_add_of_nonneg_right zero_le_one))
    ((abs_neg _).trans_le ((LB.v_abs (-x) t).trans_eq (by rw [abs_neg, abs_of_nonneg ht])))

/-- the factor `tmPair_snd` selects by the outcome -/
theorem Mag.LeafBounds.byOutcome_w_mem {L : Leaves ℝ} (LB : Mag.LeafBounds L) (x : ℝ) {t : ℝ}
    (ht : 0 ≤ t) (ri rq : ℕ) :
    0 ≤ byOutcome ri rq (L.w x t) (L.wt x t) (L.w (-x) t)
    ∧ byOutcome ri rq (L.w x t) (L.wt x t) (L.w (-x) t) ≤ 1 :=
  byOutcome_cases (P := fun W => 0 ≤ W ∧ W ≤ 1) ri rq (LB.w_mem x t) (LB.wt_mem x t ht)
    (LB.w_mem (-x) t)

/-! ### Thurstone–Mosteller: one ordered pair of teams -/

namespace Mag

/-- every intermediate quantity of `tmPair L cmul β κ g n ti tq` (`c = cmul·c_iq`; default gamma
for the gamma and delta fields) -/
structure TMPairBounds (L : Leaves ℝ) (β lo κ cmul : ℝ) (n : ℕ) (ti tq : TeamAgg ℝ) : Prop where
  c_ge : Real.sqrt 2 * β ≤ cmul * Grd.ciq β ti tq
  c_le : cmul * Grd.ciq β ti tq ≤ 162 * β
  x_abs : |(ti.mu - tq.mu) / (cmul * Grd.ciq β ti tq)| ≤ 453
  t_pos : 0 < κ / (cmul * Grd.ciq β ti tq)
  t_le : κ / (cmul * Grd.ciq β ti tq) ≤ κ / β
  t_ge : κ / (162 * β) ≤ κ / (cmul * Grd.ciq β ti tq)
  s2c_ge : lo * lo / (162 * β) ≤ ti.sig2 / (cmul * Grd.ciq β ti tq)
  s2c_le : ti.sig2 / (cmul * Grd.ciq β ti tq) ≤ 81 * β
  s2cc_ge : lo * lo / (162 * β) / (162 * β)
      ≤ ti.sig2 / (cmul * Grd.ciq β ti tq) / (cmul * Grd.ciq β ti tq)
  s2cc_le : ti.sig2 / (cmul * Grd.ciq β ti tq) / (cmul * Grd.ciq β ti tq) ≤ 1
  gamma_ge : lo / (162 * β)
      ≤ gammaVal .dflt (cmul * Grd.ciq β ti tq) n ti.mu ti.sig2 ti.players ti.rank
  gamma_le : gammaVal .dflt (cmul * Grd.ciq β ti tq) n ti.mu ti.sig2 ti.players ti.rank ≤ 1
  /-- the pair's contribution to `Ω_i`, for any gamma: `36774 = (453 + 1)·81` (`mag_tm_omega_core`) -/
  omega_abs : ∀ g : GammaFn ℝ, |(tmPair L cmul β κ g n ti tq).1| ≤ 36774 * β + κ
  /-- the pair's contribution to `Δ_i`, default gamma -/
  delta_nonneg : 0 ≤ (tmPair L cmul β κ .dflt n ti tq).2
  delta_le : (tmPair L cmul β κ .dflt n ti tq).2 ≤ 1

end Mag

/-- a Thurstone–Mosteller Ω term `S·V` with `0 ≤ S ≤ C`, `S·T ≤ κ`, `|V| ≤ K + T + 1`: the part of
`V` that grows with the draw margin `T = κ/c` is absorbed by `S = σ_i²/c ≤ c` -/
theorem mag_tm_omega_core {S T K V C κ : ℝ} (hS0 : 0 ≤ S) (hS : S ≤ C) (hST : S * T ≤ κ)
    (hK : 0 ≤ K) (hV : |V| ≤ K + T + 1) : |S * V| ≤ (K + 1) * C + κ := by
  rw [abs_mul, abs_of_nonneg hS0]
  calc S * |V| ≤ S * (K + T + 1) := mul_le_mul_of_nonneg_left hV hS0
    _ = (K + 1) * S + S * T := by ring
    _ ≤ (K + 1) * C + κ := add_le_add (mul_le_mul_of_nonneg_left hS (by linarith)) hST

theorem mag_tmPair_bounds {L : Leaves ℝ} (LB : Mag.LeafBounds L) {β lo κ cmul : ℝ}
    {ts : List (TeamAgg ℝ)} (A : Mag.AggBounds β lo ts) (hκ : 0 < κ) (hcm1 : 1 ≤ cmul)
    (hcm2 : cmul ≤ 2) (n : ℕ) {ti tq : TeamAgg ℝ} (hi : ti ∈ ts) (hq : tq ∈ ts) :
    Mag.TMPairBounds L β lo κ cmul n ti tq := by
  have hβ := A.beta_pos
  have hsi0 := A.var_nonneg hi
  obtain ⟨hq1, hq2, hq3, hqs⟩ := mag_ciq_bounds A hi hq
  have hq0 : 0 < Grd.ciq β ti tq := hβ.trans_le hq3
  -- the normaliser `c = cmul·c_iq` lies between `c_iq` and `2·c_iq`
  set c := cmul * Grd.ciq β ti tq
  have hcq : Grd.ciq β ti tq ≤ c := le_mul_of_one_le_left hq0.le hcm1
  have hc1 : Real.sqrt 2 * β ≤ c := hq1.trans hcq
  have hc2 : c ≤ 162 * β := (mul_le_mul hcm2 hq2 hq0.le zero_le_two).trans_eq (by ring)
  have hcpos : 0 < c := hq0.trans_le hcq
  have hx : |(ti.mu - tq.mu) / c| ≤ 453 := C08_bt_exp_arg_bound β _ _ hβ
    ((abs_sub_le_add (A.mu ti hi) (A.mu tq hq)).trans_eq (by ring)) hc1
  obtain ⟨⟨s1, _⟩, ⟨s2, s2'⟩, g1, g2⟩ := team_factors A.lo_pos.le (A.var_ge ti hi) hcpos
    (hqs.trans (mul_le_mul hcq hcq hq0.le hcpos.le)) hc2
  have hs0 : 0 ≤ ti.sig2 / c := div_nonneg hsi0 hcpos.le
  -- `σ_i²/c ≤ σ_i²/c_iq ≤ c_iq ≤ 81β`
  have hs81 : ti.sig2 / c ≤ 81 * β :=
    (div_le_div_of_nonneg_left hsi0 hq0 hcq).trans (((div_le_iff₀ hq0).mpr hqs).trans hq2)
  have t0 : 0 < κ / c := div_pos hκ hcpos
  have hST : ti.sig2 / c * (κ / c) ≤ κ := by
    rw [← mul_div_assoc, mul_comm, mul_div_assoc]
    exact mul_le_of_le_one_right hκ.le s2'
  have hV := (LB.byOutcome_v_abs ((ti.mu - tq.mu) / c) t0.le ti.rank tq.rank).trans
    (add_le_add (add_le_add hx le_rfl) le_rfl)
  have hW := LB.byOutcome_w_mem ((ti.mu - tq.mu) / c) t0.le ti.rank tq.rank
  have hG0 : 0 ≤ gammaVal .dflt c n ti.mu ti.sig2 ti.players ti.rank :=
    gammaOK_dflt _ _ _ _ _ _ hcpos.le hsi0
  exact
    { c_ge := hc1, c_le := hc2, x_abs := hx, t_pos := t0
      t_le := div_le_div_of_nonneg_left hκ.le hβ (le_of_sqrt_two_mul_le hβ.le hc1)
      t_ge := div_le_div_of_nonneg_left hκ.le hcpos hc2
      s2c_ge := s1, s2c_le := hs81, s2cc_ge := s2, s2cc_le := s2', gamma_ge := g1, gamma_le := g2
      omega_abs := fun g => by
        rw [tmPair_fst]
        exact (mag_tm_omega_core hs0 hs81 hST (by norm_num) hV).trans_eq (by ring)
      delta_nonneg := by
        rw [tmPair_snd, mul_div_assoc]
        exact mul_nonneg (mul_nonneg hG0 (div_nonneg hs0 hcpos.le)) hW.1
      delta_le := by
        rw [tmPair_snd, mul_div_assoc]
        exact mul3_le_of_le_one (div_nonneg hs0 hcpos.le) g2 s2' hW.1 hW.2 }

theorem mag_pairing_TM {L : Leaves ℝ} (LB : Mag.LeafBounds L) {β lo κ cmul : ℝ}
    {ts : List (TeamAgg ℝ)} (A : Mag.AggBounds β lo ts) (hκ : 0 < κ) (hcm1 : 1 ≤ cmul)
    (hcm2 : cmul ≤ 2) {ti : TeamAgg ℝ} (hti : ti ∈ ts) {i : ℕ} {l : List (TeamAgg ℝ)}
    (hl : l = othersOf ts i ∨ l = neighboursOf ts i) :
    let od := sumPairs (l.map (tmPair L cmul β κ .dflt ts.length ti))
    |od.1| ≤ 294192 * β + 8 * κ ∧ 0 ≤ od.2 ∧ od.2 ≤ 8 := by
  obtain ⟨hl8, hmem⟩ := opponents_length_le_and_mem (m := 8) (by norm_num) A.len_le hl
  obtain ⟨h1, h2, h3⟩ := sumPairs_map_bounds l (tmPair L cmul β κ .dflt ts.length ti) 8
    (add_nonneg (mul_nonneg (by norm_num) A.beta_pos.le) hκ.le) zero_le_one hl8 fun q hq =>
      have B := mag_tmPair_bounds LB A hκ hcm1 hcm2 ts.length hti (hmem q hq)
      ⟨B.omega_abs .dflt, B.delta_nonneg, B.delta_le⟩
  exact ⟨h1.trans_eq (by ring), h2, h3.trans_eq (by norm_num)⟩

/-! ### all five models -/

namespace Mag

/-- the bound on `|Ω_i|` per model (default gamma): at most 8 rows (opponents), each at most `161β`
(Plackett–Luce: `σ_i²/c ≤ c`), `81β` (Bradley–Terry), `36774β + κ` (Thurstone–Mosteller) -/
def W (K : Kind) (β κ : ℝ) : ℝ :=
  match K with
  | .PL => 1288 * β
  | .BTF => 648 * β
  | .BTP => 648 * β
  | .TMF => 294192 * β + 8 * κ
  | .TMP => 294192 * β + 8 * κ

/-- the bound on `Δ_i` per model (default gamma): 8 terms of at most `1/4` (`p(1−p)`), resp. `1` (`w`, `w̃`) -/
def deltaMax (K : Kind) : ℝ :=
  match K with
  | .PL => 2
  | .BTF => 2
  | .BTP => 2
  | .TMF => 8
  | .TMP => 8

/-- uniform bounds on the pairs `(Ω_i, Δ_i)` of a model on every admissible list of aggregates -/
def ODBounds (K : Kind) (L : Leaves ℝ) (P : Params ℝ) (β lo W D : ℝ) : Prop :=
  ∀ ts : List (TeamAgg ℝ), AggBounds β lo ts →
    ∀ od ∈ omegaDelta K L P ts, |od.1| ≤ W ∧ 0 ≤ od.2 ∧ od.2 ≤ D

end Mag

/-- `hκ` is read by the two Thurstone–Mosteller cases only (the draw margin `κ/c` must be non-negative) -/
theorem mag_odBounds {β lo : ℝ} (K : Kind) (L : Leaves ℝ)
    (LB : K = .TMF ∨ K = .TMP → Mag.LeafBounds L) (P : Params ℝ) (hP : P.beta = β)
    (hg : P.gamma = .dflt) (hκ : 0 < P.kappa) :
    Mag.ODBounds K L P β lo (Mag.W K β P.kappa) (Mag.deltaMax K) := by
  intro ts A od hod
  rw [omegaDelta_eq] at hod
  obtain ⟨x, hx, rfl⟩ := List.mem_map.mp hod
  have hti := List.fst_mem_of_mem_zipIdx hx
  cases K <;> simp only [fl1_od, sc_ofNat, Nat.cast_one, Nat.cast_ofNat, Mag.W, Mag.deltaMax, hP, hg]
  · exact mag_plOmegaDelta A x.2 x.1 hti
  · exact mag_pairing_BT A hti (Or.inl rfl)
  · exact mag_pairing_BT A hti (Or.inr rfl)
  · exact mag_pairing_TM (LB (Or.inl rfl)) A hκ le_rfl one_le_two hti (Or.inl rfl)
  · exact mag_pairing_TM (LB (Or.inr rfl)) A hκ one_le_two le_rfl hti (Or.inr rfl)

end OS
end
