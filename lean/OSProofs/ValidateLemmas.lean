import OSModel.VLang
/-!
Lemmas on the argument-validation model (`OSModel/Validate.lean`).  The validation code has two shapes.  A loop is `execFor` of a
check on one item: `checkPlayers` and `checkNumbers` of a Boolean test (`okIf`), `checkTeamList` of `checkTeam`.  A check of a
container is `checkList` (a list, of an admissible length, whose items pass): `checkTeams`, `checkTeam` and the block for `ranks` /
`scores`.  The reasoning about lists and about the kinds of dynamic value is done once for each shape.
-/
namespace OS

theorem isRatingOf_iff (k : Kind) (p : PyVal) : p.isRatingOf k = true ↔ p = .rating k := by
  cases p <;> simp [PyVal.isRatingOf]
  exact eq_comm

theorem isRatingOf_self (k : Kind) : (PyVal.rating k).isRatingOf k = true :=
  (isRatingOf_iff k _).2 rfl

theorem except_unit_cases (r : Except PyExc Unit) : r = .ok () ∨ ∃ e, r = .error e := by
  cases r with
  | ok u => exact .inl rfl
  | error e => exact .inr ⟨e, rfl⟩

theorem pyexc_cases (e : PyExc) : e = .TypeError ∨ e = .ValueError := by
  cases e
  · exact .inl rfl
  · exact .inr rfl

theorem error_class (r : Except PyExc Unit) (h : r ≠ .ok ()) : r = .error .TypeError ∨ r = .error .ValueError := by
  match r with
  | .ok () => exact absurd rfl h
  | .error .TypeError => exact .inl rfl
  | .error .ValueError => exact .inr rfl

theorem truthy_list (xs : List PyVal) : (PyVal.list xs).truthy = true ↔ xs ≠ [] := by
  cases xs <;> simp [PyVal.truthy]

section execFor
variable {f : PyVal → Except PyExc Unit}

theorem execFor_first_error {pre : List PyVal} {t : PyVal} {e : PyExc} (hpre : ∀ x ∈ pre, f x = .ok ())
    (ht : f t = .error e) (post : List PyVal) : execFor f (pre ++ t :: post) = .error e := by
  induction pre with
  | nil => rw [List.nil_append, execFor, ht]
  | cons x pre ih =>
    rw [List.cons_append, execFor, hpre x List.mem_cons_self]
    exact ih (fun y hy => hpre y (List.mem_cons_of_mem _ hy))

theorem execFor_ok_iff (xs : List PyVal) : execFor f xs = .ok () ↔ ∀ x ∈ xs, f x = .ok () := by
  induction xs with
  | nil => exact ⟨fun _ => nofun, fun _ => rfl⟩
  | cons x xs ih =>
    rw [execFor, List.forall_mem_cons, ← ih]
    rcases except_unit_cases (f x) with h | ⟨e, h⟩ <;> simp [h]

theorem execFor_map {f' : PyVal → Except PyExc Unit} {g : PyVal → PyVal} (h : ∀ x, f' (g x) = f x) (xs : List PyVal) :
    execFor f' (xs.map g) = execFor f xs := by
  induction xs with
  | nil => rfl
  | cons x xs ih => rw [List.map_cons, execFor, execFor, h, ih]

end execFor

/-- `if not b: raise TypeError` -/
def okIf (b : Bool) : Except PyExc Unit := if b then .ok () else .error .TypeError

theorem okIf_ok_iff (b : Bool) : okIf b = .ok () ↔ b = true := by
  cases b <;> simp [okIf]

/-- `if not isinstance(v, list): raise TypeError`, then `if <bad length>: raise ValueError`, then a check of the items: the shape of
`_check_teams`, of the body of its loop over the teams, and of the `ranks` / `scores` blocks of `rate` -/
def checkList (bad : Nat → Prop) [DecidablePred bad] (g : List PyVal → Except PyExc Unit) : PyVal → Except PyExc Unit
  | .list xs => if bad xs.length then .error .ValueError else g xs
  | _ => .error .TypeError

section checkList
variable {bad : Nat → Prop} [DecidablePred bad] {g : List PyVal → Except PyExc Unit} {v : PyVal}

theorem checkList_not_list (h : ∀ xs, v ≠ .list xs) : checkList bad g v = .error .TypeError := by
  cases v with
  | list xs => exact absurd rfl (h xs)
  | _ => rfl

theorem checkList_ok_iff : checkList bad g v = .ok () ↔ ∃ xs, v = .list xs ∧ ¬ bad xs.length ∧ g xs = .ok () := by
  cases v with
  | list xs => by_cases hb : bad xs.length <;> simp [checkList, hb]
  | _ => simp [checkList]

end checkList

/-- the body of the loop over `teams` in `_check_teams` -/
def checkTeam (k : Kind) : PyVal → Except PyExc Unit := checkList (· < 1) (checkPlayers k)

@[simp] theorem checkPlayers_nil (k : Kind) : checkPlayers k [] = .ok () := rfl
@[simp] theorem checkTeamList_nil (k : Kind) : checkTeamList k [] = .ok () := rfl
@[simp] theorem checkNumbers_nil : checkNumbers [] = .ok () := rfl

theorem checkPlayers_eq (k : Kind) : checkPlayers k = execFor (fun p => okIf (p.isRatingOf k)) := by
  funext ps
  induction ps with
  | nil => rfl
  | cons p ps ih => rw [checkPlayers, execFor, ih]; cases p.isRatingOf k <;> rfl

theorem checkNumbers_eq : checkNumbers = execFor (fun x => okIf x.isNumber) := by
  funext xs
  induction xs with
  | nil => rfl
  | cons x xs ih => rw [checkNumbers, execFor, ih]; cases x.isNumber <;> rfl

theorem checkTeamList_eq (k : Kind) : checkTeamList k = execFor (checkTeam k) := by
  funext ts
  induction ts with
  | nil => rfl
  | cons t ts ih =>
    rw [execFor, ← ih]
    cases t with
    | list ps =>
      rw [checkTeamList, checkTeam, checkList]
      split
      · rfl
      · cases checkPlayers k ps <;> rfl
    | _ => rfl

theorem checkTeams_eq (k : Kind) (v : PyVal) : checkTeams k v = checkList (· < 2) (checkTeamList k) v := by
  cases v <;> rfl

theorem checkSelector_eq (n : Nat) (v : PyVal) :
    checkSelector n v = if v.truthy then checkList (· != n) checkNumbers v else .ok () := by
  cases v <;> rfl

theorem checkPlayers_ok_iff (k : Kind) (ps : List PyVal) :
    checkPlayers k ps = .ok () ↔ ∀ p ∈ ps, p = .rating k := by
  simp only [checkPlayers_eq, execFor_ok_iff, okIf_ok_iff, isRatingOf_iff]

theorem checkNumbers_ok_iff (xs : List PyVal) : checkNumbers xs = .ok () ↔ ∀ x ∈ xs, x.isNumber = true := by
  simp only [checkNumbers_eq, execFor_ok_iff, okIf_ok_iff]

theorem execFor_okIf_bad {p : PyVal → Bool} {xs : List PyVal} (h : ∃ x ∈ xs, p x = false) :
    execFor (fun x => okIf (p x)) xs = .error .TypeError := by
  induction xs with
  | nil => exact nomatch h
  | cons y ys ih =>
    rw [execFor]
    cases hy : p y
    · rfl
    · obtain ⟨x, hx, hp⟩ := h
      rcases List.mem_cons.1 hx with rfl | hx
      · exact nomatch hy.symm.trans hp
      · exact ih ⟨x, hx, hp⟩

theorem checkPlayers_bad (k : Kind) (ps : List PyVal) (h : ∃ p ∈ ps, p ≠ .rating k) :
    checkPlayers k ps = .error .TypeError := by
  rw [checkPlayers_eq]
  obtain ⟨p, hp, hne⟩ := h
  exact execFor_okIf_bad ⟨p, hp, Bool.eq_false_iff.2 (fun e => hne ((isRatingOf_iff k p).1 e))⟩

theorem checkNumbers_bad (xs : List PyVal) (h : ∃ x ∈ xs, x.isNumber = false) :
    checkNumbers xs = .error .TypeError := by
  rw [checkNumbers_eq]; exact execFor_okIf_bad h

theorem checkTeam_ok_iff (k : Kind) (t : PyVal) :
    checkTeam k t = .ok () ↔ ∃ ps, t = .list ps ∧ ps ≠ [] ∧ ∀ p ∈ ps, p = .rating k := by
  simp only [checkTeam, checkList_ok_iff, Nat.lt_one_iff, List.length_eq_zero_iff, checkPlayers_ok_iff, ne_eq]

theorem checkTeamList_ok_iff (k : Kind) (ts : List PyVal) :
    checkTeamList k ts = .ok () ↔ ∀ t ∈ ts, ∃ ps, t = .list ps ∧ ps ≠ [] ∧ ∀ p ∈ ps, p = .rating k := by
  simp only [checkTeamList_eq, execFor_ok_iff, checkTeam_ok_iff]

theorem checkSelector_list (n : Nat) (xs : List PyVal) (h : xs ≠ []) :
    checkSelector n (.list xs) =
      if xs.length != n then .error .ValueError else checkNumbers xs := by
  unfold checkSelector; rw [if_pos ((truthy_list xs).2 h)]

end OS
