import OSModel
import OSProofs.OrderLaws

/-!
# Competition ranking (`rankData`, `predict_rank`'s integer ranks) over a total preorder

For every scalar type with the four `OrderLaws`; Mathlib-free.  `cntLt v x` is the count inside `rankData`,
`finalRanks` the list of integer ranks `max(rankData) − rankData + 1` that `predict_rank` returns.
-/
namespace OS
open Scalar

/-! ### `listMaxNat` is an attained upper bound (natural numbers only) -/

/-- `(0 :: l).max?.getD 0` unfolds to the fold `listMaxNat l` -/
theorem le_listMaxNat {l : List Nat} {x : Nat} (hx : x ∈ l) : x ≤ listMaxNat l :=
  List.le_max?_getD_of_mem (k := 0) (List.mem_cons_of_mem 0 hx)

theorem listMaxNat_mem {l : List Nat} (hl : l ≠ []) : listMaxNat l ∈ l := by
  obtain ⟨x, xs, rfl⟩ := List.exists_cons_of_ne_nil hl
  -- the fold goes on from `max 0 x = x`, as `(x :: xs).max?` does
  have h : (x :: xs).max? = some (xs.foldl max (max 0 x)) := by
    rw [Nat.zero_max]
    rfl
  exact List.max?_mem h

variable {α : Type} [Scalar α]

/-- number of entries of `v` strictly below `x` (same `decide` instance as `rankData`) -/
def cntLt {α : Type} [Scalar α] (v : List α) (x : α) : Nat :=
  (v.filter (fun y => decide (y < x))).length

/-- the integer ranks `predict_rank` returns: `max(rankData) − rankData + 1` -/
def finalRanks {α : Type} [Scalar α] (probs : List α) : List Nat :=
  (rankData probs).map (fun x => (listMaxNat (rankData probs) - x) + 1)

theorem rankData_eq (v : List α) : rankData v = v.map (fun x => 1 + cntLt v x) := rfl

theorem cntLt_cons (z : α) (zs : List α) (x : α) :
    cntLt (z :: zs) x = (if z < x then 1 else 0) + cntLt zs x := by
  unfold cntLt
  by_cases h : z < x
  · rw [List.filter_cons_of_pos (by simpa using h), if_pos h, List.length_cons]; omega
  · rw [List.filter_cons_of_neg (by simpa using h), if_neg h]; omega

theorem cntLt_perm {l l' : List α} (h : l.Perm l') (x : α) : cntLt l x = cntLt l' x :=
  (h.filter _).length_eq

theorem rankData_length (v : List α) : (rankData v).length = v.length := by
  simp [rankData]

theorem finalRanks_length (v : List α) : (finalRanks v).length = v.length := by
  simp [finalRanks, rankData]

theorem finalRanks_getElem (v : List α) (a : Nat) (ha : a < v.length) :
    (finalRanks v)[a]'(by rw [finalRanks_length]; exact ha)
      = (listMaxNat (rankData v) - (1 + cntLt v v[a])) + 1 := by
  simp [finalRanks, rankData_eq]

theorem rankData_le_max (v : List α) (a : Nat) (ha : a < v.length) :
    1 + cntLt v v[a] ≤ listMaxNat (rankData v) := by
  apply le_listMaxNat
  rw [rankData_eq]
  exact List.mem_map.mpr ⟨v[a], List.getElem_mem ha, rfl⟩

theorem rankData_getElem (v : List α) (a : Nat) (ha : a < v.length) :
    (rankData v)[a]'(by rw [rankData_length]; exact ha) = 1 + cntLt v v[a] := by
  simp [rankData_eq]

theorem exists_rankData_eq_max {v : List α} (hv : 0 < v.length) :
    ∃ x ∈ v, 1 + cntLt v x = listMaxNat (rankData v) := by
  have hne : rankData v ≠ [] := List.ne_nil_of_length_pos (rankData_length v ▸ hv)
  exact List.mem_map.mp (rankData_eq v ▸ listMaxNat_mem hne)

/-- the largest entry of `rankData v` is an entry, and `finalRanks` sends it to 1 -/
theorem one_mem_finalRanks {v : List α} (hv : 0 < v.length) : 1 ∈ finalRanks v :=
  List.mem_map.mpr ⟨_, listMaxNat_mem (List.ne_nil_of_length_pos (rankData_length v ▸ hv)),
    by rw [Nat.sub_self]⟩

/-! ### `predictRank` pairs the ranks with the probabilities (every scalar type) -/

theorem predictRank_eq_zip (β : α) (teams : List (List (Rating α))) :
    predictRank β teams
      = (finalRanks (predictRankProbs β teams)).zip (predictRankProbs β teams) := rfl

theorem predictRank_length (β : α) (teams : List (List (Rating α))) :
    (predictRank β teams).length = (predictRankProbs β teams).length := by
  rw [predictRank_eq_zip, List.length_zip, finalRanks_length, Nat.min_self]

theorem predictRank_map_snd (β : α) (teams : List (List (Rating α))) :
    (predictRank β teams).map (·.2) = predictRankProbs β teams := by
  rw [predictRank_eq_zip]
  exact List.map_snd_zip (Nat.le_of_eq (finalRanks_length _).symm)

theorem predictRank_map_fst (β : α) (teams : List (List (Rating α))) :
    (predictRank β teams).map (·.1) = finalRanks (predictRankProbs β teams) := by
  rw [predictRank_eq_zip]
  exact List.map_fst_zip (Nat.le_of_eq (finalRanks_length _))

theorem predictRank_getElem (β : α) (teams : List (List (Rating α))) (a : Nat)
    (ha : a < (predictRank β teams).length) :
    (predictRank β teams)[a]
      = ((finalRanks (predictRankProbs β teams))[a]'(by
            rw [finalRanks_length, ← predictRank_length]; exact ha),
         (predictRankProbs β teams)[a]'(by rw [← predictRank_length]; exact ha)) := by
  simp only [predictRank_eq_zip, List.getElem_zip]

namespace OrderLaws
variable (O : OrderLaws α)
include O

theorem cntLt_mono (v : List α) {x y : α} (h : x ≤ y) : cntLt v x ≤ cntLt v y := by
  unfold cntLt
  rw [← List.countP_eq_length_filter, ← List.countP_eq_length_filter]
  exact List.countP_mono_left fun z _ hz =>
    decide_eq_true (O.lt_of_lt_of_le (of_decide_eq_true hz) h)

/-- equivalent values (`x ≤ y ≤ x`; not necessarily equal) have the same entries below them -/
theorem cntLt_congr (l : List α) {x y : α} (h1 : x ≤ y) (h2 : y ≤ x) : cntLt l x = cntLt l y :=
  Nat.le_antisymm (O.cntLt_mono l h1) (O.cntLt_mono l h2)

theorem cntLt_strict (v : List α) {x y : α} (hx : x ∈ v) (h : x < y) :
    cntLt v x < cntLt v y := by
  -- the entries below `x` are the entries below `y` that are below `x`; `x` is below `y`, not below `x`
  have hxy : (v.filter (fun z => decide (z < y))).filter (fun z => decide (z < x))
      = v.filter (fun z => decide (z < x)) := by
    rw [List.filter_filter]
    refine List.filter_congr fun z _ => ?_
    by_cases hz : z < x
    · simp [hz, O.lt_trans hz h]
    · simp [hz]
  unfold cntLt
  rw [← hxy]
  exact List.length_filter_lt_length_iff_exists.mpr
    ⟨x, List.mem_filter.mpr ⟨hx, decide_eq_true h⟩, by simpa using O.lt_irrefl x⟩

theorem cntLt_lt_length (v : List α) {x : α} (hx : x ∈ v) : cntLt v x < v.length :=
  List.length_filter_lt_length_iff_exists.mpr ⟨x, hx, by simpa using O.lt_irrefl x⟩

variable (v : List α) (a b : Nat) (ha : a < v.length) (hb : b < v.length)

theorem rankData_range :
    1 ≤ (rankData v)[a]'(by rw [rankData_length]; exact ha)
      ∧ (rankData v)[a]'(by rw [rankData_length]; exact ha) ≤ v.length := by
  rw [rankData_getElem v a ha]
  have := O.cntLt_lt_length v (List.getElem_mem ha)
  omega

theorem rankData_strict (h : v[b] < v[a]) :
    (rankData v)[b]'(by rw [rankData_length]; exact hb)
      < (rankData v)[a]'(by rw [rankData_length]; exact ha) := by
  rw [rankData_getElem v a ha, rankData_getElem v b hb]
  have := O.cntLt_strict v (List.getElem_mem hb) h
  omega

theorem rank_range :
    1 ≤ (finalRanks v)[a]'(by rw [finalRanks_length]; exact ha)
      ∧ (finalRanks v)[a]'(by rw [finalRanks_length]; exact ha) ≤ v.length := by
  rw [finalRanks_getElem v a ha]
  -- the maximum of `rankData` is `1 + cntLt v x` for an entry `x`, hence at most the length
  obtain ⟨x, hx, hxe⟩ := exists_rankData_eq_max (Nat.zero_lt_of_lt ha)
  have := O.cntLt_lt_length v hx
  omega

theorem rank_strict (h : v[b] < v[a]) :
    (finalRanks v)[a]'(by rw [finalRanks_length]; exact ha)
      < (finalRanks v)[b]'(by rw [finalRanks_length]; exact hb) := by
  rw [finalRanks_getElem v a ha, finalRanks_getElem v b hb]
  have h1 := O.cntLt_strict v (List.getElem_mem hb) h
  have h2 := rankData_le_max v a ha
  have h3 := rankData_le_max v b hb
  omega

theorem rank_tie (h1 : v[a] ≤ v[b]) (h2 : v[b] ≤ v[a]) :
    (finalRanks v)[a]'(by rw [finalRanks_length]; exact ha)
      = (finalRanks v)[b]'(by rw [finalRanks_length]; exact hb) := by
  rw [finalRanks_getElem v a ha, finalRanks_getElem v b hb, O.cntLt_congr v h1 h2]

theorem rank_max_one (hmax : ∀ y ∈ v, y ≤ v[a]) :
    (finalRanks v)[a]'(by rw [finalRanks_length]; exact ha) = 1 := by
  rw [finalRanks_getElem v a ha]
  -- the maximum of `rankData` is attained at an entry `x`, and `x ≤ v[a]`
  obtain ⟨x, hx, hxe⟩ := exists_rankData_eq_max (Nat.zero_lt_of_lt ha)
  have h1 := O.cntLt_mono v (hmax x hx)
  have h2 := rankData_le_max v a ha
  omega

theorem rank_lt_iff :
    (finalRanks v)[a]'(by rw [finalRanks_length]; exact ha)
      < (finalRanks v)[b]'(by rw [finalRanks_length]; exact hb) ↔ v[b] < v[a] := by
  refine ⟨fun hlt => O.lt_of_not_le fun hle => ?_, O.rank_strict v a b ha hb⟩
  -- with `v[a] ≤ v[b]`, `a` is ranked after `b` or level with it
  by_cases hs : v[a] < v[b]
  · have := O.rank_strict v b a hb ha hs
    omega
  · have := O.rank_tie v a b ha hb hle (O.le_of_not_lt hs)
    omega

theorem rank_eq_iff :
    (finalRanks v)[a]'(by rw [finalRanks_length]; exact ha)
      = (finalRanks v)[b]'(by rw [finalRanks_length]; exact hb) ↔ ¬ v[b] < v[a] ∧ ¬ v[a] < v[b] := by
  rw [← O.rank_lt_iff v a b ha hb, ← O.rank_lt_iff v b a hb ha]
  omega

end OrderLaws

end OS
