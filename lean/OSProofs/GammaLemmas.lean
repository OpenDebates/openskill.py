import OSModel
import OSProofs.RateMap
/-!
# The gamma callback as an arbitrary function (generic part, any scalar type)

`GammaFn` has six tagged members and `.fn f`, any pure callback
`gamma(c, k, mu, sigma_squared, team, rank)`.  The tagged members never read `team` (nor `mu`);
an arbitrary callback may.  The properties of the library that are true "for every gamma" in the
tagged family need, for an arbitrary callback, exactly the corresponding invariance of the
callback.  These invariances are the named predicates of this file (any scalar type) and of
`GammaRealLemmas.lean` (over ℝ):

* `GammaFn.Tagged g`    — `g` is one of the six tagged members;
* `GammaIdInv g`        — the value does not depend on the `id` fields of the players handed over;
* `GammaPermInv g`      — the value does not depend on the order of the players handed over;
* `GammaAt g c k t`     — the call `_compute` makes for the team aggregate `t`.
-/
namespace OS
open Scalar
variable {α : Type} [Scalar α]

/-- `g` is one of the six tagged members (default, constant, `1/k`, rank dependent, `σ²/c²`, zero) -/
def GammaFn.Tagged : GammaFn α → Prop
  | .fn _ => False
  | _ => True

/-- the call `_compute` makes for team `t`: `gamma(c, k, t.mu, t.sigma_squared, t.team, t.rank)` -/
def GammaAt (g : GammaFn α) (c : α) (k : Nat) (t : TeamAgg α) : α :=
  gammaVal g c k t.mu t.sig2 t.players t.rank

theorem gam_gammaAt (g : GammaFn α) (c : α) (k : Nat) (t : TeamAgg α) :
    gammaVal g c k t.mu t.sig2 t.players t.rank = GammaAt g c k t := rfl

@[simp] theorem gam_gammaVal_fn (f : α → Nat → α → α → List (Rating α) → Nat → α) (c : α) (k : Nat)
    (mu s2 : α) (team : List (Rating α)) (r : Nat) :
    gammaVal (.fn f) c k mu s2 team r = f c k mu s2 team r := rfl

theorem gam_tagged_mu_team {g : GammaFn α} (hg : g.Tagged) (c : α) (k : Nat) (mu mu' s2 : α)
    (team team' : List (Rating α)) (r : Nat) :
    gammaVal g c k mu' s2 team' r = gammaVal g c k mu s2 team r := by
  cases g with
  | fn f => exact hg.elim
  | _ => rfl

def GammaIdInv (g : GammaFn α) : Prop :=
  ∀ (f : Nat → Nat) (c : α) (k : Nat) (mu s2 : α) (team : List (Rating α)) (r : Nat),
    gammaVal g c k mu s2 (team.map (fun p => { p with id := f p.id })) r = gammaVal g c k mu s2 team r

def GammaPermInv (g : GammaFn α) : Prop :=
  ∀ (c : α) (k : Nat) (mu s2 : α) (team team' : List (Rating α)) (r : Nat),
    team.Perm team' → gammaVal g c k mu s2 team r = gammaVal g c k mu s2 team' r

/-- **Players.**  No tagged member reads the players: neither their order nor their ids matter (any
scalar type). -/
theorem Gamma_tagged_players {α : Type} [Scalar α] (g : GammaFn α) (ht : g.Tagged) :
    GammaPermInv g ∧ GammaIdInv g :=
  ⟨fun c k mu s2 team team' r _ => gam_tagged_mu_team ht c k mu mu s2 team' team r,
   fun _ c k mu s2 team r => gam_tagged_mu_team ht c k mu mu s2 team _ r⟩

/-- a callback that reads the players only through their `(mu, sigma)` is id-invariant -/
theorem gam_fn_idInv_of_values (f : α → Nat → α → α → List (α × α) → Nat → α) :
    GammaIdInv (.fn (fun c k mu s2 team r => f c k mu s2 (team.map (fun p => (p.mu, p.sigma))) r)
      : GammaFn α) := by
  intro h c k mu s2 team r
  simp only [gam_gammaVal_fn, List.map_map, Function.comp_def]

/-- the team-reading callback "T" reads the players only through their sigmas -/
theorem gam_teamSigma_idInv : GammaIdInv (gammaTeamSigma : GammaFn α) := by
  intro h c k mu s2 team r
  simp only [gammaTeamSigma, gam_gammaVal_fn, List.map_map, Function.comp_def]

omit [Scalar α] in
theorem gam_tagged_dflt : (GammaFn.dflt : GammaFn α).Tagged := trivial
omit [Scalar α] in
theorem gam_tagged_const (x : α) : (GammaFn.const x : GammaFn α).Tagged := trivial
omit [Scalar α] in
theorem gam_tagged_invK : (GammaFn.invK : GammaFn α).Tagged := trivial
omit [Scalar α] in
theorem gam_tagged_rankDep : (GammaFn.rankDep : GammaFn α).Tagged := trivial
omit [Scalar α] in
theorem gam_tagged_sq : (GammaFn.sq : GammaFn α).Tagged := trivial
omit [Scalar α] in
theorem gam_tagged_zero : (GammaFn.zero : GammaFn α).Tagged := trivial
omit [Scalar α] in
theorem gam_not_tagged_fn (f : α → Nat → α → α → List (Rating α) → Nat → α) :
    ¬ (GammaFn.fn f : GammaFn α).Tagged := id

/-- two parameter sets with the same `beta`, `kappa` whose gamma callbacks return the same value on
every call made for a team of `ts` give the same `(Ω, Δ)` -/
theorem gam_omegaDelta_congr_gamma (K : Kind) (L : Leaves α) (P P' : Params α)
    (hb : P.beta = P'.beta) (hk : P.kappa = P'.kappa) (ts : List (TeamAgg α))
    (h : ∀ t ∈ ts, ∀ c, GammaAt P.gamma c ts.length t = GammaAt P'.gamma c ts.length t) :
    omegaDelta K L P ts = omegaDelta K L P' ts :=
  (congrArg _ (List.map_id ts).symm).trans
    (omegaDelta_congr K L P' P hb hk id (fun _ => rfl) (fun _ => rfl) (fun _ => rfl) ts h)

/-- on a team aggregate built by `teamAgg` the team-reading callback *is* the default callback:
`sigma_squared` is the very sum the callback recomputes -/
theorem gam_teamSigma_eq_dflt_teamAgg (c : α) (k : Nat) (team : List (Rating α)) (rank : Nat) :
    GammaAt gammaTeamSigma c k (teamAgg team rank) = GammaAt .dflt c k (teamAgg team rank) := rfl

/-- **`_compute` with the team-reading callback `sqrt(Σ_team σ²)/c` returns exactly what it returns
with the default callback** — any scalar type, so bit for bit at `Float` -/
theorem gam_compute_teamSigma (K : Kind) (L : Leaves α) (P : Params α)
    (teams : List (List (Rating α))) (dense : List Nat) :
    compute K L { P with gamma := gammaTeamSigma } teams dense
      = compute K L { P with gamma := .dflt } teams dense := by
  have h := gam_omegaDelta_congr_gamma K L { P with gamma := gammaTeamSigma } { P with gamma := .dflt }
    rfl rfl (teamAggs teams dense) (fun t ht c => by
      obtain ⟨S, _, r, rfl⟩ := mem_teamAggs ht
      rfl)
  simp only [compute, h]

end OS
