import OSProofs.Props.LoopsReal
import OSProofs.Props.C11
import OSProofs.Props.C11b
import OSProofs.CodeShaped
import OSProofs.Props.FL2
import OSProofs.MonoArithInst
import OSProofs.Props.PredictLoops
import OSProofs.Props.FL4Inst
import OSProofs.Props.FL5Inst
#print axioms OS.C11_ranks_length
#print axioms OS.C11_rankData_range
#print axioms OS.C11_rankData_strict
#print axioms OS.C11_rank_range
#print axioms OS.C11_rank_strict
#print axioms OS.C11_rank_tie
#print axioms OS.C11_rank_lt_iff
#print axioms OS.C11_rank_eq_iff
#print axioms OS.C11_rank_max_one
#print axioms OS.C11_rank_one_exists
#print axioms OS.C11_predictRank_probs
#print axioms OS.C11_predictRank_ranks
#print axioms OS.C11_predictRank_length
#print axioms OS.C11_predictRank_range
#print axioms OS.C11_predictRank_lt_iff
#print axioms OS.C11_predictRank_strict
#print axioms OS.C11_predictRank_eq_iff
#print axioms OS.C11_predictRank_tie
#print axioms OS.C11_predictRank_max_one
#print axioms OS.C11_pair_identity
#print axioms OS.C11_rankPair_add_drawPair
#print axioms OS.C11_sum_rank_probs
#print axioms OS.C11_sum_predictRank
#print axioms OS.C11_sum_pairs
#print axioms OS.C11_sum_one_of_margin_nonneg
#print axioms OS.C11_sum_one
#print axioms OS.C11_two_team_sum
#print axioms OS.C11_two_team_sum_gt_one
#print axioms OS.rankDataCode_eq
#print axioms OS.MonoArith.real
#print axioms OS.MonoArith.rn
#print axioms OS.truncRounding
#print axioms OS.truncRounding_lossy
#print axioms OS.truncRounding_ne_id
#print axioms OS.FL_C11_probs_range
#print axioms OS.FL_C11_probs_range_all
#print axioms OS.FL_C11_probs_length
#print axioms OS.FL_C11_length
#print axioms OS.FL_C11_paired_probs_range
#print axioms OS.FL_C11_ranks_range
#print axioms OS.FL_C11_ranks_strict
#print axioms OS.FL_C11_ranks_tie
#print axioms OS.FL_C11_ranks_lt_iff
#print axioms OS.FL_C11_ranks_max_one
#print axioms OS.predictRankLoop_eq
#print axioms OS.predictRankLoop_eq_real
#print axioms OS.MonoArith.orderLaws
#print axioms OS.rankDataCode_eq_of_preorder
#print axioms OS.rankDataCode_eq_mono
#print axioms OS.predictRankLoop_eq_of_preorder
#print axioms OS.predictRankLoop_eq_mono
#print axioms OS.rankDataCode_eq_rn
#print axioms OS.predictRankLoop_eq_rn
#print axioms OS.FL_C11_probs_monotone_team_own
#print axioms OS.FL_C11_probs_monotone_team_other
#print axioms OS.FL_C11_probs_monotone_own
#print axioms OS.FL_C11_probs_monotone_other
#print axioms OS.FL_C11_probs_monotone_own_rn
#print axioms OS.FL_C11_probs_monotone_other_rn
#print axioms OS.PhiMono.real
#print axioms OS.PhiMono.rn
#print axioms OS.FL5_PhiMono_independent
