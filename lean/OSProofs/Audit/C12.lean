import OSProofs.Props.LoopsReal
import OSProofs.Props.C12
import OSProofs.Props.Oracle
import OSProofs.Props.FL3
import OSProofs.Props.PredictLoops
#print axioms OS.chunk_flatMap
#print axioms OS.chunk_orderedPairs_map
#print axioms OS.chunk_orderedPairs_map_eraseIdx
#print axioms OS.filter_zipIdx_ne_eq_eraseIdx
#print axioms OS.sum_orderedPairs_eq_unordered
#print axioms OS.teamAgg_mu
#print axioms OS.teamAgg_sig2
#print axioms OS.playerCount_pair
#print axioms OS.C12_win_two
#print axioms OS.C12_win_two'
#print axioms OS.C12_win_many
#print axioms OS.C12_win_many_entry
#print axioms OS.C12_rank_probs_abs
#print axioms OS.C12_rank_probs
#print axioms OS.C12_drawMargin
#print axioms OS.C12_draw
#print axioms OS.drawMargin_nonneg
#print axioms OS.drawBand_symm_nonneg
#print axioms OS.C12_draw_noabs
#print axioms OS.HP.Oracle_neg_toReal
#print axioms OS.HP.Oracle_abs_toReal
#print axioms OS.HP.Oracle_scale2_toReal
#print axioms OS.HP.Oracle_ofInt_toReal
#print axioms OS.HP.Oracle_isNeg_iff
#print axioms OS.HP.Oracle_lt_iff
#print axioms OS.HP.Oracle_lt_false_iff
#print axioms OS.HP.Oracle_floor_spec
#print axioms OS.HP.Oracle_floor_eq
#print axioms OS.HP.Oracle_bitLen_spec
#print axioms OS.HP.Oracle_bitLen_zero
#print axioms OS.HP.Oracle_bitLen_le_iff
#print axioms OS.HP.Oracle_norm_exact
#print axioms OS.HP.Oracle_norm_err
#print axioms OS.HP.Oracle_norm_abs_le
#print axioms OS.HP.Oracle_norm_sign
#print axioms OS.HP.Oracle_norm_spec
#print axioms OS.HP.Oracle_norm_bitLen
#print axioms OS.HP.Oracle_mul_err
#print axioms OS.HP.Oracle_mul_abs_le
#print axioms OS.HP.Oracle_mul_bitLen
#print axioms OS.HP.Oracle_add_err
#print axioms OS.HP.Oracle_add_err_normalised
#print axioms OS.HP.Oracle_sub_err
#print axioms OS.HP.Oracle_sub_self_zero
#print axioms OS.HP.Oracle_div_err
#print axioms OS.HP.Oracle_div_abs_le
#print axioms OS.HP.Oracle_div_zero
#print axioms OS.HP.Oracle_m_ne_zero_iff
#print axioms OS.HP.Oracle_sqrt_err
#print axioms OS.HP.Oracle_sqrt_le
#print axioms OS.HP.Oracle_sqrt_nonpos
#print axioms OS.GEN_C12_win_many_partial
#print axioms OS.GEN_C12_win_many
#print axioms OS.GEN_C12_win_one
#print axioms OS.GEN_C12_win_two
#print axioms OS.GEN_C12_win_two'
#print axioms OS.GEN_C12_rank_probs
#print axioms OS.GEN_C12_rank_probs_one
#print axioms OS.GEN_C12_draw
#print axioms OS.GEN_C12_draw_nested
#print axioms OS.GEN_C12_length
#print axioms OS.GEN_C12_length_one
#print axioms OS.fl3_toy_regroup_fails
#print axioms OS.permutations2_eq_orderedPairs
#print axioms OS.zipLongestIter_eq_chunk
#print axioms OS.pl2_zipLongestIter_eq_pad
#print axioms OS.predictWinLoop_eq
#print axioms OS.predictDrawLoop_eq
#print axioms OS.predictRankLoop_eq
#print axioms OS.predictWinLoop_eq_real
#print axioms OS.predictDrawLoop_eq_real
#print axioms OS.predictRankLoop_eq_real
#print axioms OS.pl2_hypothesis_needed
#print axioms OS.unwindCode_eq
