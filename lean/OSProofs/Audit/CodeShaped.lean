import OSProofs.Props.LoopsReal
import OSProofs.CodeShaped
#print axioms OS.plSumQCode_eq
#print axioms OS.plSumQCode_eq_generic
#print axioms OS.denseRanks_nondecreasing
#print axioms OS.teamAggs_rank_nondecreasing
#print axioms OS.plSumQCode_eq_denseRanks
#print axioms OS.plSumQCode_eq_range
#print axioms OS.rankDataCode_eq
