import OSProofs.Props.C17
import OSProofs.Props.Oracle
import OSProofs.GenTie
#print axioms OS.leafFacts_code
#print axioms OS.C17_v_exact_branch
#print axioms OS.C17_w_exact_branch
#print axioms OS.C17_vt_exact_branch
#print axioms OS.C17_wt_exact_branch
#print axioms OS.C17_v_nonneg
#print axioms OS.C17_asymptote_only_negative
#print axioms OS.C17_v_ge_mills
#print axioms OS.C17_w_nonneg
#print axioms OS.C17_w_range
#print axioms OS.C17_wt_nonneg
#print axioms OS.wtCode_le_one
#print axioms OS.C17_wt_range
#print axioms OS.C17_vt_mem
#print axioms OS.vtExact_mem
#print axioms OS.C17_vt_within_2t
#print axioms OS.C17_vt_odd
#print axioms OS.C17_asymptote_below_minus_8
#print axioms OS.C17_v_asym_error
#print axioms OS.C17_w_asym_error
#print axioms OS.C17_w_asym_nonneg_x
#print axioms Gauss.sampford
#print axioms Gauss.sampford_lower
#print axioms Gauss.Wt_mul_Z_le
#print axioms Gauss.Phi_neg_eight_gt
#print axioms Gauss.Wt_mul_Z_ge
#print axioms OS.C17_wtExact_le_one
#print axioms OS.C17_wtExact_ge
#print axioms OS.C17_wt_code_error
#print axioms OS.C17_wt_code_error_20t
#print axioms OS.HP.Oracle_neg_toReal
#print axioms OS.HP.Oracle_abs_toReal
#print axioms OS.HP.Oracle_scale2_toReal
#print axioms OS.HP.Oracle_ofInt_toReal
#print axioms OS.HP.Oracle_isNeg_iff
#print axioms OS.HP.Oracle_lt_iff
#print axioms OS.HP.Oracle_lt_false_iff
#print axioms OS.HP.Oracle_floor_spec
#print axioms OS.HP.Oracle_floor_eq
#print axioms OS.HP.Oracle_bitLen_spec
#print axioms OS.HP.Oracle_bitLen_zero
#print axioms OS.HP.Oracle_bitLen_le_iff
#print axioms OS.HP.Oracle_norm_exact
#print axioms OS.HP.Oracle_norm_err
#print axioms OS.HP.Oracle_norm_abs_le
#print axioms OS.HP.Oracle_norm_sign
#print axioms OS.HP.Oracle_norm_spec
#print axioms OS.HP.Oracle_norm_bitLen
#print axioms OS.HP.Oracle_mul_err
#print axioms OS.HP.Oracle_mul_abs_le
#print axioms OS.HP.Oracle_mul_bitLen
#print axioms OS.HP.Oracle_add_err
#print axioms OS.HP.Oracle_add_err_normalised
#print axioms OS.HP.Oracle_sub_err
#print axioms OS.HP.Oracle_sub_self_zero
#print axioms OS.HP.Oracle_div_err
#print axioms OS.HP.Oracle_div_abs_le
#print axioms OS.HP.Oracle_div_zero
#print axioms OS.HP.Oracle_m_ne_zero_iff
#print axioms OS.HP.Oracle_sqrt_err
#print axioms OS.HP.Oracle_sqrt_le
#print axioms OS.HP.Oracle_sqrt_nonpos
#print axioms OS.Gen.v_eq
#print axioms OS.Gen.w_eq
#print axioms OS.Gen.vt_eq
#print axioms OS.Gen.wt_eq
