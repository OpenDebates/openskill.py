import OSProofs.Props.LoopsReal
import OSProofs.Props.C09
import OSProofs.Props.FL2
import OSProofs.MonoArithInst
import OSProofs.Props.PredictLoops
import OSProofs.Props.FL5Inst
#print axioms OS.predictWin_eq_winVal
#print axioms OS.C09_length
#print axioms OS.C09_entry
#print axioms OS.C09_sum_one
#print axioms OS.C09_range_strict
#print axioms OS.C09_range
#print axioms OS.C09_two_identical
#print axioms OS.C09_two_equal_mu
#print axioms OS.winVal_perm
#print axioms OS.C09_equivariant
#print axioms OS.C09_equivariant_zip
#print axioms OS.C09_swap_two
#print axioms OS.C09_identical
#print axioms OS.C09_identical_teams
#print axioms OS.C09_monotone_team_own
#print axioms OS.C09_monotone_team_other
#print axioms OS.C09_monotone_own
#print axioms OS.C09_monotone_other
#print axioms OS.MonoArith.real
#print axioms OS.MonoArith.rn
#print axioms OS.truncRounding
#print axioms OS.truncRounding_lossy
#print axioms OS.truncRounding_ne_id
#print axioms OS.FL_C09_two
#print axioms OS.FL_C09_range
#print axioms OS.FL_C09_range_two_or_more
#print axioms OS.FL_C09_range_all
#print axioms OS.FL_C09_length
#print axioms OS.permutations2_eq_orderedPairs
#print axioms OS.zipLongestIter_eq_chunk
#print axioms OS.pl2_zipLongestIter_eq_pad
#print axioms OS.predictWinLoop_eq
#print axioms OS.predictWinLoop_eq_real
#print axioms OS.FL_C09_two_form
#print axioms OS.FL_teamAgg_mu_mono
#print axioms OS.FL_pairDenom_pos
#print axioms OS.FL_C09_two_monotone_team
#print axioms OS.FL_C09_two_monotone_team_b
#print axioms OS.FL_C09_two_monotone
#print axioms OS.FL_C09_two_monotone_b
#print axioms OS.FL_C09_many_monotone_team_own
#print axioms OS.FL_C09_many_monotone_team_other
#print axioms OS.FL_C09_many_monotone_own
#print axioms OS.FL_C09_many_monotone_other
#print axioms OS.FL_C09_divisors_pos_of_var_pos
#print axioms OS.PhiMono.real
#print axioms OS.PhiMono.rn
#print axioms OS.FL_C09_two_monotone_real
#print axioms OS.FL_C09_many_monotone_own_real
#print axioms OS.FL_C09_many_monotone_other_real
#print axioms OS.FL_teamAgg_mu_mono_rn
#print axioms OS.FL_C09_two_monotone_rn
#print axioms OS.FL_C09_two_monotone_b_rn
#print axioms OS.FL_C09_many_monotone_own_rn
#print axioms OS.FL_C09_many_monotone_other_rn
#print axioms OS.MonoArith.wob
#print axioms OS.FL5_PhiMono_independent
