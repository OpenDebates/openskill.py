import OSProofs.Props.C08
import OSProofs.Props.C08b
import OSProofs.Props.C08Mag
#print axioms OS.C08_sqrt_arg_nonneg
#print axioms OS.C08_ciq_pos
#print axioms OS.C08_plC_pos
#print axioms OS.C08_team_var_pos
#print axioms OS.C08_inflate_pos
#print axioms OS.C08_invcdf_arg
#print axioms OS.C08_bt_exp_arg_bound
#print axioms OS.C08_leaf_divisors_pos
#print axioms OS.C08_leaf_divisors_are
#print axioms OS.C08_gamma_guards
#print axioms OS.C08_applyTeam_guards
#print axioms OS.C08_inflate_guards
#print axioms OS.C08_unwind_inflated
#print axioms OS.C08_teamAgg_facts
#print axioms OS.C08_teamAggs_length
#print axioms OS.C08_rate_guards_BT
#print axioms OS.C08_rate_guards_TM
#print axioms OS.C08_rate_guards_PL
#print axioms OS.C08_compute_guards
#print axioms OS.C08_rate_guards
#print axioms OS.C08_predict_guards
#print axioms OS.C08_gammaVal_shape
#print axioms OS.C08_btPair_shape
#print axioms OS.C08_tmPair_shape
#print axioms OS.C08_drawMargin_shape
#print axioms OS.C08_applyTeam_shape
#print axioms OS.C08_pairDenom_shape
#print axioms OS.C08_full_models_discarded_sites
#print axioms OS.C08_mag_domain_implies_guard_domain
#print axioms OS.C08_mag_inflated
#print axioms OS.C08_magnitudes_aggregates
#print axioms OS.C08_leafBounds_code
#print axioms OS.C08_magnitudes_rate_BT
#print axioms OS.C08_magnitudes_rate_PL
#print axioms OS.C08_magnitudes_rate_TM
#print axioms OS.C08_magnitudes_rate
#print axioms OS.C08_magnitudes_rate_entry
#print axioms OS.C08_magnitudes_predict
#print axioms OS.C08_no_overflow_corollary
#print axioms OS.C08_no_overflow_rate
