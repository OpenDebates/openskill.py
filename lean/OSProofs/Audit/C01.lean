import OSProofs.Props.LoopsReal
import OSProofs.Props.C01
import OSProofs.Props.C01b
import OSProofs.Props.C01d
import OSProofs.CodeShaped
import OSProofs.Ladder
import OSProofs.GenTie
import OSProofs.Props.Loops
import OSProofs.Props.Gamma
#print axioms OS.C01_PL
#print axioms OS.C01_BTF
#print axioms OS.C01_BTP
#print axioms OS.C01_TMF
#print axioms OS.C01_TMP
#print axioms OS.C01_omegaDelta
#print axioms OS.C01_player
#print axioms OS.C01_teamAgg
#print axioms OS.C01_inflate_sq
#print axioms OS.C01_teamAgg_inflate
#print axioms OS.C01_compute
#print axioms OS.C01_rate_omitted
#print axioms OS.C01_rate_ranked
#print axioms OS.C01_rate_ranked_full
#print axioms OS.C01_rate_clamped
#print axioms OS.plSumQCode_eq
#print axioms OS.plSumQCode_eq_generic
#print axioms OS.plSumQCode_eq_denseRanks
#print axioms OS.plSumQCode_eq_range
#print axioms OS.denseRanks_nondecreasing
#print axioms OS.ladderPairsCode_eq
#print axioms OS.ladderPairsCode_getElem
#print axioms OS.rateCore_via_prepared
#print axioms OS.compute_eq_computeOn
#print axioms OS.LeafGap.refl
#print axioms OS.LeafGap.symm
#print axioms OS.tmPair_gap
#print axioms OS.C01_leaf_gap_TMF
#print axioms OS.C01_leaf_gap_TMP
#print axioms OS.C01_leaf_gap_pos_of_beta
#print axioms OS.C01_leaf_gap_player
#print axioms OS.C01_leaf_gap_player_sigma
#print axioms OS.C01_leaf_gap_applyTeam
#print axioms OS.C01_leaf_gap_compute_TMF
#print axioms OS.C01_leaf_gap_compute_TMP
#print axioms OS.C01_leaf_gap_rating_TMF
#print axioms OS.C01_leaf_gap_rating_TMP
#print axioms OS.leafGap_code_exact
#print axioms OS.codeGapW_of_le_eight
#print axioms OS.codeGapVW_eq_zero
#print axioms OS.C01_code_vs_exact_TMF
#print axioms OS.C01_code_vs_exact_TMP
#print axioms OS.C01_leafGap_code_exact
#print axioms OS.Gen.gamma_PL_eq
#print axioms OS.Gen.gamma_BTF_eq
#print axioms OS.Gen.gamma_BTP_eq
#print axioms OS.Gen.gamma_TMF_eq
#print axioms OS.Gen.gamma_TMP_eq
#print axioms OS.Gen.v_eq
#print axioms OS.Gen.w_eq
#print axioms OS.Gen.vt_eq
#print axioms OS.Gen.wt_eq
#print axioms OS.computeLoop_eq
#print axioms OS.computeLoop_eq_exact
#print axioms OS.computeLoop_eq_real
#print axioms OS.computeLoopPL_eq
#print axioms OS.computeLoopBTF_eq
#print axioms OS.computeLoopBTP_eq
#print axioms OS.computeLoopTMF_eq
#print axioms OS.computeLoopTMP_eq
#print axioms OS.rateCore_via_loops
#print axioms OS.rateCore_via_loops_real
#print axioms OS.plSumQCode_eq_of_zero
#print axioms OS.computeLoopPLCodeOn_eq
#print axioms OS.computeCode_some_eq
#print axioms OS.computeCode_none_eq
#print axioms OS.rateLoop_eq
#print axioms OS.rateLoop_eq_real
#print axioms OS.lp_teamRatingsLoop_eq
#print axioms OS.lp_plCLoop_eq
#print axioms OS.lp_rankOutputLoop_eq
#print axioms OS.lp_rankingsLoopRanks_eq
#print axioms OS.lp_rankingsLoopNone_eq
#print axioms OS.lp_inflateLoop_eq
#print axioms OS.lp_negateLoop_eq
#print axioms OS.lp_copyLoop_eq
#print axioms OS.lp_clampLoop_eq
#print axioms OS.lp_loopPlayers_eq
#print axioms OS.C01_compute_any_gamma
#print axioms OS.C01_omegaDelta_any_gamma
#print axioms OS.Gamma_tagged_nonneg
#print axioms OS.Gamma_tagged_scaleInv
#print axioms OS.Gamma_tagged_shiftInv
#print axioms OS.Gamma_tagged_players
#print axioms OS.Gamma_tagged_iff
#print axioms OS.Gamma_teamSigma_all
#print axioms OS.Gamma_teamSigma_rate
#print axioms OS.Gamma_fn_val
#print axioms OS.Gamma_fn_nonneg
#print axioms OS.Gamma_fn_scaleInv
#print axioms OS.Gamma_fn_shiftInv
#print axioms OS.Gamma_fn_permInv
#print axioms OS.Gamma_fn_idInv
#print axioms OS.gam_compute_teamSigma
#print axioms OS.gam_omegaDelta_congr_gamma
#print axioms OS.gam_teamSigma_gammaOK
#print axioms OS.gam_teamSigma_scaleInv
#print axioms OS.gam_teamSigma_permInv
