import OSProofs.PairLemmas
import OSProofs.Props.C01
import Mathlib.Algebra.BigOperators.Field
import Mathlib.Algebra.BigOperators.Ring.Finset
import Mathlib.Algebra.BigOperators.Fin
import Mathlib.Algebra.BigOperators.Intervals
import Mathlib.Algebra.Order.BigOperators.Group.Finset
/-!
# Helper lemmas for C07 (precision-weighted zero sum)

The quantity of C07, `Σ_i Ω_i / sig2_i`, as a sum over positions (`c07_sum_ofFn`); `omegaDelta` position by
position comes from `Props/C01` (`C01_PL`) and `SpecLemmas` (`pairing_full_eq`, `pairing_part_eq`).
Plackett–Luce: zero for the published `Ω` of any game (`SpecPL_zero_sum`).  Pairing models, for ANY pair
function `pr`: the quantity is the sum of the symmetrised pair terms `pairSym pr` over the unordered pairs
of positions (full pairing, `c07_full_eq`) or over the adjacent pairs (partial pairing, `c07_partial_eq`);
a pair term of the shape `σ_i²/c · v_iq` with `c` symmetric has `pairSym = (v_iq + v_qi)/c` (`pairSym_eq`).
For Thurstone–Mosteller that is `0` except at a tie with exactly equal mu, where it is `2·Ṽ(0, κ/c)/c`
(`tmPair_pairSym`).
-/

namespace OS
open Scalar Finset

/-! Statements use `l.get i`, not `l[i]`: for `i : Fin l.length` the bound proof inside `l[i]` is synthesised
by a tactic at every elaboration of the term; `l.get i` carries it and is definitionally equal. -/

theorem c07_sum_ofFn (ts : List (TeamAgg ℝ)) (f : Fin ts.length → ℝ × ℝ) :
    (((List.ofFn f).zip ts).map (fun x => x.1.1 / x.2.sig2)).sum
      = ∑ i : Fin ts.length, (f i).1 / (ts.get i).sig2 := by
  rw [← List.zip_swap, List.map_map, zip_ofFn_map, List.sum_ofFn]
  rfl

/-- the Plackett–Luce zero sum, over variables: ranks `r`, weights `e > 0`, any divisors `A`.
Exchanging the two sums, the terms of each `q` are `(1 - S_q / S_q) / A_q`. -/
theorem pl_zero_sum {n : ℕ} (r : Fin n → ℕ) (e A : Fin n → ℝ) (he : ∀ i, 0 < e i) :
    ∑ i, ∑ q ∈ univ.filter (fun q => r q ≤ r i),
        ((if q = i then 1 else 0) - e i / ∑ j ∈ univ.filter (fun j => r q ≤ r j), e j) / A q = 0 := by
  simp only [Finset.sum_filter (s := univ) (p := fun q => r q ≤ r _)]
  rw [Finset.sum_comm]
  refine Finset.sum_eq_zero fun q _ => ?_
  have hq : q ∈ univ.filter (fun j => r q ≤ r j) :=
    Finset.mem_filter.2 ⟨Finset.mem_univ q, le_refl (r q)⟩
  have hS : 0 < ∑ j ∈ univ.filter (fun j => r q ≤ r j), e j :=
    Finset.sum_pos (fun j _ => he j) ⟨q, hq⟩
  rw [← Finset.sum_filter, ← Finset.sum_div, Finset.sum_sub_distrib, ← Finset.sum_div,
    Finset.sum_ite_eq, if_pos hq, div_self hS.ne', sub_self, zero_div]

/-- C07 for the published Plackett–Luce update of any game -/
theorem SpecPL_zero_sum {n : ℕ} (G : Game n) (β : ℝ) (hs : ∀ i, G.s2 i ≠ 0) :
    ∑ i, SpecPL.Ω G β i / G.s2 i = 0 := by
  unfold SpecPL.Ω SpecPL.p SpecPL.S
  refine (Finset.sum_congr rfl fun i _ => share_cancel _ _ _ (hs i)).trans ?_
  rw [← Finset.sum_div, pl_zero_sum G.r (SpecPL.e G β) _ (fun _ => Real.exp_pos _), zero_div]

/-- what the ordered pairs `(i, q)` and `(q, i)` together contribute to `Σ_i Ω_i / sig2_i` -/
noncomputable def pairSym (pr : TeamAgg ℝ → TeamAgg ℝ → ℝ × ℝ) (ti tq : TeamAgg ℝ) : ℝ :=
  (pr ti tq).1 / ti.sig2 + (pr tq ti).1 / tq.sig2

/-- a double sum over the ordered pairs of a relation `R` that is an upper half `U` together with its
mirror image is the sum over the upper half of the symmetrised term: the mirror half is brought over by
exchanging the two sums -/
theorem sum_symm_halves {n : ℕ} (R U : Fin n → Fin n → Prop) [DecidableRel R] [DecidableRel U]
    (hR : ∀ i q, R i q ↔ U i q ∨ U q i) (hU : ∀ i q, U i q → ¬U q i) (a : Fin n → Fin n → ℝ) :
    ∑ i : Fin n, ∑ q ∈ univ.filter (R i), a i q
      = ∑ i : Fin n, ∑ q : Fin n, if U i q then a i q + a q i else 0 := by
  have h1 : ∀ i q : Fin n, (if R i q then a i q else 0)
      = (if U i q then a i q else 0) + (if U q i then a i q else 0) := by
    intro i q
    by_cases h : U i q
    · rw [if_pos ((hR i q).2 (Or.inl h)), if_pos h, if_neg (hU i q h), add_zero]
    · by_cases h' : U q i
      · rw [if_pos ((hR i q).2 (Or.inr h')), if_neg h, if_pos h', zero_add]
      · rw [if_neg fun hr => ((hR i q).1 hr).elim h h', if_neg h, if_neg h', add_zero]
  have h2 : ∑ i : Fin n, ∑ q : Fin n, (if U q i then a i q else 0)
      = ∑ i : Fin n, ∑ q : Fin n, (if U i q then a q i else 0) := Finset.sum_comm
  simp only [Finset.sum_filter, h1, Finset.sum_add_distrib, h2]
  simp only [← Finset.sum_add_distrib, ← ite_add_zero]

section pairing
variable (ts : List (TeamAgg ℝ)) (pr : TeamAgg ℝ → TeamAgg ℝ → ℝ × ℝ)

/-- the C07 quantity of a full-pairing model: every unordered pair of positions contributes its
symmetrised pair term -/
theorem c07_full_eq :
    (((ts.zipIdx.map (fun x => sumPairs ((othersOf ts x.2).map (pr x.1)))).zip ts).map
        (fun x => x.1.1 / x.2.sig2)).sum
      = ∑ i : Fin ts.length, ∑ q : Fin ts.length,
          if i < q then pairSym pr (ts.get i) (ts.get q) else 0 := by
  rw [pairing_full_eq, c07_sum_ofFn]
  exact Eq.trans (Finset.sum_congr rfl fun i _ =>
      Finset.sum_div (univ.filter (· ≠ i)) (fun q => (pr (ts.get i) (ts.get q)).1) _)
    (sum_symm_halves (fun i q => q ≠ i) (· < ·) (fun _ _ => ne_comm.trans ne_iff_lt_or_gt)
      (fun _ _ => lt_asymm) fun i q => (pr (ts.get i) (ts.get q)).1 / (ts.get i).sig2)

theorem c07_full_abs_le (B : Fin ts.length → Fin ts.length → ℝ)
    (h : ∀ i q : Fin ts.length, i < q → |pairSym pr (ts.get i) (ts.get q)| ≤ B i q) :
    |(((ts.zipIdx.map (fun x => sumPairs ((othersOf ts x.2).map (pr x.1)))).zip ts).map
        (fun x => x.1.1 / x.2.sig2)).sum|
      ≤ ∑ i : Fin ts.length, ∑ q : Fin ts.length, if i < q then B i q else 0 := by
  rw [c07_full_eq]
  refine (Finset.abs_sum_le_sum_abs _ _).trans (Finset.sum_le_sum fun i _ => ?_)
  refine (Finset.abs_sum_le_sum_abs _ _).trans (Finset.sum_le_sum fun q _ => ?_)
  split_ifs with hiq
  · exact h i q hiq
  · exact abs_zero.le

theorem c07_full_zero
    (h : ∀ i q : Fin ts.length, i < q → pairSym pr (ts.get i) (ts.get q) = 0) :
    (((ts.zipIdx.map (fun x => sumPairs ((othersOf ts x.2).map (pr x.1)))).zip ts).map
        (fun x => x.1.1 / x.2.sig2)).sum = 0 := by
  rw [c07_full_eq]
  exact Finset.sum_eq_zero fun i _ => Finset.sum_eq_zero fun q _ => by
    split_ifs with hiq
    exacts [h i q hiq, rfl]

theorem sum_adjacent {n : ℕ} (F : Fin n → Fin n → ℝ) :
    ∑ i : Fin n, ∑ q : Fin n, (if (i : ℕ) + 1 = q then F i q else 0)
      = ∑ j ∈ range (n - 1),
          if hj : j + 1 < n then F ⟨j, Nat.lt_of_succ_lt hj⟩ ⟨j + 1, hj⟩ else 0 := by
  have hin : ∀ i : Fin n, ∑ q : Fin n, (if (i : ℕ) + 1 = q then F i q else 0)
      = if hj : (i : ℕ) + 1 < n then F i ⟨i + 1, hj⟩ else 0 := by
    intro i
    by_cases hj : (i : ℕ) + 1 < n
    · rw [dif_pos hj, Finset.sum_eq_single (⟨i + 1, hj⟩ : Fin n)
        (fun q _ hq => if_neg fun e => hq (Fin.ext e.symm)) (fun h => absurd (Finset.mem_univ _) h),
        if_pos rfl]
    · rw [dif_neg hj]
      exact Finset.sum_eq_zero fun q _ => if_neg fun e => hj (lt_of_eq_of_lt e q.2)
  rw [Finset.sum_congr rfl fun i _ => hin i,
    Fin.sum_univ_eq_sum_range
      (fun j => if hj : j + 1 < n then F ⟨j, Nat.lt_of_succ_lt hj⟩ ⟨j + 1, hj⟩ else 0) n]
  cases n with
  | zero => rfl
  | succ m => rw [Finset.sum_range_succ, dif_neg (Nat.lt_irrefl _), add_zero, Nat.add_sub_cancel]

/-- the C07 quantity of a partial-pairing (ladder) model: every pair of adjacent positions
contributes its symmetrised pair term -/
theorem c07_partial_eq :
    (((ts.zipIdx.map (fun x => sumPairs ((neighboursOf ts x.2).map (pr x.1)))).zip ts).map
        (fun x => x.1.1 / x.2.sig2)).sum
      = ∑ j ∈ Finset.range (ts.length - 1), if hj : j + 1 < ts.length then
          pairSym pr (ts[j]'(Nat.lt_of_succ_lt hj)) (ts[j + 1]'hj) else 0 := by
  rw [pairing_part_eq, c07_sum_ofFn]
  exact (Finset.sum_congr rfl fun i _ =>
      Finset.sum_div (nbrs i) (fun q => (pr (ts.get i) (ts.get q)).1) _).trans
    ((sum_symm_halves (fun i q => (q : ℕ) + 1 = i ∨ (q : ℕ) = i + 1) (fun i q => (i : ℕ) + 1 = q)
        (fun _ _ => or_comm.trans (or_congr eq_comm Iff.rfl)) (fun i q h h' => by omega)
        fun i q => (pr (ts.get i) (ts.get q)).1 / (ts.get i).sig2).trans
      (sum_adjacent fun i q => pairSym pr (ts.get i) (ts.get q)))

theorem c07_partial_abs_le (B : ∀ j : ℕ, j + 1 < ts.length → ℝ)
    (h : ∀ (j : ℕ) (hj : j + 1 < ts.length),
      |pairSym pr (ts[j]'(Nat.lt_of_succ_lt hj)) (ts[j + 1]'hj)| ≤ B j hj) :
    |(((ts.zipIdx.map (fun x => sumPairs ((neighboursOf ts x.2).map (pr x.1)))).zip ts).map
        (fun x => x.1.1 / x.2.sig2)).sum|
      ≤ ∑ j ∈ Finset.range (ts.length - 1), if hj : j + 1 < ts.length then B j hj else 0 := by
  rw [c07_partial_eq]
  refine (Finset.abs_sum_le_sum_abs _ _).trans (Finset.sum_le_sum fun j _ => ?_)
  split_ifs with hj
  · exact h j hj
  · exact abs_zero.le

theorem c07_partial_zero
    (h : ∀ (j : ℕ) (hj : j + 1 < ts.length),
      pairSym pr (ts[j]'(Nat.lt_of_succ_lt hj)) (ts[j + 1]'hj) = 0) :
    (((ts.zipIdx.map (fun x => sumPairs ((neighboursOf ts x.2).map (pr x.1)))).zip ts).map
        (fun x => x.1.1 / x.2.sig2)).sum = 0 := by
  rw [c07_partial_eq]
  exact Finset.sum_eq_zero fun j _ => by
    split_ifs with hj
    exacts [h j hj, rfl]

end pairing

theorem pairSym_eq {pr : TeamAgg ℝ → TeamAgg ℝ → ℝ × ℝ} {ti tq : TeamAgg ℝ} {c v v' : ℝ}
    (h1 : (pr ti tq).1 = ti.sig2 / c * v) (h2 : (pr tq ti).1 = tq.sig2 / c * v')
    (hi : ti.sig2 ≠ 0) (hq : tq.sig2 ≠ 0) : pairSym pr ti tq = (v + v') / c := by
  unfold pairSym
  rw [h1, h2, share_cancel _ _ _ hi, share_cancel _ _ _ hq, add_div]

/-- the symmetrised Thurstone–Mosteller pair term.  With `x = (μ_i − μ_q)/c`, `t = κ/c`, `c = cmul·c_iq`,
the direction `q → i` contributes the value selected for the exchanged outcome at `−x`: win and loss
cancel always (`V(x)` against `−V(−(−x))`), a tie at different mu as soon as `Ṽ` is odd at `x`; at a tie
with exactly equal mu both directions contribute `Ṽ(0, t)` -/
theorem tmPair_pairSym (L : Leaves ℝ) (cmul β κ : ℝ) (g : GammaFn ℝ) (n : ℕ) (ti tq : TeamAgg ℝ)
    (hi : ti.sig2 ≠ 0) (hq : tq.sig2 ≠ 0)
    (hodd : ti.rank = tq.rank → ti.mu ≠ tq.mu →
      L.vt (-((ti.mu - tq.mu) / (cmul * pairC β ti tq))) (κ / (cmul * pairC β ti tq))
        = -L.vt ((ti.mu - tq.mu) / (cmul * pairC β ti tq)) (κ / (cmul * pairC β ti tq))) :
    pairSym (tmPair L cmul β κ g n) ti tq =
      if ti.rank = tq.rank ∧ ti.mu = tq.mu
      then 2 * L.vt 0 (κ / (cmul * pairC β ti tq)) / (cmul * pairC β ti tq) else 0 := by
  have h2 := tmPair_fst L cmul β κ g n tq ti
  rw [pairC_symm β ti tq, ← neg_sub ti.mu tq.mu, neg_div, byOutcome_swap ti.rank tq.rank] at h2
  rw [pairSym_eq (tmPair_fst L cmul β κ g n ti tq) h2 hi hq]
  rcases Nat.lt_trichotomy ti.rank tq.rank with h | h | h
  · rw [byOutcome_win h, byOutcome_win h, neg_neg, add_neg_cancel, zero_div,
      if_neg fun h' => h.ne h'.1]
  · rw [byOutcome_draw h, byOutcome_draw h]
    by_cases hm : ti.mu = tq.mu
    · rw [if_pos ⟨h, hm⟩, hm, sub_self, zero_div, neg_zero, two_mul]
    · rw [if_neg fun h' => hm h'.2, hodd h hm, add_neg_cancel, zero_div]
  · rw [byOutcome_loss h, byOutcome_loss h, neg_add_cancel, zero_div, if_neg fun h' => h.ne' h'.1]

/-- with the leaf facts: `Ṽ` is odd away from `0`, and `x ≠ 0` for different mu since `c > 0` -/
theorem tmPair_pairSym_of_leafFacts (L : Leaves ℝ) (hL : LeafFacts L) (cmul β κ : ℝ) (g : GammaFn ℝ)
    (n : ℕ) (ti tq : TeamAgg ℝ) (hc : 0 < cmul) (hi : 0 < ti.sig2) (hq : 0 < tq.sig2) :
    pairSym (tmPair L cmul β κ g n) ti tq =
      if ti.rank = tq.rank ∧ ti.mu = tq.mu
      then 2 * L.vt 0 (κ / (cmul * pairC β ti tq)) / (cmul * pairC β ti tq) else 0 :=
  tmPair_pairSym L cmul β κ g n ti tq hi.ne' hq.ne' fun _ hm => hL.vt_odd _ _
    (div_ne_zero (sub_ne_zero.2 hm) (mul_pos hc (pairC_pos_of_sig2 β hi hq.le)).ne')

/-- the largest possible contribution `2κ / c_iq²` of a tied pair with exactly equal mu -/
noncomputable def tmSlack (cmul β κ : ℝ) (ti tq : TeamAgg ℝ) : ℝ :=
  2 * κ / (cmul ^ 2 * (ti.sig2 + tq.sig2 + 2 * (β * β)))

theorem tmSlack_eq (cmul β κ : ℝ) {ti tq : TeamAgg ℝ} (hi : 0 ≤ ti.sig2) (hq : 0 ≤ tq.sig2) :
    tmSlack cmul β κ ti tq = 2 * (κ / (cmul * pairC β ti tq)) / (cmul * pairC β ti tq) := by
  unfold tmSlack
  rw [← pairC_sq β hi hq, ← mul_pow, mul_div_assoc', div_div, ← sq]

end OS
