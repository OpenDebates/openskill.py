import OSModel
import OSProofs.MonoArith
import OSProofs.FL1Lemmas
import OSProofs.FL2Lemmas
import OSProofs.SortLemmas

/-!
# Helper lemmas for FL5: monotonicity of the predictions in a player's mu, exactly

Over an abstract `α` with `[Scalar α]`, `(M : MonoArith α)` and the one further law `PhiMono α`; no field
axioms.  The pair term `Φ(g(θa − θb)/d_ab)` is monotone in `θa`, antitone in `θb`, and so is a team's entry
`sumL (opponent terms) / (n(n−1)/2)` (`fl5_entry_le`).
-/

namespace OS
open Scalar
variable {α : Type} [Scalar α]

/-- **The one law beyond `MonoArith`**: the computed `Φ` is monotone.  True in ℝ and in every
"exact, then monotone rounding" arithmetic; for IEEE doubles it is a property of the libm in use
(`erfc` of the C library is not guaranteed monotone), which is why it is a hypothesis of the theorems
that need it and not a law of `MonoArith`. -/
def PhiMono (α : Type) [Scalar α] : Prop := ∀ a b : α, a ≤ b → Phi a ≤ Phi b

/-- team `t` with the mu of its `j`-th member replaced by `m` (nothing happens if there is no such member) -/
def fl5_setMu (t : List (Rating α)) (j : Nat) (m : α) : List (Rating α) :=
  t.modify j (fun p => { p with mu := m })

/-- `b'` is `b` with the same `s²` and a `θ` that is not smaller -/
def fl5_Raised (b b' : TeamAgg α) : Prop := b'.sig2 = b.sig2 ∧ b.mu ≤ b'.mu

omit [Scalar α] in
@[simp] theorem fl5_length_setMu (t : List (Rating α)) (j : Nat) (m : α) :
    (fl5_setMu t j m).length = t.length := by
  simp [fl5_setMu]

omit [Scalar α] in
theorem fl5_setMu_eq_set (t : List (Rating α)) (j : Nat) (hj : j < t.length) (m : α) :
    fl5_setMu t j m = t.set j { t[j] with mu := m } := by
  unfold fl5_setMu
  rw [List.modify_eq_set_getElem?, List.getElem?_eq_getElem hj]
  rfl

/-! ### arithmetic -/

/-- the pair term of `predict_win` (`g = id`) and of `predict_rank` (`g = (· − margin)`) -/
def fl5_term (g : α → α) (n : Nat) (β : α) (a b : TeamAgg α) : α :=
  Phi (g (a.mu - b.mu) / pairDenom n β a b)

/-- a team's entry: the left-fold sum of its terms against its opponents, divided by `n (n − 1) / 2` as
computed -/
def fl5_entry (g : α → α) (n : Nat) (β : α) (ts : List (TeamAgg α)) (a : TeamAgg α) (k : Nat) : α :=
  sumL ((othersOf ts k).map (fl5_term g n β a)) / (ofNat (n * (n - 1)) / ofNat 2)

namespace MonoArith
variable (M : MonoArith α)
include M

theorem fl5_denom_pos {n : Nat} (hn : 2 ≤ n) : (𝟘 : α) < ofNat (n * (n - 1)) / ofNat 2 := by
  obtain ⟨m, hle, e⟩ := fl2_denom_eq M hn
  rw [e]
  exact M.ofNat_lt' (by omega)

/-- **the pair term is monotone in the first team's θ and antitone in the second's**; all four divisors
are the same computed number -/
theorem fl5_term_le (hΦ : PhiMono α) {g : α → α} (hg : ∀ x y, x ≤ y → g x ≤ g y) (n : Nat) (β : α)
    {a a' b b' : TeamAgg α} (ha : a'.mu ≤ a.mu) (has : a'.sig2 = a.sig2) (hb : fl5_Raised b b')
    (hd : 𝟘 < pairDenom n β a' b) : fl5_term g n β a' b' ≤ fl5_term g n β a b := by
  unfold fl5_term
  rw [pairDenom_congr n β rfl hb.1, pairDenom_congr n β has.symm rfl]
  exact hΦ _ _ (M.div_le_div_right' (hg _ _ (M.sub_le_sub' ha hb.2)) hd)

theorem fl5_raised_refl (b : TeamAgg α) : fl5_Raised b b := ⟨rfl, M.le_refl' _⟩

/-- a team's entry is `≥ 0` as computed, so `abs` of it is the entry itself -/
theorem fl5_sabs_entry (g : α → α) {n : Nat} (hn : 2 ≤ n) (β : α) (ts : List (TeamAgg α))
    (a : TeamAgg α) (k : Nat) : sabs (fl5_entry g n β ts a k) = fl5_entry g n β ts a k :=
  M.orderLaws.sabs_of_nonneg
    (M.div_nonneg' (M.sumL_map_nonneg fun _ _ => M.Phi_nonneg' _) (M.fl5_denom_pos hn))

variable (hΦ : PhiMono α) {g : α → α} (hg : ∀ x y, x ≤ y → g x ≤ g y) {n : Nat} (hn : 2 ≤ n) (β : α)
include hΦ hg hn

/-- **a team's entry goes up with its own θ and down with the θ of every opponent** (every `s²` unchanged) -/
theorem fl5_entry_le {a a' : TeamAgg α} (ha : a'.mu ≤ a.mu) (has : a'.sig2 = a.sig2)
    {ts ts' : List (TeamAgg α)} (k : Nat)
    (h : List.Forall₂ fl5_Raised (ts.eraseIdx k) (ts'.eraseIdx k))
    (hd : ∀ b ∈ ts.eraseIdx k, 𝟘 < pairDenom n β a' b) :
    fl5_entry g n β ts' a' k ≤ fl5_entry g n β ts a k := by
  unfold fl5_entry
  rw [othersOf_eq_eraseIdx, othersOf_eq_eraseIdx]
  exact M.div_le_div_right' (M.sumL_mono (forall₂_map_flip h fun b hb _ hr =>
    M.fl5_term_le hΦ hg n β ha has hr (hd b hb))) (M.fl5_denom_pos hn)

/-- team `i` is replaced by one with a larger θ: its own entry does not go down (its opponents are the same
before and after) -/
theorem fl5_entry_set_own {a a' : TeamAgg α} (ha : a.mu ≤ a'.mu) (has : a'.sig2 = a.sig2)
    (ts : List (TeamAgg α)) (i : Nat) (hd : ∀ b ∈ ts, 𝟘 < pairDenom n β a b) :
    fl5_entry g n β ts a i ≤ fl5_entry g n β (ts.set i a') a' i := by
  refine M.fl5_entry_le hΦ hg hn β ha has.symm i ?_ ?_
  · rw [List.eraseIdx_set_eq]
    exact List.forall₂_same.2 fun b _ => M.fl5_raised_refl b
  · rw [List.eraseIdx_set_eq]
    exact fun b hb => hd b (List.mem_of_mem_eraseIdx hb)

/-- … and the entry of any team `k` does not go up (among its opponents, team `i` is raised) -/
theorem fl5_entry_set_other (a : TeamAgg α) (ts : List (TeamAgg α)) {i : Nat} (hi : i < ts.length)
    {b' : TeamAgg α} (hb : fl5_Raised ts[i] b') (k : Nat) (hd : ∀ b ∈ ts, 𝟘 < pairDenom n β a b) :
    fl5_entry g n β (ts.set i b') a k ≤ fl5_entry g n β ts a k :=
  M.fl5_entry_le hΦ hg hn β (M.le_refl' _) rfl k
    (forall₂_eraseIdx (forall₂_set M.fl5_raised_refl ts hi hb) k)
    fun b hb => hd b (List.mem_of_mem_eraseIdx hb)

end MonoArith

end OS
