import OSProofs.RealInst
import OSProofs.LeafFacts
import OSProofs.RealBounds
/-!
# The pair terms of Bradley–Terry and Thurstone–Mosteller in closed form

The `Ω` component of a pair term is `k · (a value selected by the outcome)` with `k = σ_i²/c_iq ≥ 0`
(`btPair_fst`, `tmPair_fst`); the `Δ` component is `γ·k/c · (a value selected by the outcome)`
(`btPair_snd`, `tmPair_snd`).  The outcome of `i` against `q` enters only through `byOutcome`, which
is monotone in the outcome (`byOutcome_mono`): loss ≤ draw ≤ win as soon as the three values are
ordered that way; so the `Ω` term of two teams grows with the outcome (`btPair_fst_mono`,
`tmPair_fst_mono`), in particular when the team alone is placed better (`btPair_fst_twin_le`,
`tmPair_fst_twin_le`).  Exchanging the two teams exchanges win and loss (`byOutcome_swap`), leaves `c_iq`
alone (`pairC_symm`) and turns `p_iq` into `1 − p_iq` (`btP_add`).
-/
noncomputable section
namespace OS

/-- `w` if `ri` beats `rq` (smaller rank), `l` if it loses, `d` on a tie -/
def byOutcome (ri rq : ℕ) (w d l : ℝ) : ℝ := if ri < rq then w else if rq < ri then l else d

theorem byOutcome_win {ri rq : ℕ} (h : ri < rq) (w d l : ℝ) : byOutcome ri rq w d l = w := if_pos h

theorem byOutcome_loss {ri rq : ℕ} (h : rq < ri) (w d l : ℝ) : byOutcome ri rq w d l = l := by
  rw [byOutcome, if_neg (Nat.lt_asymm h), if_pos h]

theorem byOutcome_draw {ri rq : ℕ} (h : ri = rq) (w d l : ℝ) : byOutcome ri rq w d l = d := by
  rw [byOutcome, if_neg (Nat.not_lt.2 (Nat.le_of_eq h.symm)), if_neg (Nat.not_lt.2 (Nat.le_of_eq h))]

theorem byOutcome_cases {P : ℝ → Prop} (ri rq : ℕ) {w d l : ℝ} (hw : P w) (hd : P d) (hl : P l) :
    P (byOutcome ri rq w d l) := by
  rcases Nat.lt_trichotomy ri rq with h | h | h
  · rwa [byOutcome_win h]
  · rwa [byOutcome_draw h]
  · rwa [byOutcome_loss h]

theorem byOutcome_swap (ri rq : ℕ) (w d l : ℝ) : byOutcome rq ri w d l = byOutcome ri rq l d w := by
  rcases Nat.lt_trichotomy ri rq with h | h | h
  · rw [byOutcome_loss h, byOutcome_win h]
  · rw [byOutcome_draw h, byOutcome_draw h.symm]
  · rw [byOutcome_win h, byOutcome_loss h]

/-- the scores of the two teams of a pair add up to one: `s_iq + s_qi = 1` -/
theorem byOutcome_score_add (ri rq : ℕ) :
    byOutcome ri rq 1 (1 / 2) 0 + byOutcome rq ri 1 (1 / 2) 0 = 1 := by
  rw [byOutcome_swap ri rq]
  rcases Nat.lt_trichotomy ri rq with h | h | h
  · rw [byOutcome_win h, byOutcome_win h, add_zero]
  · rw [byOutcome_draw h, byOutcome_draw h, add_halves]
  · rw [byOutcome_loss h, byOutcome_loss h, zero_add]

/-- the form in which the code and the closed forms test for a tie -/
theorem byOutcome_eq_ite (ri rq : ℕ) (w d l : ℝ) :
    byOutcome ri rq w d l = if ri < rq then w else if ri = rq then d else l := by
  rcases Nat.lt_trichotomy ri rq with h | h | h
  · rw [byOutcome_win h, if_pos h]
  · rw [byOutcome_draw h, if_neg (Nat.not_lt.2 (Nat.le_of_eq h.symm)), if_pos h]
  · rw [byOutcome_loss h, if_neg (Nat.lt_asymm h), if_neg (Nat.ne_of_gt h)]

theorem byOutcome_mem {w d l : ℝ} (hld : l ≤ d) (hdw : d ≤ w) (ri rq : ℕ) :
    l ≤ byOutcome ri rq w d l ∧ byOutcome ri rq w d l ≤ w :=
  byOutcome_cases (P := fun x => l ≤ x ∧ x ≤ w) ri rq ⟨hld.trans hdw, le_rfl⟩ ⟨hld, hdw⟩
    ⟨le_rfl, hld.trans hdw⟩

/-- a better outcome (a win stays a win, a tie stays a tie or becomes a win) selects a larger value -/
theorem byOutcome_mono {w d l : ℝ} (hld : l ≤ d) (hdw : d ≤ w) {ri rq ri' rq' : ℕ}
    (h1 : ri < rq → ri' < rq') (h2 : ri = rq → ri' ≤ rq') :
    byOutcome ri rq w d l ≤ byOutcome ri' rq' w d l := by
  rcases Nat.lt_trichotomy ri rq with h | h | h
  · rw [byOutcome_win h, byOutcome_win (h1 h)]
  · rw [byOutcome_draw h]
    rcases Nat.lt_or_ge ri' rq' with h' | h'
    · rw [byOutcome_win h']; exact hdw
    · rw [byOutcome_draw (Nat.le_antisymm (h2 h) h')]
  · rw [byOutcome_loss h]; exact (byOutcome_mem hld hdw ri' rq').1

theorem byOutcome_abs_sub_le {ri rq : ℕ} {w d l w' d' l' ew ed el : ℝ} (hw : |w - w'| ≤ ew)
    (hd : |d - d'| ≤ ed) (hl : |l - l'| ≤ el) :
    |byOutcome ri rq w d l - byOutcome ri rq w' d' l'| ≤ byOutcome ri rq ew ed el := by
  unfold byOutcome
  split_ifs
  exacts [hw, hl, hd]

/-- `c_iq` of a pair -/
def pairC (β : ℝ) (ti tq : TeamAgg ℝ) : ℝ := Real.sqrt (ti.sig2 + tq.sig2 + 2 * (β * β))

theorem pairC_nonneg (β : ℝ) (ti tq : TeamAgg ℝ) : 0 ≤ pairC β ti tq := Real.sqrt_nonneg _

theorem pairC_symm (β : ℝ) (ti tq : TeamAgg ℝ) : pairC β tq ti = pairC β ti tq := by
  unfold pairC; rw [add_comm tq.sig2]

theorem pairC_congr (β : ℝ) {ti tq ti' tq' : TeamAgg ℝ} (hi : ti'.sig2 = ti.sig2)
    (hq : tq'.sig2 = tq.sig2) : pairC β ti' tq' = pairC β ti tq := by
  unfold pairC; rw [hi, hq]

theorem pairC_pos_of_sig2 (β : ℝ) {ti tq : TeamAgg ℝ} (hi : 0 < ti.sig2) (hq : 0 ≤ tq.sig2) :
    0 < pairC β ti tq :=
  Real.sqrt_pos.mpr (add_pos_of_pos_of_nonneg (add_pos_of_pos_of_nonneg hi hq)
    (mul_nonneg zero_le_two (mul_self_nonneg β)))

theorem pairC_sq (β : ℝ) {ti tq : TeamAgg ℝ} (hi : 0 ≤ ti.sig2) (hq : 0 ≤ tq.sig2) :
    pairC β ti tq ^ 2 = ti.sig2 + tq.sig2 + 2 * (β * β) :=
  Real.sq_sqrt (add_nonneg (add_nonneg hi hq) (mul_nonneg zero_le_two (mul_self_nonneg β)))

/-- the Bradley–Terry win probability of `ti` over `tq` -/
def btP (β : ℝ) (ti tq : TeamAgg ℝ) : ℝ := 1 / (1 + Real.exp ((tq.mu - ti.mu) / pairC β ti tq))

theorem pairC_rank (β : ℝ) (a b : TeamAgg ℝ) (ra rb : Nat) :
    pairC β { a with rank := ra } { b with rank := rb } = pairC β a b := rfl

theorem btP_rank (β : ℝ) (a b : TeamAgg ℝ) (ra rb : Nat) :
    btP β { a with rank := ra } { b with rank := rb } = btP β a b := rfl

theorem btP_mem (β : ℝ) (ti tq : TeamAgg ℝ) : 0 < btP β ti tq ∧ btP β ti tq < 1 := logistic_mem _

theorem btP_add (β : ℝ) (ti tq : TeamAgg ℝ) : btP β ti tq + btP β tq ti = 1 := by
  unfold btP
  rw [pairC_symm β ti tq, ← neg_sub tq.mu ti.mu, neg_div]
  exact logistic_add_neg _

/-- `Ω` of a Bradley–Terry pair: `(σ_i²/c_iq)·(s − p_iq)` with the score `s` = 1, 1/2, 0 -/
theorem btPair_fst (β : ℝ) (g : GammaFn ℝ) (n : Nat) (ti tq : TeamAgg ℝ) :
    (btPair β g n ti tq).1
      = ti.sig2 / pairC β ti tq * (byOutcome ti.rank tq.rank 1 (1 / 2) 0 - btP β ti tq) := by
  rw [byOutcome_eq_ite, if_congr Iff.rfl rfl (if_congr (@eq_comm _ ti.rank tq.rank) rfl rfl)]
  simp only [btPair, pairC, btP, sc_sqrt, sc_exp, sc_ofNat, Nat.cast_one, Nat.cast_zero, Nat.cast_ofNat]

/-- `Δ` of a Bradley–Terry pair: `γ·(σ_i²/c_iq)/c_iq · p_iq (1 − p_iq)` -/
theorem btPair_snd (β : ℝ) (g : GammaFn ℝ) (n : Nat) (ti tq : TeamAgg ℝ) :
    (btPair β g n ti tq).2 = gammaVal g (pairC β ti tq) n ti.mu ti.sig2 ti.players ti.rank
      * (ti.sig2 / pairC β ti tq) / pairC β ti tq * btP β ti tq * (1 - btP β ti tq) := by
  simp only [btPair, btP, pairC, sc_sqrt, sc_exp, sc_ofNat, Nat.cast_ofNat, Nat.cast_one]

/-- `Ω` of a Thurstone–Mosteller pair: `(σ_i²/c)·V(x,t)` on a win, `(σ_i²/c)·Ṽ(x,t)` on a tie,
`(σ_i²/c)·(−V(−x,t))` on a loss, with `c = cmul·c_iq`, `x = (μ_i − μ_q)/c`, `t = κ/c` -/
theorem tmPair_fst (L : Leaves ℝ) (cmul β κ : ℝ) (g : GammaFn ℝ) (n : Nat) (ti tq : TeamAgg ℝ) :
    (tmPair L cmul β κ g n ti tq).1 = ti.sig2 / (cmul * pairC β ti tq) *
      byOutcome ti.rank tq.rank
        (L.v ((ti.mu - tq.mu) / (cmul * pairC β ti tq)) (κ / (cmul * pairC β ti tq)))
        (L.vt ((ti.mu - tq.mu) / (cmul * pairC β ti tq)) (κ / (cmul * pairC β ti tq)))
        (-L.v (-((ti.mu - tq.mu) / (cmul * pairC β ti tq))) (κ / (cmul * pairC β ti tq))) := by
  simp only [tmPair, pairC, byOutcome, sc_sqrt, sc_ofNat, Nat.cast_ofNat]
  split_ifs
  · rfl
  · exact neg_mul_comm _ _
  · rfl

/-- `Δ` of a Thurstone–Mosteller pair: `γ·(σ_i²/c)/c` times `W(x,t)` on a win, `W̃(x,t)` on a tie,
`W(−x,t)` on a loss -/
theorem tmPair_snd (L : Leaves ℝ) (cmul β κ : ℝ) (g : GammaFn ℝ) (n : Nat) (ti tq : TeamAgg ℝ) :
    (tmPair L cmul β κ g n ti tq).2 =
      gammaVal g (cmul * pairC β ti tq) n ti.mu ti.sig2 ti.players ti.rank
        * (ti.sig2 / (cmul * pairC β ti tq)) / (cmul * pairC β ti tq) *
      byOutcome ti.rank tq.rank
        (L.w ((ti.mu - tq.mu) / (cmul * pairC β ti tq)) (κ / (cmul * pairC β ti tq)))
        (L.wt ((ti.mu - tq.mu) / (cmul * pairC β ti tq)) (κ / (cmul * pairC β ti tq)))
        (L.w (-((ti.mu - tq.mu) / (cmul * pairC β ti tq))) (κ / (cmul * pairC β ti tq))) := by
  simp only [tmPair, pairC, byOutcome, sc_sqrt, sc_ofNat, Nat.cast_ofNat]
  split_ifs
  · rfl
  · rfl
  · rfl

/-- `−V(−x,t) ≤ Ṽ(x,t) ≤ V(x,t)`, through `−t − x ≤ Ṽ(x,t) ≤ t − x` and Mills' `V(y,t) ≥ t − y` -/
theorem LeafFacts.chain {L : Leaves ℝ} (hL : LeafFacts L) (x : ℝ) {t : ℝ} (ht : 0 ≤ t) :
    -L.v (-x) t ≤ L.vt x t ∧ L.vt x t ≤ L.v x t := by
  have h1 := hL.v_ge (-x) t
  have h2 := hL.v_ge x t
  have h3 := hL.vt_mem x t ht
  exact ⟨by linarith, by linarith⟩

/-- the `Ω` term of a pair grows with the outcome: the same two teams (same mu, same variance) placed so
that a win of the first stays a win and a tie stays a tie or becomes a win -/
theorem btPair_fst_mono (β : ℝ) (g g' : GammaFn ℝ) (n n' : Nat) {ti tq ti' tq' : TeamAgg ℝ}
    (hs : 0 ≤ ti.sig2) (hi : ti'.mu = ti.mu ∧ ti'.sig2 = ti.sig2)
    (hq : tq'.mu = tq.mu ∧ tq'.sig2 = tq.sig2)
    (h : (ti.rank < tq.rank → ti'.rank < tq'.rank) ∧ (ti.rank = tq.rank → ti'.rank ≤ tq'.rank)) :
    (btPair β g n ti tq).1 ≤ (btPair β g' n' ti' tq').1 := by
  have hc := pairC_congr β hi.2 hq.2
  have hp : btP β ti' tq' = btP β ti tq := by unfold btP; rw [hc, hi.1, hq.1]
  rw [btPair_fst, btPair_fst, hc, hp, hi.2]
  exact mul_le_mul_of_nonneg_left (sub_le_sub_right (byOutcome_mono one_half_pos.le
    (half_le_self zero_le_one) h.1 h.2) _) (div_nonneg hs (pairC_nonneg _ _ _))

theorem tmPair_fst_mono {L : Leaves ℝ} (hL : LeafFacts L) {cmul β κ : ℝ} (g g' : GammaFn ℝ)
    (n n' : Nat) {ti tq ti' tq' : TeamAgg ℝ} (hc : 0 ≤ cmul) (hκ : 0 ≤ κ)
    (hs : 0 ≤ ti.sig2) (hi : ti'.mu = ti.mu ∧ ti'.sig2 = ti.sig2)
    (hq : tq'.mu = tq.mu ∧ tq'.sig2 = tq.sig2)
    (h : (ti.rank < tq.rank → ti'.rank < tq'.rank) ∧ (ti.rank = tq.rank → ti'.rank ≤ tq'.rank)) :
    (tmPair L cmul β κ g n ti tq).1 ≤ (tmPair L cmul β κ g' n' ti' tq').1 := by
  have hC : 0 ≤ cmul * pairC β ti tq := mul_nonneg hc (pairC_nonneg _ _ _)
  have hch := hL.chain ((ti.mu - tq.mu) / (cmul * pairC β ti tq)) (div_nonneg hκ hC)
  rw [tmPair_fst, tmPair_fst, pairC_congr β hi.2 hq.2, hi.1, hi.2, hq.1]
  exact mul_le_mul_of_nonneg_left (byOutcome_mono hch.1 hch.2 h.1 h.2) (div_nonneg hs hC)

/-- of two teams with the same mu and variance the better-placed one has the larger `Ω` term against every
opponent -/
theorem btPair_fst_twin_le (β : ℝ) (g : GammaFn ℝ) (n : Nat) (ti tk tq : TeamAgg ℝ)
    (hs : 0 ≤ ti.sig2) (hmu : ti.mu = tk.mu) (hsig : ti.sig2 = tk.sig2) (hr : ti.rank < tk.rank) :
    (btPair β g n tk tq).1 ≤ (btPair β g n ti tq).1 :=
  btPair_fst_mono β g g n n (hsig ▸ hs) ⟨hmu, hsig⟩ ⟨rfl, rfl⟩
    ⟨fun h => hr.trans h, fun h => (h ▸ hr).le⟩

theorem tmPair_fst_twin_le {L : Leaves ℝ} (hL : LeafFacts L) (cmul β κ : ℝ) (g : GammaFn ℝ) (n : Nat)
    (ti tk tq : TeamAgg ℝ) (hc : 0 ≤ cmul) (hκ : 0 ≤ κ) (hs : 0 ≤ ti.sig2)
    (hmu : ti.mu = tk.mu) (hsig : ti.sig2 = tk.sig2) (hr : ti.rank < tk.rank) :
    (tmPair L cmul β κ g n tk tq).1 ≤ (tmPair L cmul β κ g n ti tq).1 :=
  tmPair_fst_mono hL g g n n hc hκ (hsig ▸ hs) ⟨hmu, hsig⟩ ⟨rfl, rfl⟩
    ⟨fun h => hr.trans h, fun h => (h ▸ hr).le⟩

end OS
end
