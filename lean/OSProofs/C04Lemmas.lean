import OSProofs.Props.C01
import OSProofs.Props.C04
import OSProofs.SortLemmas
import OSProofs.GammaLemmas
import Mathlib.Data.List.Forall2
import Mathlib.Logic.Equiv.Fin.Basic

/-!
# C04b, part A: `(Ω, Δ)` under a re-indexing of the teams, and under a reordering of the players

The closed forms of `OSProofs/Spec.lean` are `Finset` sums over the team index `Fin n`.
Re-indexing the game along a bijection `e : Fin m ≃ Fin n` re-indexes the result: the sums over all
teams (`c`), the filtered sums (`S_q`, `Ω_i`, `Δ_i`), the cardinalities (`A_q`) and the sums over
`q ≠ i` are invariant under a change of summation variable (`omegaDelta_getElem?_of_equiv`).
With `e` the identity this says what `omegaDelta` reads of a team (`C04b_omegaDelta_congr`), which
a reordering of the players does not change (`C04b_omegaDelta_playerPerm`).  These three property
theorems stand here because parts C and D (`C04FullLemmas`, `C04PlayerLemmas`) use them.
-/

noncomputable section
namespace OS
open Finset

/-- the game whose team `i` is team `e i` of `G` -/
def Game.reindex {m n : ℕ} (G : Game n) (e : Fin m → Fin n) : Game m :=
  { θ := fun i => G.θ (e i), s2 := fun i => G.s2 (e i), r := fun i => G.r (e i) }

section reindex
variable {m n : ℕ} (G : Game n) (e : Fin m ≃ Fin n) (β : ℝ)

theorem sum_filter_comp_equiv {M : Type} [AddCommMonoid M] (p : Fin n → Prop) [DecidablePred p]
    (f : Fin n → M) : ∑ j ∈ univ.filter (fun j => p (e j)), f (e j) = ∑ j ∈ univ.filter p, f j :=
  Finset.sum_equiv e (fun j => by simp only [mem_filter, mem_univ, true_and]) (fun _ _ => rfl)

theorem eqv_PL_c : SpecPL.c (G.reindex e) β = SpecPL.c G β := by
  unfold SpecPL.c
  congr 1
  exact Equiv.sum_comp e (fun i => G.s2 i + β ^ 2)

theorem eqv_PL_e (i : Fin m) : SpecPL.e (G.reindex e) β i = SpecPL.e G β (e i) := by
  unfold SpecPL.e
  rw [eqv_PL_c]
  rfl

theorem eqv_PL_S (q : Fin m) : SpecPL.S (G.reindex e) β q = SpecPL.S G β (e q) := by
  unfold SpecPL.S
  simp only [eqv_PL_e]
  exact sum_filter_comp_equiv e (fun j => G.r (e q) ≤ G.r j) (SpecPL.e G β)

theorem eqv_PL_A (q : Fin m) : SpecPL.A (G.reindex e) q = SpecPL.A G (e q) := by
  unfold SpecPL.A
  rw [Finset.card_eq_sum_ones, Finset.card_eq_sum_ones]
  exact sum_filter_comp_equiv e (fun s => G.r s = G.r (e q)) (fun _ => 1)

theorem eqv_PL_p (i q : Fin m) : SpecPL.p (G.reindex e) β i q = SpecPL.p G β (e i) (e q) := by
  unfold SpecPL.p
  rw [eqv_PL_e, eqv_PL_S]

theorem eqv_PL_Ω (i : Fin m) : SpecPL.Ω (G.reindex e) β i = SpecPL.Ω G β (e i) := by
  unfold SpecPL.Ω
  rw [eqv_PL_c, ← sum_filter_comp_equiv e (fun q => G.r q ≤ G.r (e i))]
  refine congrArg _ (Finset.sum_congr rfl fun q _ => ?_)
  simp only [eqv_PL_p, eqv_PL_A, e.apply_eq_iff_eq]

theorem eqv_PL_Δ (γ : ℝ → Fin n → ℝ) (i : Fin m) :
    SpecPL.Δ (G.reindex e) β (fun c j => γ c (e j)) i = SpecPL.Δ G β γ (e i) := by
  unfold SpecPL.Δ
  rw [eqv_PL_c, ← sum_filter_comp_equiv e (fun q => G.r q ≤ G.r (e i))]
  simp only [eqv_PL_p, eqv_PL_A]
  rfl

end reindex

/-- re-indexing the game along `e` re-indexes `(Ω, Δ)`: for the full models any bijection `e`, for
the partial-pairing models a bijection that preserves the ladder neighbours -/
theorem specOmegaDelta_reindex (K : Kind) (L : Leaves ℝ) (P : Params ℝ) (ts ts' : List (TeamAgg ℝ))
    (e : Fin ts'.length ≃ Fin ts.length) (hG : gameOf ts' = (gameOf ts).reindex e)
    (hγ : gammaOf P.gamma ts' = fun c j => gammaOf P.gamma ts c (e j))
    (hK : (K = .PL ∨ K = .BTF ∨ K = .TMF) ∨ ∀ i q : Fin ts'.length, q ∈ nbrs i ↔ e q ∈ nbrs (e i))
    (i : Fin ts'.length) :
    specOmegaDelta K L P ts' i = specOmegaDelta K L P ts (e i) := by
  unfold specOmegaDelta
  rw [hG, hγ]
  -- the pair models: a sum over `q ≠ i`, or over the neighbours of `i`, of a term in `(e i, e q)`
  have hne : ∀ q, q ∈ univ.filter (· ≠ i) ↔ e q ∈ univ.filter (· ≠ e i) := fun q => by
    simp only [mem_filter, mem_univ, true_and, ne_eq, EmbeddingLike.apply_eq_iff_eq]
  cases K
  case PL => exact congrArg₂ Prod.mk (eqv_PL_Ω _ e _ i) (eqv_PL_Δ _ e _ _ i)
  case BTF | TMF =>
    exact congrArg₂ Prod.mk (sum_equiv e hne fun _ _ => rfl) (sum_equiv e hne fun _ _ => rfl)
  case BTP | TMP =>
    have he := hK.resolve_left (by decide) i
    exact congrArg₂ Prod.mk (sum_equiv e he fun _ _ => rfl) (sum_equiv e he fun _ _ => rfl)

/-- the gamma callback is called with the same result for the two teams, whatever `c` and the
number of teams: `gamma(c, n, t.mu, t.σ², t.team, t.rank) = gamma(c, n, t'.mu, t'.σ², t'.team, t'.rank)` -/
def gam_SameCalls (g : GammaFn ℝ) (t t' : TeamAgg ℝ) : Prop :=
  ∀ (c : ℝ) (n : ℕ), GammaAt g c n t = GammaAt g c n t'

theorem gam_sameCalls_tagged {g : GammaFn ℝ} (hg : g.Tagged) {t t' : TeamAgg ℝ}
    (hs2 : t.sig2 = t'.sig2) (hrk : t.rank = t'.rank) : gam_SameCalls g t t' := by
  intro c n
  unfold GammaAt
  rw [hs2, hrk]
  exact gam_tagged_mu_team hg c n _ _ _ _ _ _

theorem gam_sameCalls_perm {g : GammaFn ℝ} (hg : GammaPermInv g) {t t' : TeamAgg ℝ}
    (hmu : t.mu = t'.mu) (hs2 : t.sig2 = t'.sig2) (hrk : t.rank = t'.rank)
    (hp : t.players.Perm t'.players) : gam_SameCalls g t t' := by
  intro c n
  unfold GammaAt
  rw [hmu, hs2, hrk]
  exact hg c n _ _ _ _ _ hp

/-- what `omegaDelta` reads of a team: its mu, variance and rank (not the roster) -/
def TeamAgg.eqv_key (t : TeamAgg ℝ) : ℝ × ℝ × ℕ := (t.mu, t.sig2, t.rank)

/-- **`(Ω, Δ)` under a re-indexing of the teams.**  If team `i` of `ts'` looks to `omegaDelta` like
team `e i` of `ts` (same mu, variance, rank, same gamma calls), it gets the `(Ω, Δ)` of team `e i`:
for the full models along any bijection `e`, for the partial-pairing models along one that
preserves the ladder neighbours.  (Teams in another order: `e` a permutation, the teams equal.
Players in another order: `e` the identity.) -/
theorem omegaDelta_getElem?_of_equiv (K : Kind) (L : Leaves ℝ) (P : Params ℝ)
    (ts ts' : List (TeamAgg ℝ)) (e : Fin ts'.length ≃ Fin ts.length)
    (hkey : ∀ i, (ts'.get i).eqv_key = (ts.get (e i)).eqv_key)
    (hgam : ∀ i, gam_SameCalls P.gamma (ts'.get i) (ts.get (e i)))
    (hK : (K = .PL ∨ K = .BTF ∨ K = .TMF) ∨ ∀ i q : Fin ts'.length, q ∈ nbrs i ↔ e q ∈ nbrs (e i))
    (i : Fin ts'.length) :
    (omegaDelta K L P ts')[i.1]? = (omegaDelta K L P ts)[(e i).1]? := by
  have hlen : ts'.length = ts.length := Fin.equiv_iff_eq.1 ⟨e⟩
  have hG : gameOf ts' = (gameOf ts).reindex e := by
    unfold gameOf Game.reindex
    congr 1
    · funext i; exact congrArg (·.1) (hkey i)
    · funext i; exact congrArg (·.2.1) (hkey i)
    · funext i; exact congrArg (·.2.2) (hkey i)
  have hγ : gammaOf P.gamma ts' = fun c j => gammaOf P.gamma ts c (e j) := by
    funext c j
    exact (hgam j c ts'.length).trans (congrArg (fun k => GammaAt P.gamma c k (ts.get (e j))) hlen)
  rw [C01_omegaDelta, C01_omegaDelta, List.getElem?_ofFn, List.getElem?_ofFn, dif_pos i.2,
    dif_pos (e i).2]
  exact congrArg some (specOmegaDelta_reindex K L P ts ts' e hG hγ hK i)

/-- **`(Ω, Δ)` reads the rosters only through the gamma callback**: for each of the five models
`omegaDelta` depends only on the list of (mu, variance, rank) triples of the teams and on what the
gamma callback returns for each team (`gam_SameCalls`: the calls `gamma(c, n, mu, σ², team, rank)` for
the two teams of a slot agree for all `c`, `n`).  `omegaDelta_congr` (`RateMap.lean`) says the same
of `ts` and `ts.map Φ`, for every scalar type. -/
theorem C04b_omegaDelta_congr (K : Kind) (L : Leaves ℝ) (P : Params ℝ) (ts ts' : List (TeamAgg ℝ))
    (h : ts.map (fun t => (t.mu, t.sig2, t.rank)) = ts'.map (fun t => (t.mu, t.sig2, t.rank)))
    (hg : List.Forall₂ (gam_SameCalls P.gamma) ts ts') :
    omegaDelta K L P ts = omegaDelta K L P ts' := by
  have hlen : ts'.length = ts.length := by simpa using (congrArg List.length h).symm
  apply List.ext_getElem?
  intro i
  by_cases hi : i < ts'.length
  · exact (omegaDelta_getElem?_of_equiv K L P ts ts' (finCongr hlen)
      (fun j => ((map_eq_map_iff_forall₂.1 h).get (hlen ▸ j.2) j.2).symm)
      (fun j c n => (hg.get (hlen ▸ j.2) j.2 c n).symm)
      (Or.inr (fun _ _ => by simp only [nbrs, Finset.mem_filter, Finset.mem_univ, true_and,
        finCongr_apply, Fin.val_cast])) ⟨i, hi⟩).symm
  · rw [List.getElem?_eq_none (by simp; omega), List.getElem?_eq_none (by simp; omega)]

/-- **The team aggregates do not depend on the order of the players.**  If every team of `teams'`
lists the players of the corresponding team of `teams` in some other order, the aggregated teams
have the same mu, the same variance and the same rank (and rosters that are permutations of each
other). -/
theorem C04b_teamAggs_playerPerm {teams teams' : List (List (Rating ℝ))}
    (h : List.Forall₂ List.Perm teams teams') (dense : List ℕ) :
    List.Forall₂ (fun t t' : TeamAgg ℝ => t.mu = t'.mu ∧ t.sig2 = t'.sig2 ∧ t.rank = t'.rank ∧
        t.players.Perm t'.players) (teamAggs teams dense) (teamAggs teams' dense) := by
  induction h generalizing dense with
  | nil => simp [teamAggs]
  | @cons t t' ts ts' hp _ ih =>
    cases dense with
    | nil => simp [teamAggs]
    | cons d ds =>
      have := ih ds
      simp only [teamAggs] at this
      simp only [teamAggs, List.zip_cons_cons, List.map_cons]
      exact List.Forall₂.cons
        ⟨(C04_teamAgg_perm hp d).1, (C04_teamAgg_perm hp d).2, rfl, hp⟩ this

/-- **Reordering players leaves every team's `(Ω, Δ)` unchanged** (all five models; any gamma
callback that does not depend on the order in which the players are handed over, `GammaPermInv`). -/
theorem C04b_omegaDelta_playerPerm (K : Kind) (L : Leaves ℝ) (P : Params ℝ)
    (hg : GammaPermInv P.gamma)
    {teams teams' : List (List (Rating ℝ))} (h : List.Forall₂ List.Perm teams teams')
    (dense : List ℕ) :
    omegaDelta K L P (teamAggs teams dense) = omegaDelta K L P (teamAggs teams' dense) :=
  have hagg := C04b_teamAggs_playerPerm h dense
  C04b_omegaDelta_congr K L P _ _
    (map_eq_map_iff_forall₂.2 (hagg.imp fun _ _ hab => Prod.ext hab.1 (Prod.ext hab.2.1 hab.2.2.1)))
    (hagg.imp fun _ _ hab => gam_sameCalls_perm hg hab.1 hab.2.1 hab.2.2.1 hab.2.2.2)

end OS
end
