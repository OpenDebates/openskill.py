import OSProofs.Gauss
import Mathlib.Tactic.FieldSimp
import Mathlib.Tactic.Ring
import Mathlib.Tactic.Linarith
import Mathlib.Tactic.Positivity
import Mathlib.Analysis.Real.Pi.Bounds
import Mathlib.Analysis.Complex.ExponentialBounds

/-!
# More Gaussian facts (G6 in ratio form, G8b, G8c, G8d, G9)

Truncated variance: with `Z = Φ(b) − Φ(a)`, the numerator `N` of `W̃` over `Z²` satisfies
`Z² − N = (ζ − ξ)² Z²` for two points of `(a,b)` (`trunc_var_eq`), so `1 − (b−a)² ≤ W̃ ≤ 1`.

Tail bounds: `g₁ = φ + uΦ`, `g₂ = u g₁ + Φ` (`kS`), `g₃ = u g₂ + 2 g₁` (`mS`) satisfy `gₙ₊₁' = (n+1) gₙ`
and vanish at −∞, so each is positive by `pos_of_deriv_pos_of_tendsto_atBot`; so is
`hS = Φ² − φ g₁`, `hS' = φ g₂` (Sampford).  Divided by `Φ` they bound `V + u = g₁/Φ` from both sides.
-/

noncomputable section
open Real MeasureTheory intervalIntegral Set Filter Topology

namespace Gauss

theorem Z_pos {a b : ℝ} (hab : a < b) : 0 < Phi b - Phi a := sub_pos.mpr (Phi_strictMono hab)

/-- G6 in ratio form -/
theorem trunc_ratio_mem {a b : ℝ} (hab : a < b) :
    a < (phi a - phi b) / (Phi b - Phi a) ∧ (phi a - phi b) / (Phi b - Phi a) < b := by
  obtain ⟨ξ, hξ, h⟩ := trunc_mean_mem hab
  rwa [h, mul_div_cancel_right₀ _ (Z_pos hab).ne']

/-- G5 in ratio form -/
theorem mills_ratio_add_pos (u : ℝ) : 0 < phi u / Phi u + u := by
  rw [div_add' _ _ _ (Phi_pos u).ne']
  exact div_pos (mills u) (Phi_pos u)

theorem mills_ratio_pos (u : ℝ) : 0 < phi u / Phi u := div_pos (phi_pos u) (Phi_pos u)

/-- antiderivative of `(c₁ z − c₂)² φ(z)` -/
def varPrim (c₁ c₂ : ℝ) (z : ℝ) : ℝ :=
  c₁ ^ 2 * (Phi z - z * phi z) + 2 * c₁ * c₂ * phi z + c₂ ^ 2 * Phi z

theorem varPrim_hasDerivAt (c₁ c₂ z : ℝ) :
    HasDerivAt (varPrim c₁ c₂) ((c₁ * z - c₂) ^ 2 * phi z) z :=
  (((((Phi_hasDerivAt z).sub (uphi_hasDerivAt z)).const_mul (c₁ ^ 2)).add
    ((phi_hasDerivAt z).const_mul (2 * c₁ * c₂))).add
      ((Phi_hasDerivAt z).const_mul (c₂ ^ 2))).congr_deriv (by ring)

/-- with `I₁ = φ(a) − φ(b) = ξ·Z` (`trunc_mean_mem`), the mean of `(Z z − I₁)² = Z²(z − ξ)²` under
the truncated law is `Z² − N` on the one hand (`varPrim`) and a value `Z²(ζ − ξ)²` on the other -/
theorem trunc_var_eq {a b : ℝ} (hab : a < b) : ∃ ξ ∈ Ioo a b, ∃ ζ ∈ Ioo a b,
    (Phi b - Phi a) ^ 2 - ((b * phi b - a * phi a) * (Phi b - Phi a) + (phi a - phi b) ^ 2)
      = (ζ - ξ) ^ 2 * (Phi b - Phi a) ^ 2 := by
  obtain ⟨ξ, hξ, h⟩ := trunc_mean_mem hab
  obtain ⟨ζ, hζ, hv⟩ :=
    exists_phi_weighted_mean hab (varPrim_hasDerivAt (Phi b - Phi a) (phi a - phi b))
  have key : varPrim (Phi b - Phi a) (phi a - phi b) b - varPrim (Phi b - Phi a) (phi a - phi b) a
      = (Phi b - Phi a) * ((Phi b - Phi a) ^ 2
          - ((b * phi b - a * phi a) * (Phi b - Phi a) + (phi a - phi b) ^ 2)) := by
    unfold varPrim; ring
  refine ⟨ξ, hξ, ζ, hζ, mul_left_cancel₀ (Z_pos hab).ne' ?_⟩
  rw [← key, hv, h]; ring

/-- G8b: the numerator of `1 − W̃` is non-negative (truncated variance ≥ 0). -/
theorem Wt_mul_Z_le {a b : ℝ} (hab : a < b) :
    (b * phi b - a * phi a) * (Phi b - Phi a) + (phi a - phi b) ^ 2 ≤ (Phi b - Phi a) ^ 2 := by
  obtain ⟨ξ, -, ζ, -, e⟩ := trunc_var_eq hab
  rw [← sub_nonneg, e]
  exact mul_nonneg (sq_nonneg _) (sq_nonneg _)

/-- G8d: the variance of the standard normal truncated to `[a,b]` is at most `(b − a)²`, so
`W̃ ≥ 1 − (b−a)²`. -/
theorem Wt_mul_Z_ge {a b : ℝ} (hab : a < b) :
    (1 - (b - a) ^ 2) * (Phi b - Phi a) ^ 2
      ≤ (b * phi b - a * phi a) * (Phi b - Phi a) + (phi a - phi b) ^ 2 := by
  obtain ⟨ξ, ⟨h1, h2⟩, ζ, ⟨h3, h4⟩, e⟩ := trunc_var_eq hab
  rw [sub_mul, one_mul, sub_le_comm, e]
  exact mul_le_mul_of_nonneg_right (sq_le_sq' (by linarith) (by linarith)) (sq_nonneg _)

/-- by Mills (`−uΦ(u) < φ(u)`), `|u^{n+1} Φ(u)| ≤ |uⁿ φ(u)|` left of 0 -/
theorem pow_succ_mul_Phi_tendsto_atBot (n : ℕ) :
    Tendsto (fun u : ℝ => u ^ (n + 1) * Phi u) atBot (𝓝 0) := by
  refine squeeze_zero_norm' ?_
    ((tendsto_zero_iff_abs_tendsto_zero _).mp (pow_mul_phi_tendsto_atBot n))
  filter_upwards [eventually_lt_atBot (0 : ℝ)] with u hu
  have hP : |u * Phi u| ≤ phi u := by
    rw [abs_of_nonpos (mul_nonpos_of_nonpos_of_nonneg hu.le (Phi_nonneg u))]; linarith [mills u]
  calc ‖u ^ (n + 1) * Phi u‖ = |u ^ n| * |u * Phi u| := by
        rw [Real.norm_eq_abs, pow_succ, mul_assoc, abs_mul]
    _ ≤ |u ^ n| * phi u := mul_le_mul_of_nonneg_left hP (abs_nonneg _)
    _ = |u ^ n * phi u| := by rw [abs_mul, abs_of_pos (phi_pos u)]

/-- `g₂ = (1 + u²) Φ + u φ` -/
def kS (u : ℝ) : ℝ := u * (phi u + u * Phi u) + Phi u

theorem kS_hasDerivAt (u : ℝ) : HasDerivAt kS (2 * (phi u + u * Phi u)) u :=
  (((hasDerivAt_id' u).mul (mills_hasDerivAt u)).add (Phi_hasDerivAt u)).congr_deriv (by ring)

theorem kS_tendsto_atBot : Tendsto kS atBot (𝓝 0) := by
  have h := (Phi_tendsto_atBot.add (pow_succ_mul_Phi_tendsto_atBot 1)).add
    (pow_mul_phi_tendsto_atBot 1)
  rw [add_zero, add_zero] at h
  exact h.congr fun u => by unfold kS; ring

theorem kS_pos (u : ℝ) : 0 < kS u :=
  pos_of_deriv_pos_of_tendsto_atBot (fun v _ => kS_hasDerivAt v)
    (fun v _ => mul_pos two_pos (mills v)) kS_tendsto_atBot

/-- `Φ² − φ g₁`, with `hS' = φ g₂`: its positivity is Sampford's inequality -/
def hS (u : ℝ) : ℝ := Phi u * Phi u - phi u * (phi u + u * Phi u)

theorem hS_hasDerivAt (u : ℝ) : HasDerivAt hS (phi u * kS u) u :=
  (((Phi_hasDerivAt u).mul (Phi_hasDerivAt u)).sub
    ((phi_hasDerivAt u).mul (mills_hasDerivAt u))).congr_deriv (by unfold kS; ring)

theorem hS_tendsto_atBot : Tendsto hS atBot (𝓝 0) := by
  have h := (Phi_tendsto_atBot.mul Phi_tendsto_atBot).sub ((pow_mul_phi_tendsto_atBot 0).mul
    ((pow_mul_phi_tendsto_atBot 0).add (pow_succ_mul_Phi_tendsto_atBot 0)))
  rw [add_zero, mul_zero, sub_zero] at h
  exact h.congr fun u => by unfold hS; ring

theorem hS_pos (u : ℝ) : 0 < hS u :=
  pos_of_deriv_pos_of_tendsto_atBot (fun v _ => hS_hasDerivAt v)
    (fun v _ => mul_pos (phi_pos v) (kS_pos v)) hS_tendsto_atBot

/-- G8c (Sampford): W(u) = V(u)(V(u) + u) < 1 with V = φ/Φ -/
theorem sampford (u : ℝ) : phi u / Phi u * (phi u / Phi u + u) < 1 := by
  have hP := Phi_pos u
  have h := hS_pos u
  unfold hS at h
  have e : phi u / Phi u * (phi u / Phi u + u)
      = phi u * (phi u + u * Phi u) / (Phi u * Phi u) := by field_simp
  rw [e, div_lt_one (mul_pos hP hP)]
  linarith

/-- `g₃ = (u³ + 3u) Φ + (u² + 2) φ` -/
def mS (u : ℝ) : ℝ := u * kS u + 2 * (phi u + u * Phi u)

theorem mS_hasDerivAt (u : ℝ) : HasDerivAt mS (3 * kS u) u :=
  (((hasDerivAt_id' u).mul (kS_hasDerivAt u)).add ((mills_hasDerivAt u).const_mul 2)).congr_deriv
    (by unfold kS; ring)

theorem mS_tendsto_atBot : Tendsto mS atBot (𝓝 0) := by
  have h := ((pow_succ_mul_Phi_tendsto_atBot 2).add
      ((pow_succ_mul_Phi_tendsto_atBot 0).const_mul 3)).add
    ((pow_mul_phi_tendsto_atBot 2).add ((pow_mul_phi_tendsto_atBot 0).const_mul 2))
  simp only [mul_zero, add_zero] at h
  exact h.congr fun u => by unfold mS kS; ring

theorem mS_pos (u : ℝ) : 0 < mS u :=
  pos_of_deriv_pos_of_tendsto_atBot (fun v _ => mS_hasDerivAt v)
    (fun v _ => mul_pos three_pos (kS_pos v)) mS_tendsto_atBot

/-- a positive combination `A Φ + B φ`, divided by `Φ > 0`: how the positivity of `kS`, `mS` bounds `φ/Φ` -/
theorem pos_add_mul_ratio {u x A B : ℝ} (hx : 0 < x) (e : x = A * Phi u + B * phi u) :
    0 < A + B * (phi u / Phi u) := by
  have hP := Phi_pos u
  rw [← mul_div_assoc, add_div' _ _ _ hP.ne', ← e]
  exact div_pos hx hP

theorem mills_ratio_add_lt {u : ℝ} (hu : u < 0) : phi u / Phi u + u < 1 / (-u) := by
  have h := pos_add_mul_ratio (A := 1 + u ^ 2) (B := u) (kS_pos u) (by unfold kS; ring)
  rw [lt_div_iff₀ (neg_pos.mpr hu)]
  linarith

theorem mills_ratio_add_gt (u : ℝ) : -u / (u ^ 2 + 2) < phi u / Phi u + u := by
  have h := pos_add_mul_ratio (A := u ^ 3 + 3 * u) (B := u ^ 2 + 2) (mS_pos u) (by unfold mS kS; ring)
  rw [div_lt_iff₀ (by positivity)]
  linarith

/-- lower companion of Sampford's inequality: `W = V·(V + u)` with `V + u > r := −u/(u²+2) > 0`
and `V > −u + r > 0` -/
theorem sampford_lower {u : ℝ} (hu : u < 0) :
    u ^ 2 * (u ^ 2 + 3) / (u ^ 2 + 2) ^ 2 < phi u / Phi u * (phi u / Phi u + u) := by
  have h1 := mills_ratio_add_gt u
  have hnu : 0 < -u := neg_pos.mpr hu
  have hq : 0 < u ^ 2 + 2 := by positivity
  have h0 : 0 < -u / (u ^ 2 + 2) := div_pos hnu hq
  have h2 : -u + -u / (u ^ 2 + 2) < phi u / Phi u := by linarith
  have h3 : 0 < -u + -u / (u ^ 2 + 2) := add_pos hnu h0
  have : u ^ 2 * (u ^ 2 + 3) / (u ^ 2 + 2) ^ 2 = (-u + -u / (u ^ 2 + 2)) * (-u / (u ^ 2 + 2)) := by
    field_simp; ring
  rw [this]
  exact mul_lt_mul'' h2 h1 h3.le h0.le

theorem exp_32_lt : Real.exp 32 < 8 * 10 ^ 13 := by
  have h := Real.exp_one_lt_d9
  have h32 : Real.exp 32 = Real.exp 1 ^ 32 := by
    rw [← Real.exp_nat_mul]; norm_num
  rw [h32]
  calc Real.exp 1 ^ 32 < (2.7182818286 : ℝ) ^ 32 :=
        pow_lt_pow_left₀ h (Real.exp_pos 1).le (by norm_num)
    _ < 8 * 10 ^ 13 := by norm_num

theorem sqrt_two_pi_lt : Real.sqrt (2 * π) < 2.51 := by
  rw [Real.sqrt_lt' (by norm_num)]
  have := Real.pi_lt_d2
  norm_num; linarith

theorem phi_neg_eight_gt : 1 / (2.51 * (8 * 10 ^ 13)) < phi (-8) := by
  unfold phi
  have h1 : -((-8 : ℝ) ^ 2) / 2 = -32 := by norm_num
  rw [h1, Real.exp_neg, inv_eq_one_div, div_div]
  have hs : 0 < Real.sqrt (2 * π) := Real.sqrt_pos.mpr (by positivity)
  apply one_div_lt_one_div_of_lt (mul_pos (Real.exp_pos 32) hs)
  calc Real.exp 32 * Real.sqrt (2 * π) < (8 * 10 ^ 13) * 2.51 :=
        mul_lt_mul'' exp_32_lt sqrt_two_pi_lt (Real.exp_pos 32).le hs.le
    _ = 2.51 * (8 * 10 ^ 13) := by ring

/-- G9: Φ(−8) > 6·10⁻¹⁶ > 2⁻⁵², from `65 Φ(−8) > 8 φ(−8)` (`kS_pos`) -/
theorem Phi_neg_eight_gt : 6 / 10 ^ 16 < Phi (-8) := by
  have hk := kS_pos (-8)
  unfold kS at hk
  have hp := phi_neg_eight_gt
  have : (1 : ℝ) / (2.51 * (8 * 10 ^ 13)) > 4.98 / 10 ^ 15 := by norm_num
  norm_num at hk ⊢
  linarith

end Gauss
end
