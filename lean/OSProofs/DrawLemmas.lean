import OSProofs.Gauss
import OSProofs.RealInst
import OSProofs.RealBounds

/-!
# The draw band of a pair of teams (analytic part of C10)

What `predict_draw` adds for an ordered pair and for an unordered pair of teams, as functions of
the gap `d = θa − θb`, the margin `m` and the scale `s`: sign, bounds, monotonicity in `|d|`; and
the inequality `Φ(√(N/2)·z_N) ≤ ¾` that bounds the two-team value by 1 for every player count `N`.
-/

noncomputable section
namespace OS
open Gauss

/-- the term `predict_draw` adds for the ORDERED pair (a,b), with `d = θa − θb`:
`Φ((m − θa + θb)/s) − Φ((θa − θb − m)/s)` -/
def band (m s d : ℝ) : ℝ := Phi ((m - d) / s) - Phi ((d - m) / s)

/-- the contribution of the UNORDERED pair {a,b}: the ordered pairs (a,b) and (b,a) together -/
def pairBand (m s d : ℝ) : ℝ := band m s d + band m s (-d)

theorem band_eq (m s d : ℝ) : band m s d = 1 - 2 * Phi ((d - m) / s) := by
  unfold band
  rw [show (m - d) / s = -((d - m) / s) by ring, Phi_neg]
  ring

theorem band_neg_of_gt {m s d : ℝ} (hs : 0 < s) (hd : m < d) : band m s d < 0 := by
  rw [band_eq, sub_neg, ← div_lt_iff₀' two_pos, ← Phi_zero]
  exact Phi_strictMono (div_pos (sub_pos.mpr hd) hs)

/-- The contribution of an unordered pair is `2·[Φ((d+m)/s) − Φ((d−m)/s)]`. -/
theorem C10_pairBand_eq (m s d : ℝ) :
    pairBand m s d = 2 * (Phi ((d + m) / s) - Phi ((d - m) / s)) := by
  unfold pairBand
  rw [band_eq, band_eq, show (-d - m) / s = -((d + m) / s) by ring, Phi_neg]
  ring

/-- It does not matter which team of the pair is called `a`. -/
theorem C10_pairBand_even (m s d : ℝ) : pairBand m s (-d) = pairBand m s d := by
  unfold pairBand
  rw [neg_neg, add_comm]

theorem pairBand_abs (m s d : ℝ) : pairBand m s |d| = pairBand m s d := by
  rcases abs_choice d with h | h
  · rw [h]
  · rw [h, C10_pairBand_even]

/-- needs only `0 ≤ s` (at `s = 0` both arguments are `x / 0 = 0`) -/
theorem pairBand_nonneg {m s : ℝ} (hm : 0 ≤ m) (hs : 0 ≤ s) (d : ℝ) : 0 ≤ pairBand m s d := by
  rw [C10_pairBand_eq]
  exact mul_nonneg zero_le_two (sub_nonneg.mpr (Phi_strictMono.monotone
    (div_le_div_of_nonneg_right ((sub_le_self d hm).trans (le_add_of_nonneg_right hm)) hs)))

theorem pairBand_pos {m s : ℝ} (hm : 0 < m) (hs : 0 < s) (d : ℝ) : 0 < pairBand m s d := by
  rw [C10_pairBand_eq]
  exact mul_pos two_pos (sub_pos.mpr (Phi_strictMono
    (div_lt_div_of_pos_right ((sub_lt_self d hm).trans (lt_add_of_pos_right d hm)) hs)))

/-- With a nonnegative margin and a positive scale, the contribution of an unordered pair lies
in [0, 2] (that is, its half is a probability), whatever the gap. -/
theorem C10_pairBand_mem {m s : ℝ} (hm : 0 ≤ m) (hs : 0 < s) (d : ℝ) :
    0 ≤ pairBand m s d ∧ pairBand m s d ≤ 2 := by
  refine ⟨pairBand_nonneg hm hs.le d, ?_⟩
  rw [C10_pairBand_eq]
  exact mul_le_of_le_one_right zero_le_two ((sub_le_self _ (Phi_nonneg _)).trans (Phi_le_one _))

theorem pairBand_hasDerivAt (m s d : ℝ) :
    HasDerivAt (pairBand m s) (2 * ((phi ((d + m) / s) - phi ((d - m) / s)) / s)) d := by
  have h1 : HasDerivAt (fun d : ℝ => Phi ((d + m) / s)) (phi ((d + m) / s) * (1 / s)) d :=
    (Phi_hasDerivAt _).comp d (((hasDerivAt_id' d).add_const m).div_const s)
  have h2 : HasDerivAt (fun d : ℝ => Phi ((d - m) / s)) (phi ((d - m) / s) * (1 / s)) d :=
    (Phi_hasDerivAt _).comp d (((hasDerivAt_id' d).sub_const m).div_const s)
  rw [funext (C10_pairBand_eq m s)]
  exact ((h1.sub h2).const_mul 2).congr_deriv (by ring)

theorem pairBand_antitoneOn {m s : ℝ} (hm : 0 ≤ m) (hs : 0 ≤ s) :
    AntitoneOn (pairBand m s) (Set.Ici 0) := by
  refine antitoneOn_of_hasDerivWithinAt_nonpos (convex_Ici 0)
    (fun d _ => (pairBand_hasDerivAt m s d).continuousAt.continuousWithinAt)
    (fun d _ => (pairBand_hasDerivAt m s d).hasDerivWithinAt) fun d hd => ?_
  have hd : 0 ≤ d := interior_subset hd
  -- `|d − m| ≤ d + m`, and φ decreases with the square of its argument
  refine mul_nonpos_of_nonneg_of_nonpos zero_le_two
    (div_nonpos_of_nonpos_of_nonneg (sub_nonpos.mpr (phi_le_phi_of_sq_le ?_)) hs)
  rw [div_pow, div_pow]
  refine div_le_div_of_nonneg_right (sq_le_sq' ?_ ?_) (sq_nonneg s)
  · rw [neg_add']
    exact sub_le_sub_right (neg_le_self hd) m
  · exact (sub_le_self d hm).trans (le_add_of_nonneg_right hm)

/-- A larger absolute gap never gives a larger contribution. -/
theorem C10_pairBand_antitone {m s : ℝ} (hm : 0 ≤ m) (hs : 0 < s) {d₁ d₂ : ℝ}
    (h : |d₁| ≤ |d₂|) : pairBand m s d₂ ≤ pairBand m s d₁ := by
  rw [← pairBand_abs m s d₁, ← pairBand_abs m s d₂]
  exact pairBand_antitoneOn hm hs.le (abs_nonneg d₁) (abs_nonneg d₂) h

theorem pairBand_le_zero_gap {m s : ℝ} (hm : 0 ≤ m) (hs : 0 ≤ s) (d : ℝ) :
    pairBand m s d ≤ pairBand m s 0 := by
  rw [← pairBand_abs m s d]
  exact pairBand_antitoneOn hm hs Set.self_mem_Ici (abs_nonneg d) (abs_nonneg d)

/-- The contribution is largest at zero gap (`pairBand_le_zero_gap` for a positive scale). -/
theorem C10_pairBand_max_at_zero {m s : ℝ} (hm : 0 ≤ m) (hs : 0 < s) (d : ℝ) :
    pairBand m s d ≤ pairBand m s 0 :=
  pairBand_le_zero_gap hm hs.le d

theorem pairBand_zero_gap (m s : ℝ) : pairBand m s 0 = 2 * (2 * Phi (m / s) - 1) := by
  rw [C10_pairBand_eq, show (0 - m) / s = -((0 + m) / s) by ring, Phi_neg, zero_add]
  ring

/-- n > 2 teams: `predict_draw` is the sum over the `k = n(n−1)/2` unordered pairs of their
contributions, divided by `n(n−1) = 2k`.  If each contribution is in [0,2], the result is in
[0,1]. -/
theorem C10_avg_bound (l : List ℝ) (k : ℕ) (hk : 0 < k) (hl : l.length = k)
    (h : ∀ x ∈ l, 0 ≤ x ∧ x ≤ 2) :
    0 ≤ l.sum / (2 * k) ∧ l.sum / (2 * k) ≤ 1 := by
  have hk' : (0:ℝ) < 2 * k := by positivity
  have h2 : l.sum ≤ 2 * k := by
    have := List.sum_le_card_nsmul l 2 fun x hx => (h x hx).2
    rwa [hl, nsmul_eq_mul, mul_comm] at this
  exact ⟨div_nonneg (List.sum_nonneg fun x hx => (h x hx).1) hk'.le, (div_le_one hk').mpr h2⟩

/-! ### the size inequality `Φ(√(N/2)·z_N) ≤ ¾` -/

/-- `Φ − ½` is star-shaped on `[0, ∞)` (concavity there and `Φ 0 = ½`): scaling the argument by
`lam ∈ [0, 1]` scales `Φ − ½` by at least `lam` -/
theorem Phi_scale_ge {z lam : ℝ} (hz : 0 ≤ z) (h0 : 0 ≤ lam) (h1 : lam ≤ 1) :
    1 / 2 + lam * (Phi z - 1 / 2) ≤ Phi (lam * z) := by
  have hc := Phi_concaveOn.2 (Set.mem_Ici.mpr hz) (Set.mem_Ici.mpr le_rfl) h0 (sub_nonneg.mpr h1)
    (add_sub_cancel _ _)
  simp only [smul_eq_mul, mul_zero, add_zero, Phi_zero] at hc
  linarith

/-- The size inequality behind `predict_draw ≤ 1` for two teams, for EVERY total player count. -/
theorem draw_size_ineq
    (N : ℝ) (hN : 2 ≤ N) (zN z2 : ℝ) (hz2 : 0 ≤ z2)
    (hPN : Phi zN = 1 / 2 + 1 / (2 * N)) (hP2 : Phi z2 = 3 / 4) :
    Phi (Real.sqrt (N / 2) * zN) ≤ 3 / 4 := by
  have hNpos : 0 < N := two_pos.trans_le hN
  have hx0 : 0 < 2 / N := div_pos two_pos hNpos
  have hx1 : 2 / N ≤ 1 := (div_le_one hNpos).mpr hN
  -- with `lam = √(2/N) ∈ [2/N, 1]`: `Φ zN = ½ + (2/N)/4 ≤ ½ + lam/4 ≤ Φ (lam z2)`, so `zN ≤ lam z2`
  have hlam : 2 / N ≤ Real.sqrt (2 / N) := Real.le_sqrt_of_sq_le (sq_le hx0.le hx1)
  have hscale := Phi_scale_ge hz2 (Real.sqrt_nonneg (2 / N)) (Real.sqrt_le_one.mpr hx1)
  rw [hP2] at hscale
  have hz : zN ≤ Real.sqrt (2 / N) * z2 := Phi_strictMono.le_iff_le.mp (by
    rw [hPN, show 1 / (2 * N) = 2 / N / 4 by ring]; linarith)
  -- `√(N/2) = lam⁻¹`
  rw [← hP2, ← inv_div 2 N, Real.sqrt_inv]
  exact Phi_strictMono.monotone ((inv_mul_le_iff₀ (Real.sqrt_pos.mpr hx0)).mpr hz)

/-! ### the margin quantile `z_N = Φ⁻¹((1 + 1/N)/2)` -/

theorem half_le_marginArg {x : ℝ} (hx : 0 ≤ x) : 1 / 2 ≤ (1 + x) / 2 :=
  div_le_div_of_nonneg_right (le_add_of_nonneg_right hx) zero_le_two

/-- also for `N < 1`, where `(1 + 1/N)/2` is not a probability -/
theorem zN_nonneg {N : ℝ} (hN : 0 ≤ N) : 0 ≤ PhiInv ((1 + 1 / N) / 2) :=
  PhiInv_nonneg (half_le_marginArg (one_div_nonneg.mpr hN))

theorem marginArg_lt_one {N : ℝ} (hN : 2 ≤ N) : (1 + 1 / N) / 2 < 1 := by
  have := one_div_le_one_div_of_le two_pos hN
  linarith

theorem zN_spec {N : ℝ} (hN : 2 ≤ N) :
    Phi (PhiInv ((1 + 1 / N) / 2)) = 1 / 2 + 1 / (2 * N) := by
  have h0 : 1 / 2 ≤ (1 + 1 / N) / 2 := half_le_marginArg (one_div_nonneg.mpr (zero_le_two.trans hN))
  rw [Phi_PhiInv (one_half_pos.trans_le h0) (marginArg_lt_one hN), add_div, div_div, mul_comm]

theorem size_ineq_inst {N : ℝ} (hN : 2 ≤ N) :
    Phi (Real.sqrt (N / 2) * PhiInv ((1 + 1 / N) / 2)) ≤ 3 / 4 := by
  have h34 : Phi (PhiInv (3 / 4)) = 3 / 4 := Phi_PhiInv (by norm_num) (by norm_num)
  have h34' : 0 ≤ PhiInv (3 / 4) := PhiInv_nonneg (by norm_num)
  exact draw_size_ineq N hN _ _ h34' (zN_spec hN) h34

theorem two_team_ratio_le {N β v z : ℝ} (hN : 2 ≤ N) (hβ : 0 < β) (hv : 0 ≤ v) (hz : 0 ≤ z) :
    (Real.sqrt N * β * z) / Real.sqrt (2 * β ^ 2 + v) ≤ Real.sqrt (N / 2) * z := by
  have hs : Real.sqrt 2 * β ≤ Real.sqrt (2 * β ^ 2 + v) :=
    sqrt_mul_le_sqrt hβ.le (by rw [← sq]; exact le_add_of_nonneg_right hv)
  calc (Real.sqrt N * β * z) / Real.sqrt (2 * β ^ 2 + v)
      ≤ (Real.sqrt N * β * z) / (Real.sqrt 2 * β) :=
        div_le_div_of_nonneg_left (mul_nonneg (mul_nonneg (Real.sqrt_nonneg N) hβ.le) hz)
          (mul_pos (Real.sqrt_pos.mpr two_pos) hβ) hs
    _ = Real.sqrt (N / 2) * z := by
        rw [mul_right_comm, mul_div_mul_right _ _ hβ.ne', mul_div_right_comm,
          ← Real.sqrt_div (zero_le_two.trans hN)]

end OS
end
