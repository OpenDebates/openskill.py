import OSProofs.C08MagLemmas
import Mathlib.Analysis.Real.Pi.Bounds
import Mathlib.Analysis.Complex.ExponentialBounds
/-!
# Helper lemmas for C08Mag, part B: the per-player update, `compute`, `rate`, the predictions,
and the numeric facts (`Φ⁻¹(3/4) < 1`, `e^453 < 10^197` …)
-/
noncomputable section
namespace OS
open Gauss

/-! ### the per-player update at the tail of `_compute` -/

namespace Mag

/-- the share `σ̂_p² / σ_t²` of player `p` in team `t` -/
def share (t : TeamAgg ℝ) (p : Rating ℝ) : ℝ := p.sigma * p.sigma / t.sig2

/-- every intermediate quantity of the update of one player `p` of team `t` by `(ω, δ)`, given
`|ω| ≤ W` and `0 ≤ δ ≤ D` -/
structure PlayerUpdateBounds (β lo κ W D : ℝ) (t : TeamAgg ℝ) (p : Rating ℝ) (ω δ : ℝ) : Prop where
  share_ge : lo * lo / (3200 * (β * β)) ≤ share t p
  share_le : share t p ≤ 1
  mu_step : |share t p * ω| ≤ W
  mu_new : |p.mu + share t p * ω| ≤ 20 * β + W
  var_step_ge : 0 ≤ share t p * δ
  var_step_le : share t p * δ ≤ D
  floor_arg_ge : 1 - D ≤ 1 - share t p * δ
  floor_arg_le : 1 - share t p * δ ≤ 1
  root_arg_ge : κ ≤ smax (1 - share t p * δ) κ
  root_arg_le : smax (1 - share t p * δ) κ ≤ 1
  root_ge : Real.sqrt κ ≤ Real.sqrt (smax (1 - share t p * δ) κ)
  root_le : Real.sqrt (smax (1 - share t p * δ) κ) ≤ 1
  sigma_new_ge : Real.sqrt κ * lo ≤ p.sigma * Real.sqrt (smax (1 - share t p * δ) κ)
  sigma_new_ge' : Real.sqrt κ * p.sigma ≤ p.sigma * Real.sqrt (smax (1 - share t p * δ) κ)
  sigma_new_le : p.sigma * Real.sqrt (smax (1 - share t p * δ) κ) ≤ p.sigma
  sigma_new_sq_le : p.sigma * Real.sqrt (smax (1 - share t p * δ) κ)
      * (p.sigma * Real.sqrt (smax (1 - share t p * δ) κ)) ≤ 200 * (β * β)

end Mag

theorem mag_player_update {β lo κ W D ω δ : ℝ} {ts : List (TeamAgg ℝ)} (A : Mag.AggBounds β lo ts)
    (hκ1 : κ ≤ 1) (hod : |ω| ≤ W ∧ 0 ≤ δ ∧ δ ≤ D)
    {t : TeamAgg ℝ} (ht : t ∈ ts) {p : Rating ℝ} (hp : p ∈ t.players) :
    Mag.PlayerUpdateBounds β lo κ W D t p ω δ := by
  obtain ⟨hω, hδ0, hδ⟩ := hod
  have hlo := A.lo_pos
  have hsp : 0 < t.sig2 := (mul_pos hlo hlo).trans_le (A.var_ge t ht)
  have hpl := A.player_sigma_ge t ht p hp
  have hp0 : 0 ≤ p.sigma := hlo.le.trans hpl
  -- the share lies in [0, 1], so the two steps are bounded like `ω` and `δ`
  have hs0 : 0 ≤ Mag.share t p := div_nonneg (mul_self_nonneg _) hsp.le
  have hs1 : Mag.share t p ≤ 1 := (div_le_one hsp).mpr (A.player_share t ht p hp)
  have hstep : |Mag.share t p * ω| ≤ W := by
    rw [abs_mul, abs_of_nonneg hs0]
    exact (mul_le_of_le_one_left (abs_nonneg ω) hs1).trans hω
  have hvs0 : 0 ≤ Mag.share t p * δ := mul_nonneg hs0 hδ0
  have hvs1 : Mag.share t p * δ ≤ D := (mul_le_of_le_one_left hδ0 hs1).trans hδ
  -- the root argument `max(1 − share·δ, κ)` lies in [κ, 1]
  have hmax1 : κ ≤ smax (1 - Mag.share t p * δ) κ := (smax_eq_max _ κ).symm ▸ le_max_right _ _
  have hmax2 : smax (1 - Mag.share t p * δ) κ ≤ 1 :=
    (smax_eq_max _ κ).symm ▸ max_le (sub_le_self 1 hvs0) hκ1
  have hr1 := Real.sqrt_le_sqrt hmax1
  have hr2 : Real.sqrt (smax (1 - Mag.share t p * δ) κ) ≤ 1 := Real.sqrt_le_one.mpr hmax2
  have hnew_le : p.sigma * Real.sqrt (smax (1 - Mag.share t p * δ) κ) ≤ p.sigma :=
    mul_le_of_le_one_right hp0 hr2
  exact
    { share_ge := div_le_div₀ (mul_self_nonneg _) (mul_le_mul hpl hpl hlo.le hp0) hsp (A.var_le t ht)
      share_le := hs1, mu_step := hstep
      mu_new := (abs_add_le _ _).trans (add_le_add (A.player_mu t ht p hp) hstep)
      var_step_ge := hvs0, var_step_le := hvs1
      floor_arg_ge := sub_le_sub_left hvs1 1, floor_arg_le := sub_le_self 1 hvs0
      root_arg_ge := hmax1, root_arg_le := hmax2, root_ge := hr1, root_le := hr2
      sigma_new_ge := (mul_comm _ _).trans_le (mul_le_mul hpl hr1 (Real.sqrt_nonneg _) hp0)
      sigma_new_ge' := (mul_comm _ _).trans_le (mul_le_mul_of_nonneg_left hr1 hp0)
      sigma_new_le := hnew_le
      sigma_new_sq_le := (mul_le_mul hnew_le hnew_le (mul_nonneg hp0 (Real.sqrt_nonneg _)) hp0).trans
        (A.player_sigma_sq_le t ht p hp) }

/-! ### `compute` and `rate` -/

namespace Mag

/-- what is asserted of every returned rating (before the limit_sigma clamp): `|μ'| ≤ 20β + W`,
`√κ·lo ≤ σ'`, `σ'² ≤ 200β²` -/
def OutOK (β lo κ W : ℝ) (p' : Rating ℝ) : Prop :=
  |p'.mu| ≤ 20 * β + W ∧ Real.sqrt κ * lo ≤ p'.sigma ∧ p'.sigma * p'.sigma ≤ 200 * (β * β)

end Mag

theorem mag_compute_out {β lo W D : ℝ} (K : Kind) (L : Leaves ℝ) (P : Params ℝ)
    (hκ1 : P.kappa ≤ 1) (H : Mag.ODBounds K L P β lo W D)
    (teams : List (List (Rating ℝ))) (I : Mag.Inflated β lo teams)
    (dense : List Nat) (hd : dense.length = teams.length) :
    ∀ T ∈ compute K L P teams dense, ∀ p' ∈ T, Mag.OutOK β lo P.kappa W p' := by
  intro T hT p' hp'
  obtain ⟨t, ht, od, hod, rfl⟩ := mem_compute hT
  have A := mag_aggBounds I dense hd
  rw [C08_applyTeam_shape] at hp'
  obtain ⟨p, hp, rfl⟩ := List.mem_map.mp hp'
  have B := mag_player_update A hκ1 (H _ A od hod) ht hp
  exact ⟨B.mu_new, B.sigma_new_ge, B.sigma_new_sq_le⟩

theorem mag_rateRaw_out {ρ : Type} {β lo W D τ : ℝ} (K : Kind) (L : Leaves ℝ) (P : Params ℝ)
    (le : ρ → ρ → Bool) (teams : List (List (Rating ℝ))) (ranks : Option (List ρ))
    (Dm : Mag.Domain β P.kappa τ lo teams) (H : Mag.ODBounds K L P β lo W D)
    (hr : ∀ r, ranks = some r → r.length = teams.length) :
    ∀ T ∈ rateRaw K L P le τ teams ranks, ∀ p' ∈ T, Mag.OutOK β lo P.kappa W p' := by
  have I := mag_inflate_domain Dm
  have hκ1 : P.kappa ≤ 1 := le_trans Dm.kappa_le (by norm_num)
  intro T hT
  cases ranks with
  | none => exact mag_compute_out K L P hκ1 H _ I _ List.length_range T hT
  | some r =>
    have hr' := (hr r rfl).trans (inflate_length τ teams).symm
    exact mag_compute_out K L P hκ1 H _ (mag_unwind_inflated I le r hr') _
      (unwind_lengths le hr').2 T (mem_unwind_fst _ _ _ hT)

namespace Mag
/-- what is asserted of every rating returned by `rate` (limit_sigma on or off): the bounds of
`OutOK`, except that under the clamp sigma may instead be the unchanged sigma of an input rating
(a copy, no arithmetic) -/
def RateOutOK (β lo κ W : ℝ) (teams : List (List (Rating ℝ))) (p' : Rating ℝ) : Prop :=
  |p'.mu| ≤ 20 * β + W ∧ 0 ≤ p'.sigma ∧ p'.sigma * p'.sigma ≤ 200 * (β * β)
  ∧ (Real.sqrt κ * lo ≤ p'.sigma ∨ ∃ S ∈ teams, ∃ p ∈ S, p'.sigma = p.sigma)
end Mag

theorem mag_rateCore_out {ρ : Type} {β lo W D : ℝ} (K : Kind) (L : Leaves ℝ) (P : Params ℝ)
    (le : ρ → ρ → Bool) (teams : List (List (Rating ℝ))) (ranks : Option (List ρ)) (o : CallOpts ℝ)
    (Dm : Mag.Domain β P.kappa (resolveTau P o) lo teams)
    (H : Mag.ODBounds K L P β lo W D) (hr : ∀ r, ranks = some r → r.length = teams.length) :
    ∀ T ∈ rateCore K L P le teams ranks o, ∀ p' ∈ T, Mag.RateOutOK β lo P.kappa W teams p' := by
  have hsl : 0 ≤ Real.sqrt P.kappa * lo := mul_nonneg (Real.sqrt_nonneg _) Dm.lo_pos.le
  have hraw : ∀ R ∈ rateRaw K L P le (resolveTau P o) teams ranks, ∀ q ∈ R,
      Mag.OutOK β lo P.kappa W q ∧ Mag.RateOutOK β lo P.kappa W teams q := fun R hR q hq =>
    have h := mag_rateRaw_out K L P le teams ranks Dm H hr R hR q hq
    ⟨h, h.1, hsl.trans h.2.1, h.2.2, Or.inl h.2.1⟩
  intro T hT p' hp'
  rw [rateCore_eq_clamp_rateRaw] at hT
  split_ifs at hT
  · obtain ⟨R, hR, q, hq, S, hS, p, hp, rfl⟩ := mem_clampTeams hT hp'
    obtain ⟨⟨a, b, c⟩, hq'⟩ := hraw R hR q hq
    unfold clampPlayer
    split_ifs with h
    · exact hq'
    · -- the copied sigma is smaller than the computed one
      have hp0 := Dm.sigma_nonneg S hS p hp
      exact ⟨a, hp0, (mul_le_mul (not_le.mp h).le (not_le.mp h).le hp0 (hsl.trans b)).trans c,
        Or.inr ⟨S, hS, p, hp, rfl⟩⟩
  · exact (hraw T hT p' hp').2

/-! ### numeric facts about `Φ⁻¹` -/

/-- `φ(1) < 1/4`: `φ(1) = 1/(√e·√(2π))` with `√e ≥ 1.64`, `√(2π) ≥ 2.5` -/
theorem phi_one_lt_quarter : phi 1 < 1 / 4 := by
  have hs : (2.5 : ℝ) ≤ Real.sqrt (2 * Real.pi) :=
    le_sqrt_of_mul_self_le (by norm_num) (by linarith [Real.pi_gt_d2])
  have he : (1.64 : ℝ) ≤ Real.sqrt (Real.exp 1) :=
    le_sqrt_of_mul_self_le (by norm_num) (le_trans (by norm_num) Real.exp_one_gt_d9.le)
  rw [phi_eq, show (-(1 / 2 : ℝ) * 1 ^ 2) = -(1 / 2) by norm_num, Real.exp_neg, Real.exp_half,
    ← one_div, div_div, one_div_lt_one_div (mul_pos (Real.sqrt_pos.mpr (Real.exp_pos 1))
      (Real.sqrt_pos.mpr (by positivity))) (by norm_num)]
  exact lt_of_lt_of_le (by norm_num) (mul_le_mul he hs (by norm_num) (Real.sqrt_nonneg _))

/-- `Φ⁻¹(3/4) < 1`, that is `Φ(1) > 3/4`: by Mills' bound `Φ(−1) < φ(1) < 1/4` -/
theorem PhiInv_three_quarters_lt_one : PhiInv (3 / 4) < 1 :=
  lt_of_not_ge fun h => by
    have h1 := (le_PhiInv_iff (by norm_num) (by norm_num)).mp h
    have h2 := mills (-1)
    rw [phi_even, Phi_neg] at h2
    linarith [phi_one_lt_quarter]

/-! ### predictions: aggregates, pair denominators, draw margin -/

/-- `1600 = 16·10²`: at most 16 players with `sigma ≤ 10β` (predictions do not inflate) -/
theorem mag_predict_agg {β : ℝ} {teams : List (List (Rating ℝ))} (D : Grd.PredictDomain β teams)
    {a : TeamAgg ℝ} (ha : a ∈ aggs teams) :
    |a.mu| ≤ 320 * β ∧ 0 ≤ a.sig2 ∧ a.sig2 ≤ 1600 * (β * β) := by
  obtain ⟨t, ht, rfl⟩ := mem_aggs ha
  have hβ := D.beta_pos
  refine ⟨grd_team_mu_bound t 0 β hβ (D.players_le t ht) (D.mu_bound t ht),
    teamAgg_sig2_nonneg t 0, ?_⟩
  exact (mag_team_var_le t 0 (10 * β * (10 * β)) (mul_self_nonneg _) (D.players_le t ht) fun p hp =>
    mul_le_mul (D.sigma_le t ht p hp) (D.sigma_le t ht p hp) (D.sigma_nonneg t ht p hp)
      ((D.sigma_nonneg t ht p hp).trans (D.sigma_le t ht p hp))).trans_eq (by ring)

/-- `nb·β² + σ_a² + σ_b² ≤ (128 + 1600 + 1600)β² = 3328β² ≤ (58β)²` -/
theorem mag_pairDenom_bounds {β : ℝ} {teams : List (List (Rating ℝ))}
    (D : Grd.PredictDomain β teams) {nb : ℕ} (h2 : 2 ≤ nb) (h128 : nb ≤ 128) {a b : TeamAgg ℝ}
    (ha : a ∈ aggs teams) (hb : b ∈ aggs teams) :
    let d := pairDenom nb β a b
    Real.sqrt 2 * β ≤ d ∧ d ≤ 58 * β ∧ Real.sqrt nb * β ≤ d := by
  have hβ := D.beta_pos
  obtain ⟨_, ha0, ha'⟩ := mag_predict_agg D ha
  obtain ⟨_, hb0, hb'⟩ := mag_predict_agg D hb
  rw [C08_pairDenom_shape]
  have h1 : Real.sqrt nb * β ≤ Real.sqrt ((nb : ℝ) * (β * β) + a.sig2 + b.sig2) :=
    sqrt_mul_le_sqrt hβ.le ((le_add_of_nonneg_right ha0).trans (le_add_of_nonneg_right hb0))
  refine ⟨(mul_le_mul_of_nonneg_right (Real.sqrt_le_sqrt (by exact_mod_cast h2)) hβ.le).trans h1,
    sqrt_le_of_le_mul_self (mul_nonneg (by norm_num) hβ.le) ?_, h1⟩
  have h3 : (nb : ℝ) * (β * β) ≤ 128 * (β * β) :=
    mul_le_mul_of_nonneg_right (by exact_mod_cast h128) (mul_self_nonneg β)
  linarith

theorem mag_drawMargin_bounds (β : ℝ) (hβ : 0 < β) (N : ℕ) (h2 : 2 ≤ N) (h128 : N ≤ 128) :
    let a := (1 + 1 / (N : ℝ)) / 2
    let m := drawMargin β N
    (1 / 2 < a ∧ a ≤ 3 / 4) ∧ (0 ≤ PhiInv a ∧ PhiInv a ≤ PhiInv (3 / 4)) ∧ 0 ≤ m
    ∧ m ≤ Real.sqrt N * β * PhiInv (3 / 4) ∧ m ≤ Real.sqrt N * β ∧ m ≤ 12 * β ∧ m ≤ N * β := by
  have hN2 : (2 : ℝ) ≤ N := by exact_mod_cast h2
  have hN : (N : ℝ) ≤ 128 := by exact_mod_cast h128
  have hN0 : (0 : ℝ) ≤ N := zero_le_two.trans hN2
  have a1 := (C08_invcdf_arg N h2).1
  have a3 : (1 + 1 / (N : ℝ)) / 2 ≤ 3 / 4 :=
    (div_le_div_of_nonneg_right (add_le_add le_rfl (one_div_le_one_div_of_le two_pos hN2))
      zero_le_two).trans_eq (by norm_num)
  have z0 := zN_nonneg hN0
  have z1 : PhiInv ((1 + 1 / (N : ℝ)) / 2) ≤ PhiInv (3 / 4) :=
    PhiInv_mono (lt_trans (by norm_num) a1) a3 (by norm_num)
  have hsb : 0 ≤ Real.sqrt N * β := mul_nonneg (Real.sqrt_nonneg _) hβ.le
  rw [C08_drawMargin_shape]
  -- m = √N·β·z ≤ √N·β·Φ⁻¹(3/4) ≤ √N·β, and √N ≤ 12, √N ≤ N
  have m1 := mul_le_mul_of_nonneg_left z1 hsb
  have m2 := m1.trans (mul_le_of_le_one_right hsb PhiInv_three_quarters_lt_one.le)
  have m3 : Real.sqrt N * β ≤ 12 * β := mul_le_mul_of_nonneg_right
    (sqrt_le_of_le_mul_self (by norm_num) (hN.trans (by norm_num))) hβ.le
  have m4 : Real.sqrt N * β ≤ N * β := mul_le_mul_of_nonneg_right
    (sqrt_le_of_le_mul_self hN0 (le_mul_of_one_le_left hN0 (one_le_two.trans hN2))) hβ.le
  exact ⟨⟨a1, a3⟩, ⟨z0, z1⟩, mul_nonneg hsb z0, m1, m2, m2.trans m3, m2.trans m4⟩

/-! ### numeric facts about `exp` -/

theorem exp_nat_lt_of_pow_lt (n : ℕ) (B : ℝ) (h : (2.7182818286 : ℝ) ^ n < B) : Real.exp n < B := by
  have h1 := Real.exp_one_lt_d9
  have h2 : Real.exp n = Real.exp 1 ^ n := by
    rw [← Real.exp_nat_mul]; simp
  rw [h2]
  exact lt_of_le_of_lt (pow_le_pow_left₀ (Real.exp_pos 1).le h1.le n) h

-- `norm_num` evaluates no power with an exponent above 256: 453 = 151 · 3, 454 = 227 · 2
theorem exp_453_lt : Real.exp 453 < 10 ^ 197 := by
  have := exp_nat_lt_of_pow_lt 453 (10 ^ 197) (by rw [show 453 = 151 * 3 from rfl, pow_mul]; norm_num)
  exact_mod_cast this

theorem exp_454_lt : Real.exp 454 < 10 ^ 198 := by
  have := exp_nat_lt_of_pow_lt 454 (10 ^ 198) (by rw [show 454 = 227 * 2 from rfl, pow_mul]; norm_num)
  exact_mod_cast this

theorem exp_227_lt : Real.exp 227 < 10 ^ 99 := by
  have := exp_nat_lt_of_pow_lt 227 (10 ^ 99) (by norm_num)
  exact_mod_cast this

end OS
end
