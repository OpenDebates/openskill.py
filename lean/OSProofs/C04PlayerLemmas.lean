import OSProofs.C04FullLemmas
import OSProofs.C02Lemmas

/-!
# Helper lemmas for C04b, part D: players within a team in a different order, at the `rate` level

Before the clamp `rate` is slot-wise in the teams (`rateRaw_eq_zipWith`): team `i` is updated from
its own rank, omega and delta, and these per-team data do not depend on the order of the players
(`rateData_playerPerm`).  So there is one update function per team, the same for every
presentation of the rosters.
-/

noncomputable section
namespace OS
open List

theorem eqv_specPlayer_id (κ s2 ω δ : ℝ) (p : Rating ℝ) : (specPlayer κ s2 ω δ p).id = p.id := rfl

/-- the per-player update (after a slot-wise preparation `ip` of the players: nothing, or the tau
inflation) of two presentations of the rosters with the same per-team data `W`: one id-preserving
function per team serves both presentations -/
theorem eqv_updTeams_fn (κ : ℝ) (ip : Rating ℝ → Rating ℝ) (hip : ∀ p, (ip p).id = p.id)
    {teams teams' : List (List (Rating ℝ))} (h : List.Forall₂ List.Perm teams teams')
    (W : List (ℕ × ℝ × ℝ)) :
    ∃ fs : List (Rating ℝ → Rating ℝ), (∀ f ∈ fs, ∀ p, (f p).id = p.id) ∧
      List.zipWith (updTeam κ) (teams.map (·.map ip)) W = List.zipWith (fun f t => t.map f) fs teams ∧
      List.zipWith (updTeam κ) (teams'.map (·.map ip)) W
        = List.zipWith (fun f t => t.map f) fs teams' := by
  -- the update of a team maps one function over it, which reads the team only through its variance
  have hupd : ∀ (t : List (Rating ℝ)) (w : ℕ × ℝ × ℝ), updTeam κ (t.map ip) w
      = t.map (specPlayer κ (teamAgg (t.map ip) w.1).sig2 w.2.1 w.2.2 ∘ ip) := by
    intro t w
    rw [updTeam, C01_player]
    exact List.map_map
  induction h generalizing W with
  | nil => exact ⟨[], (fun _ h => nomatch h), rfl, rfl⟩
  | @cons t t' ts ts' hp _ ih =>
    cases W with
    | nil => exact ⟨[], (fun _ h => nomatch h), List.zipWith_nil_right, List.zipWith_nil_right⟩
    | cons w W =>
      obtain ⟨fs, hq, h1, h2⟩ := ih W
      refine ⟨(specPlayer κ (teamAgg (t.map ip) w.1).sig2 w.2.1 w.2.2 ∘ ip) :: fs, ?_, ?_, ?_⟩
      · intro f hf
        rcases List.mem_cons.1 hf with rfl | hf
        · exact hip
        · exact hq f hf
      · rw [List.map_cons, List.zipWith_cons_cons, List.zipWith_cons_cons, h1, hupd]
      · rw [List.map_cons, List.zipWith_cons_cons, List.zipWith_cons_cons, h2, hupd,
          (C04_teamAgg_perm (hp.map ip) w.1).2]

/-- the clamp of "one function per team" is again one function per team -/
theorem eqv_clampTeams_fn (fs : List (Rating ℝ → Rating ℝ)) (teams : List (List (Rating ℝ))) :
    clampTeams teams (List.zipWith (fun f t => t.map f) fs teams)
      = List.zipWith (fun f t => t.map f) (fs.map (fun f p => clampPlayer (f p) p)) teams := by
  rw [clampTeams_eq_zipWith_clampPlayer]
  induction fs generalizing teams with
  | nil => rfl
  | cons f fs ih =>
    cases teams with
    | nil => rfl
    | cons t ts =>
      rw [List.map_cons, List.zipWith_cons_cons, List.zipWith_cons_cons, List.zipWith_cons_cons, ih ts,
        List.zipWith_map_left, List.zipWith_self]

/-- the per-team data `(dense rank, ω, δ)` of `rate` do not see the order of the players: the sort
moves whole teams, and `(Ω, Δ)` reads a team through its aggregate (`C04b_omegaDelta_playerPerm`) -/
theorem rateData_playerPerm {ρ : Type} (le : ρ → ρ → Bool) (K : Kind) (L : Leaves ℝ) (P : Params ℝ) (hg : GammaPermInv P.gamma)
    (tau : ℝ) {teams teams' : List (List (Rating ℝ))} (h : List.Forall₂ List.Perm teams teams')
    (ranks : Option (List ρ)) :
    rateData K L P le tau teams' ranks = rateData K L P le tau teams ranks := by
  have hI : List.Forall₂ List.Perm (inflate tau teams) (inflate tau teams') := by
    rw [inflate_eq_map_inflPlayer, inflate_eq_map_inflPlayer, List.forall₂_map_left_iff,
      List.forall₂_map_right_iff]
    exact h.imp (fun _ _ hp => hp.map _)
  cases ranks with
  | none =>
    simp only [rateData, ← hI.length_eq]
    rw [C04b_omegaDelta_playerPerm K L P hg hI]
  | some r =>
    have hu := forall₂_unwind le r hI
    simp only [rateData, unwind_snd_indep le r _ _ hI.length_eq]
    rw [C04b_omegaDelta_playerPerm K L P hg hu]

section fn
variable {teams teams' : List (List (Rating ℝ))} {R R' : List (List (Rating ℝ))}

/-- from "one function per team": each result team is a permutation of the other -/
theorem eqv_fn_perm (h : List.Forall₂ List.Perm teams teams')
    (hfn : ∃ fs : List (Rating ℝ → Rating ℝ), (∀ f ∈ fs, ∀ p, (f p).id = p.id) ∧
      R = List.zipWith (fun f t => t.map f) fs teams ∧
      R' = List.zipWith (fun f t => t.map f) fs teams') : List.Forall₂ List.Perm R R' := by
  obtain ⟨fs, -, rfl, rfl⟩ := hfn
  induction h generalizing fs with
  | nil => simp
  | cons hp _ ih =>
    cases fs with
    | nil => simp
    | cons f fs => exact List.Forall₂.cons (hp.map f) (ih fs)

/-- from "one id-preserving function per team": players with the same id get the same result -/
theorem eqv_fn_id (h : List.Forall₂ List.Perm teams teams')
    (hfn : ∃ fs : List (Rating ℝ → Rating ℝ), (∀ f ∈ fs, ∀ p, (f p).id = p.id) ∧
      R = List.zipWith (fun f t => t.map f) fs teams ∧
      R' = List.zipWith (fun f t => t.map f) fs teams')
    (i : ℕ) (t r r' : List (Rating ℝ)) (ht : teams[i]? = some t) (hnd : (t.map (·.id)).Nodup)
    (hr : R[i]? = some r) (hr' : R'[i]? = some r')
    (q q' : Rating ℝ) (hq : q ∈ r) (hq' : q' ∈ r') (hqid : q.id = q'.id) : q = q' := by
  obtain ⟨hs, hid, rfl, rfl⟩ := hfn
  obtain ⟨t', ht', hp⟩ := forall₂_getElem? h ht
  obtain ⟨f, _, hf, ht₁, rfl⟩ := List.getElem?_zipWith_eq_some.1 hr
  obtain ⟨_, _, hf₂, ht₂, rfl⟩ := List.getElem?_zipWith_eq_some.1 hr'
  cases ht.symm.trans ht₁
  cases ht'.symm.trans ht₂
  cases hf.symm.trans hf₂
  obtain ⟨p, hp1, rfl⟩ := List.mem_map.1 hq
  obtain ⟨p', hp1', rfl⟩ := List.mem_map.1 hq'
  have hfi := hid f (List.mem_of_getElem? hf)
  rw [hfi, hfi] at hqid
  rw [List.inj_on_of_nodup_map hnd hp1 (hp.symm.subset hp1') hqid]

end fn

end OS
end
