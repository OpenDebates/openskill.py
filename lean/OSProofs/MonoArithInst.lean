import OSProofs.MonoArith
import OSProofs.RealInst
import Mathlib.Algebra.Order.Floor.Ring
import Mathlib.Tactic.Positivity
import Mathlib.Tactic.Linarith
import Mathlib.Tactic.Ring
import Mathlib.Tactic.FieldSimp

/-!
# The order laws `MonoArith` hold for ℝ and for every monotone rounding of ℝ

* `MonoArith.real : MonoArith ℝ` — the laws are true of the exact arithmetic;
* `Rounding`, `RN r`, `instance : Scalar (RN r)` — "compute exactly, then round" for an arbitrary
  monotone, idempotent, odd rounding that fixes the natural numbers;
* `MonoArith.rn r : MonoArith (RN r)` — every listed law survives every such rounding;
* `truncRounding k` — rounding toward zero to multiples of `1/2^k`: a concrete, genuinely lossy
  rounding (`truncRounding_lossy`), so the class is not only inhabited by the identity.
-/

noncomputable section
namespace OS
open Scalar

/-! ### ℝ -/

/-- each law is Mathlib's; `sc_zero ▸`, `sc_one ▸` read the `ofNat 0`, `ofNat 1` of the statement as `0`, `1` -/
theorem MonoArith.real : MonoArith ℝ where
  le_refl' := le_refl
  le_trans' := le_trans
  le_total' := le_total
  lt_iff_not_le' := lt_iff_not_ge
  add_le_add' := add_le_add
  add_nonneg' := sc_zero ▸ add_nonneg
  add_nonpos' := sc_zero ▸ add_nonpos
  le_add_right' := sc_zero ▸ le_add_of_nonneg_right
  le_add_left' := sc_zero ▸ le_add_of_nonneg_left
  add_le_right' := sc_zero ▸ add_le_of_nonpos_right
  add_le_left' := sc_zero ▸ add_le_of_nonpos_left
  sub_le_sub' := sub_le_sub
  sub_nonneg' := sc_zero ▸ sub_nonneg.2
  sub_nonpos' := sc_zero ▸ sub_nonpos.2
  sub_le_self' := sc_zero ▸ sub_le_self _
  le_sub_self' := sc_zero ▸ (le_sub_self_iff _).2
  neg_le_neg' := neg_le_neg
  neg_nonneg' := sc_zero ▸ neg_nonneg.2
  neg_nonpos' := sc_zero ▸ neg_nonpos.2
  neg_add_le' a b := (neg_add a b).le
  neg_sub_le' a b := (neg_sub a b).le
  mul_nonneg' := sc_zero ▸ mul_nonneg
  mul_nonpos_right' := sc_zero ▸ mul_nonpos_of_nonneg_of_nonpos
  mul_nonpos_left' := sc_zero ▸ mul_nonpos_of_nonpos_of_nonneg
  mul_self_nonneg' := sc_zero ▸ mul_self_nonneg
  mul_le_mul' := sc_zero ▸ fun ha hab hc hcd => mul_le_mul hab hcd hc (ha.trans hab)
  mul_le_of_le_one_right' := sc_zero ▸ sc_one ▸ mul_le_of_le_one_right
  mul_le_of_le_one_left' := sc_zero ▸ sc_one ▸ mul_le_of_le_one_left
  le_mul_of_one_le_right' := sc_zero ▸ sc_one ▸ le_mul_of_one_le_right
  div_nonneg' := sc_zero ▸ fun ha hb => div_nonneg ha hb.le
  div_nonpos' := sc_zero ▸ fun ha hb => div_nonpos_of_nonpos_of_nonneg ha hb.le
  div_le_div_right' := sc_zero ▸ fun hab hc => div_le_div_of_nonneg_right hab hc.le
  div_le_one' := sc_zero ▸ sc_one ▸ fun hab hb => (div_le_one hb).2 hab
  div_self' := sc_zero ▸ sc_one ▸ fun ha => div_self ha.ne'
  div_le_self' := sc_zero ▸ sc_one ▸ div_le_self
  sqrt_nonneg' := sc_zero ▸ Real.sqrt_nonneg
  sqrt_pos' := sc_zero ▸ Real.sqrt_pos.2
  sqrt_le_sqrt' := Real.sqrt_le_sqrt
  sqrt_le_one' := sc_one ▸ Real.sqrt_le_one.2
  exp_nonneg' := sc_zero ▸ fun a => (Real.exp_pos a).le
  Phi_nonneg' := sc_zero ▸ Gauss.Phi_nonneg
  Phi_le_one' := sc_one ▸ Gauss.Phi_le_one
  phi_nonneg' := sc_zero ▸ fun a => (Gauss.phi_pos a).le
  ofNat_le' := Nat.cast_le.2
  ofNat_lt' := Nat.cast_lt.2
  ofNat_add' m n := (Nat.cast_add m n).symm
  ofNat_mul_div' {m n} hn := by
    rw [sc_ofNat, Nat.cast_mul]
    exact mul_div_cancel_right₀ _ (Nat.cast_ne_zero.2 hn.ne')

/-! ### roundings -/

/-- a rounding of the reals: monotone, idempotent, odd, fixing the natural numbers -/
structure Rounding where
  rnd : ℝ → ℝ
  mono : ∀ {x y : ℝ}, x ≤ y → rnd x ≤ rnd y
  idem : ∀ x, rnd (rnd x) = rnd x
  odd : ∀ x, rnd (-x) = -rnd x
  nat : ∀ n : ℕ, rnd (n : ℝ) = (n : ℝ)

/-- the representable numbers of a rounding -/
def RN (r : Rounding) : Type := { x : ℝ // r.rnd x = x }

namespace RN
variable {r : Rounding}

def mk (r : Rounding) (x : ℝ) : RN r := ⟨r.rnd x, r.idem x⟩

@[ext] theorem ext {a b : RN r} (h : a.1 = b.1) : a = b := Subtype.ext h

end RN

instance instScalarRN (r : Rounding) : Scalar (RN r) where
  add a b := RN.mk r (a.1 + b.1)
  sub a b := RN.mk r (a.1 - b.1)
  mul a b := RN.mk r (a.1 * b.1)
  div a b := RN.mk r (a.1 / b.1)
  neg a := ⟨-a.1, by rw [r.odd, a.2]⟩
  lt a b := a.1 < b.1
  le a b := a.1 ≤ b.1
  ofNat n := ⟨(n : ℝ), r.nat n⟩
  sqrt a := RN.mk r (Real.sqrt a.1)
  exp a := RN.mk r (Real.exp a.1)
  Phi a := RN.mk r (Gauss.Phi a.1)
  phi a := RN.mk r (Gauss.phi a.1)
  PhiInv a := RN.mk r (Gauss.PhiInv a.1)
  decLt _ _ := Classical.propDecidable _
  decLe _ _ := Classical.propDecidable _

section
variable {r : Rounding}

@[simp] theorem rn_add (a b : RN r) : (a + b).1 = r.rnd (a.1 + b.1) := rfl
@[simp] theorem rn_sub (a b : RN r) : (a - b).1 = r.rnd (a.1 - b.1) := rfl
@[simp] theorem rn_mul (a b : RN r) : (a * b).1 = r.rnd (a.1 * b.1) := rfl
@[simp] theorem rn_div (a b : RN r) : (a / b).1 = r.rnd (a.1 / b.1) := rfl
@[simp] theorem rn_neg (a : RN r) : (-a).1 = -a.1 := rfl
@[simp] theorem rn_le (a b : RN r) : a ≤ b ↔ a.1 ≤ b.1 := Iff.rfl
@[simp] theorem rn_lt (a b : RN r) : a < b ↔ a.1 < b.1 := Iff.rfl
@[simp] theorem rn_ofNat (n : ℕ) : (Scalar.ofNat n : RN r).1 = (n : ℝ) := rfl
@[simp] theorem rn_sqrt (a : RN r) : (Scalar.sqrt a).1 = r.rnd (Real.sqrt a.1) := rfl
@[simp] theorem rn_exp (a : RN r) : (Scalar.exp a).1 = r.rnd (Real.exp a.1) := rfl
@[simp] theorem rn_Phi (a : RN r) : (Scalar.Phi a).1 = r.rnd (Gauss.Phi a.1) := rfl
@[simp] theorem rn_phi (a : RN r) : (Scalar.phi a).1 = r.rnd (Gauss.phi a.1) := rfl
@[simp] theorem rn_PhiInv (a : RN r) : (Scalar.PhiInv a).1 = r.rnd (Gauss.PhiInv a.1) := rfl

theorem Rounding.one (r : Rounding) : r.rnd 1 = 1 := by simpa using r.nat 1

/-- rounding keeps a bound by a representable number (`mono` and `a.2 : rnd a = a`) -/
theorem Rounding.le_rnd (r : Rounding) (a : RN r) {x : ℝ} (h : a.1 ≤ x) : a.1 ≤ r.rnd x := by
  have := r.mono h; rwa [a.2] at this

theorem Rounding.rnd_le (r : Rounding) (a : RN r) {x : ℝ} (h : x ≤ a.1) : r.rnd x ≤ a.1 := by
  have := r.mono h; rwa [a.2] at this

/-- and a bound by, or the equality with, a natural number -/
theorem Rounding.ofNat_le_rnd (r : Rounding) (n : ℕ) {x : ℝ} (h : (Scalar.ofNat n : ℝ) ≤ x) :
    (Scalar.ofNat n : ℝ) ≤ r.rnd x := by
  have := r.mono h; rwa [sc_ofNat, r.nat] at this

theorem Rounding.rnd_le_ofNat (r : Rounding) (n : ℕ) {x : ℝ} (h : x ≤ (Scalar.ofNat n : ℝ)) :
    r.rnd x ≤ (Scalar.ofNat n : ℝ) := by
  have := r.mono h; rwa [sc_ofNat, r.nat] at this

theorem Rounding.rnd_eq_ofNat (r : Rounding) (n : ℕ) {x : ℝ} (h : x = (Scalar.ofNat n : ℝ)) :
    r.rnd x = (Scalar.ofNat n : ℝ) := by
  rw [h, sc_ofNat, r.nat]

end

/-- in `RN r` division by 1 is exact (the quotient is representable, rounding is idempotent) -/
theorem fl3_rn_div_one (r : Rounding) (a : RN r) : a / Scalar.ofNat 1 = a := by
  apply RN.ext
  rw [rn_div, rn_ofNat, Nat.cast_one, div_one, a.2]

theorem RN.zero_add (r : Rounding) (a : RN r) : Scalar.ofNat 0 + a = a := by
  apply RN.ext
  rw [rn_add, rn_ofNat, Nat.cast_zero, _root_.zero_add, a.2]

/-- every law of `RN r` is the law of ℝ pushed through the rounding: `mono` where both sides are rounded
(with `odd` where one side is negated), `le_rnd` / `rnd_le` where one side is a representable number,
`ofNat_le_rnd` / `rnd_le_ofNat` / `rnd_eq_ofNat` where it is a natural number -/
theorem MonoArith.rn (r : Rounding) : MonoArith (RN r) :=
  let R := MonoArith.real
  { le_refl' := fun a => R.le_refl' a.1
    le_trans' := fun h1 h2 => R.le_trans' h1 h2
    le_total' := fun a b => R.le_total' a.1 b.1
    lt_iff_not_le' := R.lt_iff_not_le'
    add_le_add' := fun h1 h2 => r.mono (R.add_le_add' h1 h2)
    add_nonneg' := fun ha hb => r.ofNat_le_rnd 0 (R.add_nonneg' ha hb)
    add_nonpos' := fun ha hb => r.rnd_le_ofNat 0 (R.add_nonpos' ha hb)
    le_add_right' := fun {a b} hb => r.le_rnd a (R.le_add_right' hb)
    le_add_left' := fun {a b} ha => r.le_rnd b (R.le_add_left' ha)
    add_le_right' := fun {a b} hb => r.rnd_le a (R.add_le_right' hb)
    add_le_left' := fun {a b} ha => r.rnd_le b (R.add_le_left' ha)
    sub_le_sub' := fun h1 h2 => r.mono (R.sub_le_sub' h1 h2)
    sub_nonneg' := fun h => r.ofNat_le_rnd 0 (R.sub_nonneg' h)
    sub_nonpos' := fun h => r.rnd_le_ofNat 0 (R.sub_nonpos' h)
    sub_le_self' := fun {a b} h => r.rnd_le a (R.sub_le_self' h)
    le_sub_self' := fun {a b} h => r.le_rnd a (R.le_sub_self' h)
    neg_le_neg' := fun h => R.neg_le_neg' h
    neg_nonneg' := fun h => R.neg_nonneg' h
    neg_nonpos' := fun h => R.neg_nonpos' h
    neg_add_le' := fun a b => (r.odd _).symm.trans_le (r.mono (R.neg_add_le' a.1 b.1))
    neg_sub_le' := fun a b => (r.odd _).symm.trans_le (r.mono (R.neg_sub_le' a.1 b.1))
    mul_nonneg' := fun ha hb => r.ofNat_le_rnd 0 (R.mul_nonneg' ha hb)
    mul_nonpos_right' := fun ha hb => r.rnd_le_ofNat 0 (R.mul_nonpos_right' ha hb)
    mul_nonpos_left' := fun ha hb => r.rnd_le_ofNat 0 (R.mul_nonpos_left' ha hb)
    mul_self_nonneg' := fun a => r.ofNat_le_rnd 0 (R.mul_self_nonneg' a.1)
    mul_le_mul' := fun ha hab hc hcd => r.mono (R.mul_le_mul' ha hab hc hcd)
    mul_le_of_le_one_right' := fun {a b} ha hb => r.rnd_le a (R.mul_le_of_le_one_right' ha hb)
    mul_le_of_le_one_left' := fun {a b} ha hb => r.rnd_le b (R.mul_le_of_le_one_left' ha hb)
    le_mul_of_one_le_right' := fun {a b} ha hb => r.le_rnd a (R.le_mul_of_one_le_right' ha hb)
    div_nonneg' := fun ha hb => r.ofNat_le_rnd 0 (R.div_nonneg' ha hb)
    div_nonpos' := fun ha hb => r.rnd_le_ofNat 0 (R.div_nonpos' ha hb)
    div_le_div_right' := fun hab hc => r.mono (R.div_le_div_right' hab hc)
    div_le_one' := fun hab hb => r.rnd_le_ofNat 1 (R.div_le_one' hab hb)
    div_self' := fun ha => RN.ext (r.rnd_eq_ofNat 1 (R.div_self' ha))
    div_le_self' := fun {a b} ha hb => r.rnd_le a (R.div_le_self' ha hb)
    sqrt_nonneg' := fun a => r.ofNat_le_rnd 0 (R.sqrt_nonneg' a.1)
    sqrt_pos' := by
      -- `a ≤ 1`: `√a ≥ a`, a representable positive number; `a ≥ 1`: `√a ≥ 1`
      intro a ha; simp only [rn_lt, rn_sqrt, rn_ofNat, Nat.cast_zero] at *
      rcases le_total a.1 1 with h1 | h1
      · exact ha.trans_le (r.le_rnd a
          ((Real.le_sqrt' ha).2 (pow_le_of_le_one ha.le h1 two_ne_zero)))
      · exact one_pos.trans_le (r.one ▸ r.mono (Real.one_le_sqrt.2 h1))
    sqrt_le_sqrt' := fun h => r.mono (R.sqrt_le_sqrt' h)
    sqrt_le_one' := fun h => r.rnd_le_ofNat 1 (R.sqrt_le_one' h)
    exp_nonneg' := fun a => r.ofNat_le_rnd 0 (R.exp_nonneg' a.1)
    Phi_nonneg' := fun a => r.ofNat_le_rnd 0 (R.Phi_nonneg' a.1)
    Phi_le_one' := fun a => r.rnd_le_ofNat 1 (R.Phi_le_one' a.1)
    phi_nonneg' := fun a => r.ofNat_le_rnd 0 (R.phi_nonneg' a.1)
    ofNat_le' := fun h => R.ofNat_le' h
    ofNat_lt' := fun h => R.ofNat_lt' h
    ofNat_add' := fun m n => RN.ext (r.rnd_eq_ofNat (m + n) (R.ofNat_add' m n))
    ofNat_mul_div' := fun {m _} hn => RN.ext (r.rnd_eq_ofNat m (R.ofNat_mul_div' hn)) }

/-! ### a genuinely lossy rounding: toward zero, to multiples of `1/2^k` -/

/-- truncation toward zero to an integer -/
def truncZ (x : ℝ) : ℝ := if 0 ≤ x then (⌊x⌋ : ℝ) else (⌈x⌉ : ℝ)

theorem truncZ_mono {x y : ℝ} (h : x ≤ y) : truncZ x ≤ truncZ y := by
  unfold truncZ
  split_ifs with hx hy hy
  · exact Int.cast_le.2 (Int.floor_le_floor h)
  · exact absurd (hx.trans h) hy
  · -- `⌈x⌉ ≤ 0 ≤ ⌊y⌋`
    have h1 : ⌈x⌉ ≤ 0 := Int.ceil_le.2 (by rw [Int.cast_zero]; exact (not_le.1 hx).le)
    exact Int.cast_le.2 (h1.trans (Int.floor_nonneg.2 hy))
  · exact Int.cast_le.2 (Int.ceil_le_ceil h)

theorem truncZ_int (z : ℤ) : truncZ (z : ℝ) = z := by
  unfold truncZ; split_ifs <;> simp

theorem truncZ_isInt (x : ℝ) : ∃ z : ℤ, truncZ x = z := by
  unfold truncZ; split_ifs
  · exact ⟨_, rfl⟩
  · exact ⟨_, rfl⟩

theorem truncZ_neg (x : ℝ) : truncZ (-x) = -truncZ x := by
  unfold truncZ
  rcases lt_trichotomy x 0 with h | rfl | h
  · rw [if_pos (neg_nonneg.2 h.le), if_neg (not_le.2 h), Int.floor_neg, Int.cast_neg]
  · rw [neg_zero, if_pos le_rfl, Int.floor_zero, Int.cast_zero, neg_zero]
  · rw [if_neg (not_le.2 (neg_neg_of_pos h)), if_pos h.le, Int.ceil_neg, Int.cast_neg]

/-- rounding toward zero to multiples of `1/2^k` -/
def truncRounding (k : ℕ) : Rounding where
  rnd x := truncZ (x * 2 ^ k) / 2 ^ k
  mono := by
    intro x y h
    have hk : (0 : ℝ) < 2 ^ k := by positivity
    exact div_le_div_of_nonneg_right (truncZ_mono (mul_le_mul_of_nonneg_right h hk.le)) hk.le
  idem := by
    intro x
    have hk : (2 : ℝ) ^ k ≠ 0 := by positivity
    obtain ⟨z, hz⟩ := truncZ_isInt (x * 2 ^ k)
    rw [hz, div_mul_cancel₀ _ hk, truncZ_int]
  odd := by
    intro x
    rw [neg_mul, truncZ_neg, neg_div]
  nat := by
    intro n
    have hk : (2 : ℝ) ^ k ≠ 0 := by positivity
    have : (n : ℝ) * 2 ^ k = ((n * 2 ^ k : ℕ) : ℤ) := by push_cast; ring
    rw [this, truncZ_int]
    push_cast
    field_simp

/-- the class of roundings is inhabited by a rounding that is not the identity -/
example : Rounding := truncRounding 10

/-- `truncRounding k` really loses information: `1/2^(k+1)` is rounded to `0` -/
theorem truncRounding_lossy (k : ℕ) : (truncRounding k).rnd (1 / 2 ^ (k + 1)) = 0 := by
  show truncZ (1 / 2 ^ (k + 1) * 2 ^ k) / 2 ^ k = 0
  have h : (1 : ℝ) / 2 ^ (k + 1) * 2 ^ k = 1 / 2 := by
    rw [pow_succ]; field_simp
  rw [h]
  unfold truncZ
  rw [if_pos (by norm_num)]
  have : ⌊(1 / 2 : ℝ)⌋ = 0 := by
    rw [Int.floor_eq_iff]; norm_num
  rw [this]; simp

theorem truncRounding_ne_id (k : ℕ) : (truncRounding k).rnd ≠ id := fun h =>
  one_div_ne_zero (pow_ne_zero (k + 1) (two_ne_zero (α := ℝ)))
    ((congrFun h _).symm.trans (truncRounding_lossy k))

/-- `MonoArith.rn` instantiated at the lossy rounding -/
example : MonoArith (RN (truncRounding 10)) := MonoArith.rn _

end OS
end
