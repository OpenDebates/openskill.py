import OSModel
/-!
# List lemmas behind the prediction functions

`predict_win` / `predict_draw` / `predict_rank` compute one term per ordered pair of teams
(`itertools.permutations(teams, 2)` = `orderedPairs`) and then cut that flat list into consecutive
groups of `n - 1` (`zip_longest(*[iter(p)] * (n - 1))` = `chunk (n - 1)`).  The lemmas here show
that the groups are exactly "for each team, its terms against the other teams, in order".
Mathlib-free.
-/
namespace OS

theorem chunk_nil {β : Type} (k : Nat) : chunk k ([] : List β) = [] := by
  rw [chunk]

theorem chunk_append {β : Type} {k : Nat} (hk : 0 < k) (xs rest : List β) (h : xs.length = k) :
    chunk k (xs ++ rest) = xs :: chunk k rest := by
  cases xs with
  | nil => simp at h; omega
  | cons x xs =>
    rw [List.cons_append, chunk, if_neg (by omega), ← List.cons_append,
      List.take_left' h, List.drop_left' h]

theorem chunk_flatMap {β γ : Type} {k : Nat} (hk : 0 < k) (l : List β) (g : β → List γ)
    (h : ∀ a ∈ l, (g a).length = k) : chunk k (l.flatMap g) = l.map g := by
  induction l with
  | nil => simp [chunk_nil]
  | cons a l ih =>
    rw [List.flatMap_cons, chunk_append hk _ _ (h a (by simp)), List.map_cons,
      ih (fun b hb => h b (by simp [hb]))]

theorem length_of_mem_chunk {β : Type} {k : Nat} {l : List β} (h : k ∣ l.length) :
    ∀ c ∈ chunk k l, c.length = k := by
  fun_induction chunk k l with
  | case1 => exact fun _ hc => nomatch hc
  | case2 x xs hk => exact fun _ hc => nomatch hc
  | case3 x xs hk ih =>
    intro c hc
    have hkl : k ≤ (x :: xs).length := Nat.le_of_dvd (Nat.succ_pos _) h
    rcases List.mem_cons.mp hc with rfl | hc'
    · rw [List.length_take, Nat.min_eq_left hkl]
    · refine ih ?_ c hc'
      rw [List.length_drop]
      exact Nat.dvd_sub h (Nat.dvd_refl k)

theorem of_mem_chunk {β : Type} (k : Nat) (l : List β) :
    ∀ c ∈ chunk k l, 0 < k ∧ c.length ≤ k ∧ ∀ x ∈ c, x ∈ l := by
  fun_induction chunk k l with
  | case1 => intro c hc; simp at hc
  | case2 x xs hk => intro c hc; simp at hc
  | case3 x xs hk ih =>
    intro c hc
    rcases List.mem_cons.mp hc with rfl | hc'
    · exact ⟨Nat.pos_of_ne_zero hk, List.length_take_le _ _, fun y hy => List.mem_of_mem_take hy⟩
    · obtain ⟨h0, h1, h2⟩ := ih c hc'
      exact ⟨h0, h1, fun y hy => List.mem_of_mem_drop (h2 y hy)⟩

theorem filter_zipIdx_ne_eq_eraseIdx {β : Type} (l : List β) (i : Nat) :
    (l.zipIdx.filter (fun b => b.2 != i)).map (·.1) = l.eraseIdx i := by
  induction l generalizing i with
  | nil => rfl
  | cons x xs ih =>
    -- the tail of `(x :: xs).zipIdx` is `xs.zipIdx` with every index raised by one
    rw [List.zipIdx_cons', List.filter_cons, List.filter_map]
    cases i with
    | zero =>
      rw [if_neg (by simp), List.filter_eq_self.mpr (fun b _ => by simp), List.map_map]
      exact List.zipIdx_map_fst 0 xs
    | succ j =>
      rw [if_pos (by simp), List.map_cons, List.map_map, List.eraseIdx_cons_succ, ← ih j]
      simp [Function.comp_def]

theorem length_filter_zipIdx_ne {β : Type} {l : List β} {a : β × Nat} (ha : a ∈ l.zipIdx) :
    (l.zipIdx.filter (fun b => b.2 != a.2)).length = l.length - 1 := by
  rw [← List.length_map (f := (·.1)), filter_zipIdx_ne_eq_eraseIdx, List.length_eraseIdx_of_lt]
  simpa using List.snd_lt_of_mem_zipIdx ha

theorem othersOf_eq_eraseIdx {β : Type} (ts : List β) (i : Nat) : othersOf ts i = ts.eraseIdx i :=
  filter_zipIdx_ne_eq_eraseIdx ts i

theorem orderedPairs_singleton {β : Type} (x : β) : orderedPairs [x] = [] := by
  simp [orderedPairs]

theorem orderedPairs_map_arg {β γ : Type} (f : β → γ) (l : List β) :
    orderedPairs (l.map f) = (orderedPairs l).map (Prod.map f f) := by
  simp only [orderedPairs, List.zipIdx_map, List.filter_map, List.map_map, Function.comp_def,
    List.flatMap_map, List.map_flatMap, Prod.map, id]

theorem mem_orderedPairs {β : Type} {l : List β} {ab : β × β} (h : ab ∈ orderedPairs l) :
    ab.1 ∈ l ∧ ab.2 ∈ l := by
  obtain ⟨a, ha, h⟩ := List.mem_flatMap.mp h
  obtain ⟨b, hb, rfl⟩ := List.mem_map.mp h
  exact ⟨List.mem_of_getElem? (List.mem_zipIdx_iff_getElem?.mp ha),
    List.mem_of_getElem? (List.mem_zipIdx_iff_getElem?.mp (List.mem_filter.mp hb).1)⟩

theorem orderedPairs_map {β γ : Type} (l : List β) (f : β × β → γ) :
    (orderedPairs l).map f
      = l.zipIdx.flatMap (fun a => (l.zipIdx.filter (fun b => b.2 != a.2)).map
          (fun b => f (a.1, b.1))) := by
  simp only [orderedPairs, List.map_flatMap, List.map_map]
  rfl

/-- regrouping the pairwise terms by `n - 1` gives, for each team (in order), the list of its
terms against every other team (in order) -/
theorem chunk_orderedPairs_map {β γ : Type} (l : List β) (hn : 2 ≤ l.length) (f : β × β → γ) :
    chunk (l.length - 1) ((orderedPairs l).map f)
      = l.zipIdx.map (fun a => (l.zipIdx.filter (fun b => b.2 != a.2)).map
          (fun b => f (a.1, b.1))) := by
  rw [orderedPairs_map]
  exact chunk_flatMap (by omega) _ _ fun a ha =>
    (List.length_map _).trans (length_filter_zipIdx_ne ha)

theorem chunk_orderedPairs_map_eraseIdx {β γ : Type} (l : List β) (hn : 2 ≤ l.length)
    (f : β × β → γ) :
    chunk (l.length - 1) ((orderedPairs l).map f)
      = l.zipIdx.map (fun a => (l.eraseIdx a.2).map (fun b => f (a.1, b))) := by
  -- read `l.eraseIdx a.2` back as the filtered `zipIdx`
  simp only [← filter_zipIdx_ne_eq_eraseIdx, List.map_map]
  exact chunk_orderedPairs_map l hn f

theorem orderedPairs_map_eraseIdx {β γ : Type} (l : List β) (f : β × β → γ) :
    (orderedPairs l).map f
      = l.zipIdx.flatMap (fun a => (l.eraseIdx a.2).map (fun b => f (a.1, b))) := by
  simp only [← filter_zipIdx_ne_eq_eraseIdx, List.map_map]
  exact orderedPairs_map l f

section
variable {α : Type} [Scalar α]

/-- `chunk (n-1)` of the pairwise terms followed by "left-fold each group and divide" is, team by
team (input order), the left fold over the opponents `othersOf ts i` (input order) divided by `D`: for every
length but 1 (no team: both sides are empty).  No arithmetic law is used. -/
theorem chunk_orderedPairs_sumL_div {β : Type} (ts : List β) (n : Nat) (hl : ts.length = n) (hn : n ≠ 1)
    (g : β → β → α) (D : α) :
    (chunk (n - 1) ((orderedPairs ts).map (fun ab => g ab.1 ab.2))).map (fun c => sumL c / D)
      = ts.zipIdx.map (fun a => sumL ((othersOf ts a.2).map (g a.1)) / D) := by
  subst hl
  by_cases h0 : ts = []
  · subst h0
    simp [orderedPairs, chunk_nil]
  · have h2 : 2 ≤ ts.length := by have := List.length_pos_iff.2 h0; omega
    rw [chunk_orderedPairs_map ts h2, List.map_map]
    apply List.map_congr_left
    intro a _
    simp only [Function.comp, othersOf, List.map_map]
    rfl

/-- the sum over all ordered pairs is the nested loop with ONE running accumulator: for each team in
order, for each opponent in order, `acc += term`.  (Not: the sum of the per-team sums.) -/
theorem sumL_orderedPairs {β : Type} (ts : List β) (g : β → β → α) :
    sumL ((orderedPairs ts).map (fun ab => g ab.1 ab.2))
      = ts.zipIdx.foldl (fun acc a => ((othersOf ts a.2).map (g a.1)).foldl (· + ·) acc)
          (Scalar.ofNat 0) := by
  unfold sumL
  rw [orderedPairs_map, List.foldl_flatMap]
  congr 1
  funext acc a
  simp only [othersOf, List.map_map]
  rfl

/-! ### `aggs` and `playerCount` -/

theorem length_aggs (teams : List (List (Rating α))) : (aggs teams).length = teams.length :=
  List.length_map _

theorem getElem_aggs (teams : List (List (Rating α))) (i : Nat) (hi : i < teams.length) :
    (aggs teams)[i]'(by rw [length_aggs]; exact hi) = teamAgg teams[i] 0 :=
  List.getElem_map _

theorem getElem_map_zipIdx_aggs {γ : Type} (F : TeamAgg α × Nat → γ) (teams : List (List (Rating α)))
    (i : Nat) (hi : i < teams.length) (h : i < ((aggs teams).zipIdx.map F).length) :
    ((aggs teams).zipIdx.map F)[i] = F (teamAgg teams[i] 0, i) := by
  simp only [List.getElem_map, List.getElem_zipIdx, Nat.zero_add, getElem_aggs teams i hi]

theorem mem_aggs {teams : List (List (Rating α))} {t : TeamAgg α} (h : t ∈ aggs teams) :
    ∃ team ∈ teams, t = teamAgg team 0 :=
  let ⟨team, hm, e⟩ := List.mem_map.1 h
  ⟨team, hm, e.symm⟩

theorem aggs_set (teams : List (List (Rating α))) (i : Nat) (t' : List (Rating α)) :
    aggs (teams.set i t') = (aggs teams).set i (teamAgg t' 0) :=
  List.map_set

theorem pairDenom_congr (n : Nat) (β : α) {a a' b b' : TeamAgg α} (ha : a'.sig2 = a.sig2)
    (hb : b'.sig2 = b.sig2) : pairDenom n β a' b' = pairDenom n β a b := by
  unfold pairDenom
  rw [ha, hb]

/-- `predict_win` outside its two-team special case -/
theorem predictWin_of_length_ne_two (beta : α) (teams : List (List (Rating α)))
    (h : teams.length ≠ 2) :
    predictWin beta teams
      = (chunk (teams.length - 1) ((orderedPairs (aggs teams)).map (fun ab =>
          Scalar.Phi ((ab.1.mu - ab.2.mu) / pairDenom teams.length beta ab.1 ab.2)))).map
          (fun c => sumL c / (Scalar.ofNat (teams.length * (teams.length - 1)) / Scalar.ofNat 2)) := by
  unfold predictWin
  split
  · rename_i a b heq
    have := length_aggs teams
    rw [heq] at this
    exact absurd this.symm h
  · rfl

end

theorem playerCount_pair {β : Type} (a b : List β) : playerCount [a, b] = a.length + b.length := by
  simp [playerCount]

theorem playerCount_eq_sum {β : Type} (teams : List (List β)) :
    playerCount teams = (teams.map List.length).sum :=
  List.sum_eq_foldl.symm

/-- replacing an entry by one with the same image leaves the mapped list as it is -/
theorem map_set_of_eq {β γ : Type} (f : β → γ) (l : List β) {i : Nat} (hi : i < l.length) {a : β}
    (h : f a = f l[i]) : (l.set i a).map f = l.map f := by
  have e : (l.map f)[i]'(by rw [List.length_map]; exact hi) = f l[i] := List.getElem_map _
  rw [List.map_set, h, ← e, List.set_getElem_self]

theorem playerCount_set {β : Type} (teams : List (List β)) (i : Nat) (hi : i < teams.length)
    (t' : List β) (hlen : t'.length = teams[i].length) :
    playerCount (teams.set i t') = playerCount teams := by
  rw [playerCount, map_set_of_eq _ teams hi hlen, playerCount]

/-! ### `picks`: every element together with the list of the others -/

/-- each entry of the list paired with the list of the remaining entries (order kept) -/
def picks {β : Type} : List β → List (β × List β)
  | [] => []
  | x :: xs => (x, xs) :: (picks xs).map (fun p => (p.1, x :: p.2))

theorem zipIdx_map_eraseIdx {β : Type} (l : List β) :
    l.zipIdx.map (fun a => (a.1, l.eraseIdx a.2)) = picks l := by
  induction l with
  | nil => rfl
  | cons x xs ih =>
    -- the tail of `(x :: xs).zipIdx` is `xs.zipIdx` with every index raised by one
    rw [List.zipIdx_cons', List.map_cons, List.map_map, picks, ← ih, List.map_map]
    rfl

theorem zipIdx_map_eraseIdx_eq_map_picks {β γ : Type} (l : List β) (h : β → List β → γ) :
    l.zipIdx.map (fun a => h a.1 (l.eraseIdx a.2)) = (picks l).map (fun p => h p.1 p.2) := by
  rw [← zipIdx_map_eraseIdx, List.map_map]
  rfl

theorem picks_map_fst {β : Type} (l : List β) : (picks l).map (·.1) = l := by
  induction l with
  | nil => rfl
  | cons x xs ih =>
    simp only [picks, List.map_cons, List.map_map]
    congr 1

theorem length_picks {β : Type} (l : List β) : (picks l).length = l.length := by
  have := congrArg List.length (picks_map_fst l)
  simpa using this

theorem getElem_picks {β : Type} (l : List β) (i : Nat) (hi : i < l.length) :
    (picks l)[i]'(by rw [length_picks]; exact hi) = (l[i], l.eraseIdx i) := by
  simp only [← zipIdx_map_eraseIdx, List.getElem_map, List.getElem_zipIdx, Nat.zero_add]

/-- a value computed from "own entry" and the *multiset* of the others is permuted when the
list is permuted -/
theorem picks_map_perm {β γ : Type} {l l' : List β} (hp : l.Perm l') :
    ∀ (W : β → List β → γ), (∀ y r r', r.Perm r' → W y r = W y r') →
      ((picks l).map (fun p => W p.1 p.2)).Perm ((picks l').map (fun p => W p.1 p.2)) := by
  induction hp with
  | nil => intro W _; exact List.Perm.refl _
  | @cons x l l' h ih =>
    intro W hW
    simp only [picks, List.map_cons, List.map_map]
    rw [hW x l l' h]
    apply List.Perm.cons
    exact ih (fun y r => W y (x :: r)) (fun y r r' hr => hW y _ _ (hr.cons x))
  | swap x y l =>
    intro W hW
    simp only [picks, List.map_cons, List.map_map, Function.comp_def]
    rw [List.map_congr_left (fun p _ => hW p.1 _ _ (List.Perm.swap x y p.2))]
    exact List.Perm.swap _ _ _
  | trans _ _ ih₁ ih₂ =>
    intro W hW
    exact (ih₁ W hW).trans (ih₂ W hW)

/-! ### unordered pairs -/

/-- every unordered pair of positions once, as (earlier entry, later entry) -/
def unorderedPairs {β : Type} : List β → List (β × β)
  | [] => []
  | x :: xs => xs.map (fun b => (x, b)) ++ unorderedPairs xs

theorem length_unorderedPairs {β : Type} (l : List β) :
    2 * (unorderedPairs l).length = l.length * (l.length - 1) := by
  induction l with
  | nil => rfl
  | cons x xs ih =>
    simp only [unorderedPairs, List.length_append, List.length_map, List.length_cons,
      Nat.add_sub_cancel, Nat.mul_add, ih]
    generalize xs.length = m
    cases m with
    | zero => rfl
    | succ k =>
      simp only [Nat.add_sub_cancel, Nat.mul_add, Nat.add_mul, Nat.mul_one, Nat.one_mul]
      omega

theorem length_orderedPairs {β : Type} (l : List β) :
    (orderedPairs l).length = l.length * (l.length - 1) := by
  rw [orderedPairs, List.length_flatMap, List.map_congr_left (g := fun _ => l.length - 1)
    fun a ha => (List.length_map _).trans (length_filter_zipIdx_ne ha),
    List.map_const', List.sum_replicate_nat, List.length_zipIdx]

end OS
