import OSProofs.CodeShapedLemmas

/-!
# The closed forms `plSumQ` and `rankData` are justified by proof

In two places the executable model (`OSModel`) uses a *closed form* of a Python loop instead of a
transliteration.  `OSModel/CodeShaped.lean` contains literal, code-shaped versions of those two
loops; this file proves them equal to the closed forms.

* `plSumQCode_eq_generic` — `PlackettLuce._sum_q` (a `dict` filled by a double loop, returned as
  `list(sum_q.values())`), for an arbitrary scalar type (hence also for `Float`) and with the exact
  summation order of the code, provided the ranks are non-decreasing along the list;
  `plSumQCode_eq_of_zero`: it equals `plSumQ` when adding `exp(mu_i / c)` to `0.0` gives it back;
  `denseRanks_nondecreasing` shows `_calculate_rankings` always produces such ranks.
* `rankDataCode_eq_of_preorder` — `_rank_data` (`_arg_sort`, then a scan over runs of equal values)
  equals `rankData`, for every scalar type whose order is a total preorder.
* The instances at ℝ, where no hypothesis on the arithmetic is left (`plSumQCode_eq`, at the two call
  sites of `compute` in `OSModel/Rate.lean` `plSumQCode_eq_denseRanks` / `plSumQCode_eq_range`, and
  `rankDataCode_eq`) are in `OSProofs/Props/LoopsReal.lean`; this file does not import Mathlib.

**Remark (what happens without sortedness).**  If the ranks are not non-decreasing, the keys of
the dict are in general *not* inserted in ascending order, so `list(sum_q.values())[q]` need not
be the entry of key `q`: for ranks `[0, 1, 0]` iteration `i = 0` inserts the keys `0, 2` and
iteration `i = 1` appends key `1`, the dict is `{0: …, 2: …, 1: …}` and the returned list is a
permutation of the closed form (checked by `#guard` at the end of this file; Python returns the
same permuted list).  The multiset of values is still that of `plSumQ`; only the positions move.
The library never calls `_sum_q` with such ranks.

**Remark (floating point).**  `plSumQCode_eq_generic` uses no law of arithmetic.  The only
difference between the code and `plSumQ` at `Float` is that the dict entry starts as `summed`
whereas `sumL` starts as `0.0 + summed`; these are equal for every float except `-0.0`, and
`math.exp` never returns `-0.0`.
-/

namespace OS
open Scalar

/-! ## `_sum_q` -/

section
variable {α : Type} [Scalar α]

/-- **`_sum_q`, code-shaped = closed form, for every scalar type** (no algebraic law is used, so
this holds for `Float` too): with non-decreasing ranks the dict keys end up in the order
`0, 1, …, n-1`, and the value of key `q` is the left-to-right sum of `exp(mu_i / c)` over the
teams `i` with `rank_i ≥ rank_q`, started from its first term (`lit_sumL1`, which is `reduceAdd`). -/
theorem plSumQCode_eq_generic (ts : List (TeamAgg α)) (c : α)
    (hs : ts.Pairwise (fun a b => a.rank ≤ b.rank)) :
    plSumQCode ts c =
      ts.map (fun tq => lit_sumL1
        ((ts.filter (fun ti => decide (tq.rank ≤ ti.rank))).map (fun ti => exp (ti.mu / c)))) := by
  unfold plSumQCode
  rw [lit_plSumQDict_sorted ts c hs, List.map_map]
  refine Eq.trans ?_ (map_zipIdx_fst ts _)
  rfl

/-- `_sum_q`, literal = closed form, for every scalar type: non-decreasing ranks, and adding
    `exp(mu_i / c)` to `0.0` gives it back (at `Float`: always, `exp` never returns `-0.0`) -/
theorem plSumQCode_eq_of_zero (ts : List (TeamAgg α)) (c : α)
    (hs : ts.Pairwise (fun a b => a.rank ≤ b.rank))
    (hz : ∀ ti ∈ ts, ofNat 0 + exp (ti.mu / c) = exp (ti.mu / c)) :
    plSumQCode ts c = plSumQ ts c := by
  rw [plSumQCode_eq_generic ts c hs]
  unfold plSumQ
  refine List.map_congr_left fun tq _ => ?_
  rw [lit_sumL1_eq_reduceAdd]
  exact reduceAdd_map_eq_sumL _ _ fun ti hti =>
    hz ti (List.mem_filter.mp (List.mem_of_mem_head? (Option.mem_def.mpr hti))).1

end

/-- **`_calculate_rankings` produces non-decreasing ranks**, whatever the comparison and the
input list: the running value `s` is only ever replaced by the (larger) current index. -/
theorem denseRanks_nondecreasing {ρ : Type} (lt : ρ → ρ → Bool) (s : List ρ) :
    (denseRanks lt s).Pairwise (· ≤ ·) := by
  cases s with
  | nil => simp [denseRanks]
  | cons x xs =>
    simp only [denseRanks]
    exact List.pairwise_cons.mpr
      ⟨fun y _ => Nat.zero_le y, (denseRanksAux_mono lt xs x 1 0 (by omega)).2⟩

/-- the team aggregates inherit non-decreasing ranks from the rank list -/
theorem teamAggs_rank_nondecreasing {α : Type} [Scalar α] (teams : List (List (Rating α)))
    (ranks : List Nat) (h : ranks.Pairwise (· ≤ ·)) :
    (teamAggs teams ranks).Pairwise (fun a b => a.rank ≤ b.rank) := by
  unfold teamAggs
  rw [List.pairwise_map]
  -- the ranks that get a team are an initial segment of `ranks`
  show (teams.zip ranks).Pairwise (fun a b => a.2 ≤ b.2)
  rw [← List.pairwise_map (f := Prod.snd) (R := (· ≤ ·)), List.zip_eq_zip_take_min,
    List.map_snd_zip (by simp)]
  exact h.sublist (List.take_sublist _ _)

/-! ## `_rank_data` -/

section
variable {α : Type} [Scalar α]

/-- **`_rank_data`: the sort-and-scan loop equals the closed form `rankData`, for every total preorder.**
For every scalar type whose `≤` is reflexive, transitive and total and whose `<` is `¬ ≥` (`OrderLaws`: the
four order laws of `MonoArith`; IEEE doubles without NaN satisfy them), and every list `v`:
`rankDataCode v = rankData v` — each entry gets `1 +` the number of strictly smaller entries.

No antisymmetry and no equality test on `α` is needed: `_arg_sort` compares the tuples `(value, index)`
through `lexLe`, which consults only `<` on the values ("equal" means "neither is below the other", which is
what Python's `==` says of two non-NaN floats, `+0.0 == -0.0` included), and the run detection
`arg_sorted[i] != arg_sorted[i+1]` is `sne`, again only `<`.  Values that are equivalent but not identical
(`+0.0` / `-0.0`) form one run and have the same entries strictly below them (`OrderLaws.cntLt_congr`). -/
theorem rankDataCode_eq_of_preorder (O : OrderLaws α) (v : List α) : rankDataCode v = rankData v := by
  have hn : ((sortedPairs v).map (·.1)).length = v.length := by rw [List.length_map, sortedPairs_length]
  obtain ⟨hlen, hget⟩ := O.lit_loop_spec ((sortedPairs v).map (·.1)) (O.sortedPairs_sorted v) (argSortCode v)
    (hn ▸ argSortCode_perm v)
  -- `lit_step` is the `step` inside `rankDataCode`
  show ((List.range _).foldl (lit_step _ _ (argSortCode v)) _).2 = _
  rw [lit_argSorted_eq]
  rw [hn] at hlen hget
  apply List.ext_getElem?
  intro i
  by_cases hi : i < v.length
  · obtain ⟨j, hj, hji, hsv⟩ := lit_argSort_pos v i hi
    rw [← hji, hget j hj, hsv, cntLt_perm (sortedPairs_fst_perm v), rankData_eq, List.getElem?_map, hji,
      List.getElem?_eq_getElem hi, Option.map_some, Nat.add_comm]
  · rw [List.getElem?_eq_none (by rw [hlen]; exact Nat.le_of_not_lt hi),
      List.getElem?_eq_none (by rw [rankData_length]; exact Nat.le_of_not_lt hi)]

end

/-! ## The literal definitions compute what Python computes

`#guard` evaluates the code-shaped definitions at `Float` (compile-time check, no axiom).  The
expected values are the outputs of the pinned Python library, e.g.
`/venv/bin/python -c "from openskill.models.common import _rank_data, _arg_sort;
print(_rank_data([0.3,0.1,0.3,0.2]), _arg_sort([0.3,0.1,0.3,0.2]))"` prints
`[3, 1, 3, 2] [1, 3, 0, 2]`. -/

example : dictAdd [(0, 1), (2, 5)] 2 3 = [(0, 1), (2, 8)] := by decide
example : dictAdd [(0, 1), (2, 5)] 1 3 = [(0, 1), (2, 5), (1, 3)] := by decide
example : denseRanks (fun a b => decide (a < b)) [1, 1, 4, 7, 7] = [0, 0, 2, 3, 3] := by decide

private def lit_mk (mu : Float) (r : Nat) : TeamAgg Float :=
  { mu := mu, sig2 := 1.0, rank := r, players := [] }

private def lit_close (a b : List Float) : Bool :=
  a.length == b.length && (a.zip b).all (fun p => (p.1 - p.2).abs < 1e-9)

-- `_arg_sort`, `_rank_data`
#guard argSortCode ([0.3, 0.1, 0.3, 0.2] : List Float) == [1, 3, 0, 2]
#guard rankDataCode ([0.3, 0.1, 0.3, 0.2] : List Float) == [3, 1, 3, 2]
#guard rankDataCode ([5.0, 5.0, 1.0, 7.0, 5.0, 1.0] : List Float) == [3, 3, 1, 6, 3, 1]
#guard rankDataCode ([] : List Float) == []
#guard rankDataCode ([0.3, 0.1, 0.3, 0.2] : List Float) == rankData ([0.3, 0.1, 0.3, 0.2] : List Float)
-- `_sum_q` for ranks `[0, 0, 2]`, mu `[25, 30, 20]`, `c = 7`:
-- Python: `[125.63349967102378, 125.63349967102378, 17.41170806332765]`
#guard (plSumQDict [lit_mk 25.0 0, lit_mk 30.0 0, lit_mk 20.0 2] 7.0).map (·.1) == [0, 1, 2]
#guard lit_close (plSumQCode [lit_mk 25.0 0, lit_mk 30.0 0, lit_mk 20.0 2] 7.0)
  [125.63349967102378, 125.63349967102378, 17.41170806332765]
#guard plSumQCode [lit_mk 25.0 0, lit_mk 30.0 0, lit_mk 20.0 2] 7.0 ==
  plSumQ [lit_mk 25.0 0, lit_mk 30.0 0, lit_mk 20.0 2] 7.0
-- unsorted ranks `[0, 1, 0]`: the key order is `0, 2, 1` and the returned list is permuted
-- Python: `[125.63349967102378, 125.63349967102378, 72.65442420716546]`
#guard (plSumQDict [lit_mk 25.0 0, lit_mk 30.0 1, lit_mk 20.0 0] 7.0).map (·.1) == [0, 2, 1]
#guard lit_close (plSumQCode [lit_mk 25.0 0, lit_mk 30.0 1, lit_mk 20.0 0] 7.0)
  [125.63349967102378, 125.63349967102378, 72.65442420716546]
#guard lit_close (plSumQ [lit_mk 25.0 0, lit_mk 30.0 1, lit_mk 20.0 0] 7.0)
  [125.63349967102378, 72.65442420716546, 125.63349967102378]

end OS
