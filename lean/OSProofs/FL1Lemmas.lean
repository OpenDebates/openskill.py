import OSModel
import OSProofs.MonoArith
import OSProofs.MonoLemmas
import OSProofs.WrapBasics
import Mathlib.Data.List.Forall2

/-!
# C05 / C06 in every arithmetic that satisfies the order laws `MonoArith`: the lemmas

Over an abstract `α` with `[Scalar α]` and `(M : MonoArith α)`: no field axiom is used.  The per-player tail
`applyTeam`; the signs of the Bradley–Terry and Thurstone–Mosteller pair terms and of the Plackett–Luce
sums; the divisor hypotheses `DivisorsPos`; the four pairwise models as sums of pair terms over opponents
(`fl1_od_pairwise`); the clamp of one player.
-/

namespace OS
open Scalar
variable {α : Type} [Scalar α]

namespace MonoArith
variable (M : MonoArith α)
include M

theorem fl1_lt_of_le_of_lt {a b c : α} (h1 : a ≤ b) (h2 : b < c) : a < c :=
  M.orderLaws.lt_of_le_of_lt h1 h2

theorem fl1_lt_irrefl (a : α) : ¬ a < a := M.orderLaws.lt_irrefl a

theorem fl1_le_smax_left (a k : α) : a ≤ smax a k := M.orderLaws.le_smax_left a k

theorem fl1_le_smax_right (a k : α) : k ≤ smax a k := M.orderLaws.le_smax_right a k

end MonoArith

/-! ### the per-player tail -/

/-- the per-player update at the tail of every `_compute` (over ℝ the same function is `updPlayer` of
`C06Lemmas.lean`, with its equations for `mu` and `sigma`) -/
def fl1_upd (kappa sig2 omega delta : α) (p : Rating α) : Rating α :=
  { p with mu := p.mu + p.sigma * p.sigma / sig2 * omega,
           sigma := p.sigma * sqrt (smax (ofNat 1 - p.sigma * p.sigma / sig2 * delta) kappa) }

theorem fl1_applyTeam_eq_map (kappa : α) (t : TeamAgg α) (omega delta : α) :
    applyTeam kappa t omega delta = t.players.map (fl1_upd kappa t.sig2 omega delta) := rfl

@[simp] theorem fl1_upd_id (kappa sig2 omega delta : α) (p : Rating α) :
    (fl1_upd kappa sig2 omega delta p).id = p.id := rfl

theorem applyTeam_forall₂ {R : Rating α → Rating α → Prop} {kappa omega delta : α}
    (t : TeamAgg α) (h : ∀ p ∈ t.players, R p (fl1_upd kappa t.sig2 omega delta p)) :
    List.Forall₂ R t.players (applyTeam kappa t omega delta) := by
  rw [fl1_applyTeam_eq_map, List.forall₂_map_right_iff, List.forall₂_same]
  exact h

namespace MonoArith
variable (M : MonoArith α)
include M

theorem fl1_share_nonneg (s sig2 : α) (hs : 𝟘 < sig2) : 𝟘 ≤ s * s / sig2 :=
  M.div_nonneg' (M.mul_self_nonneg' s) hs

theorem fl1_upd_mu_ge {kappa sig2 omega delta : α} (p : Rating α) (hs : 𝟘 < sig2)
    (ho : 𝟘 ≤ omega) : p.mu ≤ (fl1_upd kappa sig2 omega delta p).mu :=
  M.le_add_right' (M.mul_nonneg' (M.fl1_share_nonneg _ _ hs) ho)

theorem fl1_upd_mu_le {kappa sig2 omega delta : α} (p : Rating α) (hs : 𝟘 < sig2)
    (ho : omega ≤ 𝟘) : (fl1_upd kappa sig2 omega delta p).mu ≤ p.mu :=
  M.add_le_right' (M.mul_nonpos_right' (M.fl1_share_nonneg _ _ hs) ho)

/-! ### team aggregates -/

theorem fl1_teamAgg_sig2_nonneg (team : List (Rating α)) (rank : Nat) :
    𝟘 ≤ (teamAgg team rank).sig2 :=
  M.sumL_map_nonneg fun p _ => M.mul_self_nonneg' p.sigma

end MonoArith

theorem fl1_teamAgg_sig2 (T : List (Rating α)) (d : Nat) :
    (teamAgg T d).sig2 = sumL (T.map (fun p => p.sigma * p.sigma)) := rfl

theorem fl1_teamAgg_rank (T : List (Rating α)) (d : Nat) : (teamAgg T d).rank = d := rfl

theorem fl1_teamAgg_players (T : List (Rating α)) (d : Nat) : (teamAgg T d).players = T := rfl

/-! ### the gamma callback -/

/-- **The hypothesis on gamma in a monotone arithmetic.**  The gamma callback is non-negative on the
arguments the models feed it: a positive `c`, a non-negative `sigma_squared`, at least one team.  It asks
less than the `GammaOK` of the statements over ℝ (`0 ≤ c`, any `k`), which implies it
(`gammaNonneg_of_gammaOK` in `Props/FL4Inst.lean`).  (The unrestricted "`0 ≤ gammaVal g c k mu s2 rank` for all arguments" is
false for the library default `sqrt(σ²)/c` at `c < 0`; it implies this one: `gammaNonneg_of_forall`.) -/
def GammaNonneg (g : GammaFn α) : Prop :=
  ∀ (c : α) (k : Nat) (mu s2 : α) (team : List (Rating α)) (rank : Nat), 𝟘 < c → 𝟘 ≤ s2 → 0 < k →
    𝟘 ≤ gammaVal g c k mu s2 team rank

theorem gammaNonneg_of_forall {g : GammaFn α}
    (h : ∀ (c : α) (k : Nat) (mu s2 : α) (team : List (Rating α)) (rank : Nat), 𝟘 ≤ gammaVal g c k mu s2 team rank) :
    GammaNonneg g := fun c k mu s2 team rank _ _ _ => h c k mu s2 team rank

/-- the default callback, `1/k`, `1/(rank+1)`, `0` and every non-negative constant are admissible
in every monotone arithmetic (`σ²/c²` is too whenever the computed `c*c` is positive) -/
theorem MonoArith.fl1_gammaNonneg_of_tag (M : MonoArith α) (g : GammaFn α)
    (hg : ∀ x, g = .const x → 𝟘 ≤ x) (hsq : g ≠ .sq)
    (hfn : ∀ f, g = .fn f → ∀ c k mu s2 team rank, 𝟘 < c → 𝟘 ≤ s2 → 0 < k → 𝟘 ≤ f c k mu s2 team rank) :
    GammaNonneg g := by
  intro c k mu s2 team rank hc hs hk
  cases g with
  | fn f => exact hfn f rfl c k mu s2 team rank hc hs hk
  | dflt => exact M.div_nonneg' (M.sqrt_nonneg' _) hc
  | const x => exact hg x rfl
  | invK => exact M.div_nonneg' M.zero_le_one (M.zero_lt_ofNat hk)
  | rankDep => exact M.div_nonneg' M.zero_le_one (M.zero_lt_ofNat (Nat.succ_pos _))
  | sq => exact absurd rfl hsq
  | zero => exact M.le_refl' _

/-! ### leaves (Thurstone–Mosteller only) -/

/-- sign conditions on the leaves under which the TM statements hold -/
structure LeavesNonneg (L : Leaves α) : Prop where
  v_nonneg : ∀ x t, 𝟘 ≤ L.v x t
  w_nonneg : ∀ x t, 𝟘 ≤ L.w x t
  wt_nonneg : ∀ x t, 𝟘 ≤ L.wt x t

/-- a Bradley–Terry kind is not a Thurstone–Mosteller kind: the leaf hypothesis of the statements for all
five models is vacuous -/
theorem leavesNonneg_of_bt {K : Kind} (hK : K = .BTF ∨ K = .BTP) (L : Leaves α) :
    K = .TMF ∨ K = .TMP → LeavesNonneg L := by
  intro hTM
  rcases hK with rfl | rfl
  · exact hTM.elim nofun nofun
  · exact hTM.elim nofun nofun

/-! ### pair terms -/

namespace MonoArith
variable (M : MonoArith α)
include M

/-- the signs of a Bradley–Terry pair term `(s2c·(s − p), γ·s2c/c·p·(1 − p))` with `p ∈ [0, 1]`: `δ_iq ≥ 0`;
`ω_iq ≥ 0` against a team ranked behind (`s = 1`), `ω_iq ≤ 0` against a team ranked ahead (`s = 0`) -/
theorem fl1_btPair_signs (beta : α) (g : GammaFn α) (n : Nat) (ti tq : TeamAgg α)
    (hs : 𝟘 ≤ ti.sig2) (hc : 𝟘 < sqrt (ti.sig2 + tq.sig2 + ofNat 2 * (beta * beta))) :
    (GammaNonneg g → 0 < n → 𝟘 ≤ (btPair beta g n ti tq).2)
    ∧ (ti.rank < tq.rank → 𝟘 ≤ (btPair beta g n ti tq).1)
    ∧ (tq.rank < ti.rank → (btPair beta g n ti tq).1 ≤ 𝟘) := by
  have hk := M.div_nonneg' hs hc
  obtain ⟨hp0, hp1⟩ := M.logistic_mem
    ((tq.mu - ti.mu) / sqrt (ti.sig2 + tq.sig2 + ofNat 2 * (beta * beta)))
  refine ⟨fun hg hn => ?_, fun hr => ?_, fun hr => ?_⟩
  · exact M.mul_nonneg' (M.mul_nonneg'
      (M.div_nonneg' (M.mul_nonneg' (hg _ _ _ _ _ _ hc hs hn) hk) hc) hp0) (M.sub_nonneg' hp1)
  · simp only [btPair, if_pos hr]
    exact M.mul_nonneg' hk (M.sub_nonneg' hp1)
  · simp only [btPair, if_neg (Nat.lt_asymm hr), if_neg (Nat.ne_of_lt hr)]
    exact M.mul_nonpos_right' hk (M.sub_nonpos' hp0)

/-- the signs of a Thurstone–Mosteller pair term: `δ_iq = γ·s2c/c·w ≥ 0` (`w` or `wt`); `ω_iq = s2c·v ≥ 0`
against a team ranked behind, `ω_iq = (−s2c)·v ≤ 0` against a team ranked ahead -/
theorem fl1_tmPair_signs (L : Leaves α) (hL : LeavesNonneg L) (cmul beta kappa : α)
    (g : GammaFn α) (n : Nat) (ti tq : TeamAgg α) (hs : 𝟘 ≤ ti.sig2)
    (hc : 𝟘 < cmul * sqrt (ti.sig2 + tq.sig2 + ofNat 2 * (beta * beta))) :
    (GammaNonneg g → 0 < n → 𝟘 ≤ (tmPair L cmul beta kappa g n ti tq).2)
    ∧ (ti.rank < tq.rank → 𝟘 ≤ (tmPair L cmul beta kappa g n ti tq).1)
    ∧ (tq.rank < ti.rank → (tmPair L cmul beta kappa g n ti tq).1 ≤ 𝟘) := by
  have hk := M.div_nonneg' hs hc
  refine ⟨fun hg hn => ?_, fun hr => ?_, fun hr => ?_⟩
  · have hpre := M.div_nonneg' (M.mul_nonneg' (hg _ n ti.mu _ ti.players ti.rank hc hs hn) hk) hc
    simp only [tmPair]
    split
    · exact M.mul_nonneg' hpre (hL.w_nonneg _ _)
    · split
      · exact M.mul_nonneg' hpre (hL.w_nonneg _ _)
      · exact M.mul_nonneg' hpre (hL.wt_nonneg _ _)
  · simp only [tmPair, if_pos hr]
    exact M.mul_nonneg' hk (hL.v_nonneg _ _)
  · simp only [tmPair, if_neg (Nat.lt_asymm hr), if_pos hr]
    exact M.mul_nonpos_left' (M.neg_nonpos' hk) (hL.v_nonneg _ _)

theorem fl1_ciq_pos (beta : α) (ti tq : TeamAgg α) (hi : 𝟘 < ti.sig2) (hq : 𝟘 ≤ tq.sig2) :
    𝟘 < sqrt (ti.sig2 + tq.sig2 + ofNat 2 * (beta * beta)) :=
  M.sqrt_pos' (M.add_pos_of_pos_of_nonneg (M.add_pos_of_pos_of_nonneg hi hq)
    (M.mul_nonneg' (M.zero_le_ofNat 2) (M.mul_self_nonneg' _)))

end MonoArith

/-! ### Plackett–Luce -/

theorem filter_eq_singleton {β : Type} (p : β → Bool) {x : β} (hx : p x = true) :
    ∀ (l : List β) (i : Nat), l[i]? = some x → (∀ j y, l[j]? = some y → j ≠ i → p y = false) →
      l.filter p = [x]
  | [], _, hi, _ => by simp at hi
  | y :: ys, 0, hi, ho => by
    cases hi
    rw [List.filter_cons_of_pos hx, List.filter_eq_nil_iff.2 fun a ha => ?_]
    obtain ⟨j, hj⟩ := List.getElem?_of_mem ha
    rw [ho (j + 1) a hj (Nat.succ_ne_zero j)]
    exact Bool.false_ne_true
  | y :: ys, i + 1, hi, ho => by
    rw [List.filter_cons_of_neg
      (by rw [ho 0 y rfl (Nat.succ_ne_zero i).symm]; exact Bool.false_ne_true)]
    exact filter_eq_singleton p hx ys i hi fun j z hj hne =>
      ho (j + 1) z hj (Nat.succ_ne_succ_iff.2 hne)

namespace MonoArith
variable (M : MonoArith α)
include M

/-- `p_iq = e_i / sum_q[q] ∈ [0, 1]` when `rank_q ≤ rank_i`: then `e_i` is one of the summands of
`sum_q[q]`, so `0 < e_i ≤ sum_q[q]` -/
theorem fl1_pl_p_mem (ts : List (TeamAgg α)) (c : α) (ti tq : TeamAgg α) (hti : ti ∈ ts)
    (hr : tq.rank ≤ ti.rank) (hexp : 𝟘 < exp (ti.mu / c)) :
    𝟘 ≤ exp (ti.mu / c) / fl1_plSum ts c tq ∧ exp (ti.mu / c) / fl1_plSum ts c tq ≤ 𝟙 :=
  have hle : exp (ti.mu / c) ≤ fl1_plSum ts c tq :=
    M.le_sumL_map_of_mem (fun t _ => M.exp_nonneg' (t.mu / c))
      (List.mem_filter.2 ⟨hti, decide_eq_true hr⟩)
  have hpos := M.orderLaws.lt_of_lt_of_le hexp hle
  ⟨M.div_nonneg' (M.exp_nonneg' _) hpos, M.div_le_one' hle hpos⟩

theorem fl1_plCnt_pos (ts : List (TeamAgg α)) (tq : TeamAgg α) (htq : tq ∈ ts) :
    (𝟘 : α) < ofNat (fl1_plCnt ts tq) :=
  M.zero_lt_ofNat (List.length_pos_of_mem (List.mem_filter.2 ⟨htq, decide_eq_true rfl⟩))

theorem fl1_plOmegaDelta_snd_nonneg (g : GammaFn α) (hg : GammaNonneg g) (ts : List (TeamAgg α))
    (c : α) (hc : 𝟘 < c) (hcc : 𝟘 < c * c) (i : Nat) (ti : TeamAgg α) (hti : ti ∈ ts)
    (hexp : 𝟘 < exp (ti.mu / c)) (hs : 𝟘 ≤ ti.sig2) :
    𝟘 ≤ (plOmegaDelta g ts c (plSumQ ts c) (plA ts) i ti).2 := by
  simp only [plOmegaDelta]
  refine M.mul_nonneg' (M.mul_nonneg' (M.sumL_map_nonneg fun x hx => ?_) (M.div_nonneg' hs hcc))
    (hg c ts.length ti.mu ti.sig2 ti.players ti.rank hc hs (List.length_pos_of_mem hti))
  obtain ⟨tq, hq, hr, hxe⟩ := fl1_pl_mem_qs hx
  obtain ⟨hp0, hp1⟩ := M.fl1_pl_p_mem ts c ti tq hti hr hexp
  rw [hxe]
  exact M.div_nonneg' (M.mul_nonneg' hp0 (M.sub_nonneg' hp1))
    (M.fl1_plCnt_pos ts tq (List.mem_of_getElem? hq))

/-- for a sole first team the only `q` with `rank_q ≤ rank_i` is `i` itself, and `(1 − p_ii)/A_i ≥ 0` -/
theorem fl1_plOmegaDelta_fst_nonneg (g : GammaFn α) (ts : List (TeamAgg α))
    (c : α) (hc : 𝟘 < c) (i : Nat) (ti : TeamAgg α) (hti : ti ∈ ts)
    (hexp : 𝟘 < exp (ti.mu / c)) (hs : 𝟘 ≤ ti.sig2)
    (hfirst : ∀ j tj, ts[j]? = some tj → j ≠ i → ti.rank < tj.rank) :
    𝟘 ≤ (plOmegaDelta g ts c (plSumQ ts c) (plA ts) i ti).1 := by
  simp only [plOmegaDelta]
  refine M.mul_nonneg' (M.sumL_map_nonneg fun x hx => ?_) (M.div_nonneg' hs hc)
  obtain ⟨tq, hq, hr, hxe⟩ := fl1_pl_mem_qs hx
  have hxi : x.2 = i := Classical.byContradiction fun hne =>
    absurd (hfirst x.2 tq hq hne) (Nat.not_lt.2 hr)
  rw [if_pos hxi, hxe]
  exact M.div_nonneg' (M.sub_nonneg' (M.fl1_pl_p_mem ts c ti tq hti hr hexp).2)
    (M.fl1_plCnt_pos ts tq (List.mem_of_getElem? hq))

/-- for a sole last team the own term is `(1 − p_ii)/A_i` with `p_ii = e_i / (0 + e_i) ≥ 1`, every other
term `−p_iq/A_q ≤ 0` -/
theorem fl1_plOmegaDelta_fst_nonpos (g : GammaFn α) (ts : List (TeamAgg α))
    (c : α) (hc : 𝟘 < c) (i : Nat) (ti : TeamAgg α) (hi : ts[i]? = some ti)
    (hexp : 𝟘 < exp (ti.mu / c)) (hs : 𝟘 ≤ ti.sig2)
    (hlast : ∀ j tj, ts[j]? = some tj → j ≠ i → tj.rank < ti.rank) :
    (plOmegaDelta g ts c (plSumQ ts c) (plA ts) i ti).1 ≤ 𝟘 := by
  have hti : ti ∈ ts := List.mem_of_getElem? hi
  simp only [plOmegaDelta]
  refine M.mul_nonpos_left' (M.sumL_map_nonpos fun x hx => ?_) (M.div_nonneg' hs hc)
  obtain ⟨tq, hq, hr, hxe⟩ := fl1_pl_mem_qs hx
  have hA := M.fl1_plCnt_pos ts tq (List.mem_of_getElem? hq)
  by_cases hxi : x.2 = i
  · rw [hxi, hi] at hq
    cases hq
    rw [if_pos hxi, hxe]
    -- `sum_q[i]` adds the teams not ranked ahead of `ti`: only `ti` itself
    have hF := filter_eq_singleton (fun t => decide (ti.rank ≤ t.rank))
      (decide_eq_true (Nat.le_refl _)) ts i hi fun j tj hj hne =>
        decide_eq_false (Nat.not_le.2 (hlast j tj hj hne))
    show (𝟙 - exp (ti.mu / c) / fl1_plSum ts c ti) / ofNat (fl1_plCnt ts ti) ≤ 𝟘
    rw [fl1_plSum, hF]
    exact M.div_nonpos' (M.sub_nonpos' (M.one_le_div_sumL_singleton hexp)) hA
  · rw [if_neg hxi, hxe]
    exact M.neg_nonpos' (M.div_nonneg' (M.fl1_pl_p_mem ts c ti tq hti hr hexp).1 hA)

theorem fl1_plC_pos (beta : α) (ts : List (TeamAgg α)) (hv : ∀ t ∈ ts, 𝟘 ≤ t.sig2)
    {t : TeamAgg α} (ht : t ∈ ts) (hpos : 𝟘 < t.sig2) : 𝟘 < plC beta ts :=
  M.sqrt_pos' (M.orderLaws.lt_of_lt_of_le
    (M.add_pos_of_pos_of_nonneg hpos (M.mul_self_nonneg' beta))
    (M.le_sumL_map_of_mem (fun u hu => M.add_nonneg' (hv u hu) (M.mul_self_nonneg' beta)) ht))

end MonoArith

/-! ### `omegaDelta`, team by team -/

/-- **The computed divisors are strictly positive** — what C08 guarantees on the library's domain and what
no order law can give (`0 < a → 0 < a * a` fails by underflow):

* Plackett–Luce: `0 < c`, `0 < c * c`, and `0 < exp(μ_t / c)` for every team (hence `0 < sum_q[q]`);
* Bradley–Terry: `0 < c_iq` for every pair of teams;
* Thurstone–Mosteller: `0 < cmul * c_iq` for every pair of teams (`cmul` = 1 full, 2 partial pairing).

`FL_divisorsPos_of_var_pos` derives the Bradley–Terry case from positive team variances, and
`0 < c` of the Plackett–Luce case from `0 < c * c` (`c` is a `sqrt`, hence `≥ 0`). -/
def DivisorsPos (K : Kind) (P : Params α) (ts : List (TeamAgg α)) : Prop :=
  match K with
  | .PL => 𝟘 < plC P.beta ts ∧ 𝟘 < plC P.beta ts * plC P.beta ts
      ∧ ∀ t ∈ ts, 𝟘 < exp (t.mu / plC P.beta ts)
  | .BTF => ∀ ti ∈ ts, ∀ tq ∈ ts, 𝟘 < sqrt (ti.sig2 + tq.sig2 + ofNat 2 * (P.beta * P.beta))
  | .BTP => ∀ ti ∈ ts, ∀ tq ∈ ts, 𝟘 < sqrt (ti.sig2 + tq.sig2 + ofNat 2 * (P.beta * P.beta))
  | .TMF => ∀ ti ∈ ts, ∀ tq ∈ ts,
      𝟘 < ofNat 1 * sqrt (ti.sig2 + tq.sig2 + ofNat 2 * (P.beta * P.beta))
  | .TMP => ∀ ti ∈ ts, ∀ tq ∈ ts,
      𝟘 < ofNat 2 * sqrt (ti.sig2 + tq.sig2 + ofNat 2 * (P.beta * P.beta))

/-- what is left of `DivisorsPos` once the team variances are known to be positive: nothing for
Bradley–Terry; the two underflow conditions for Plackett–Luce; everything for Thurstone–Mosteller -/
def DivisorsPosRest (K : Kind) (P : Params α) (ts : List (TeamAgg α)) : Prop :=
  match K with
  | .PL => 𝟘 < plC P.beta ts * plC P.beta ts ∧ ∀ t ∈ ts, 𝟘 < exp (t.mu / plC P.beta ts)
  | .BTF => True
  | .BTP => True
  | .TMF => DivisorsPos .TMF P ts
  | .TMP => DivisorsPos .TMP P ts

/-! the three families of models, and `DivisorsPos` read family by family -/

theorem Kind.pl_or_bt_or_tm (K : Kind) :
    K = .PL ∨ (K = .BTF ∨ K = .BTP) ∨ (K = .TMF ∨ K = .TMP) := by
  cases K <;> simp

/-- the factor of `c_iq` in the Thurstone–Mosteller divisor: `1` for full, `2` for partial pairing — the
literals `ofNat 1`, `ofNat 2` that `fl1_od` hands to `tmPair` -/
def fl3_cmul (K : Kind) : α := match K with | .TMP => ofNat 2 | _ => ofNat 1

theorem DivisorsPos.bt {K : Kind} (hK : K = .BTF ∨ K = .BTP) {P : Params α}
    {ts : List (TeamAgg α)} (hd : DivisorsPos K P ts) :
    ∀ ti ∈ ts, ∀ tq ∈ ts, 𝟘 < sqrt (ti.sig2 + tq.sig2 + ofNat 2 * (P.beta * P.beta)) := by
  rcases hK with rfl | rfl
  · exact hd
  · exact hd

theorem DivisorsPos.tm {K : Kind} (hK : K = .TMF ∨ K = .TMP) {P : Params α}
    {ts : List (TeamAgg α)} (hd : DivisorsPos K P ts) :
    ∀ ti ∈ ts, ∀ tq ∈ ts,
      𝟘 < fl3_cmul K * sqrt (ti.sig2 + tq.sig2 + ofNat 2 * (P.beta * P.beta)) := by
  rcases hK with rfl | rfl
  · exact hd
  · exact hd

theorem DivisorsPosRest.tm {K : Kind} (hK : K = .TMF ∨ K = .TMP) {P : Params α}
    {ts : List (TeamAgg α)} (hd : DivisorsPosRest K P ts) : DivisorsPos K P ts := by
  rcases hK with rfl | rfl
  · exact hd
  · exact hd

/-- **The four pairwise models at once.**  The `(ω, δ)` of team `i` is the `sumPairs` of its pair terms
against opponents that sit at positions `j ≠ i` (all of them, or the neighbours).  So a property `S` that
`sumPairs` inherits from the terms (`hS`) and that every such Bradley–Terry resp. Thurstone–Mosteller pair
term has is a property of `(ω, δ)`. -/
theorem fl1_od_pairwise {S : α × α → Prop}
    (hS : ∀ prs : List (α × α), (∀ x ∈ prs, S x) → S (sumPairs prs))
    (K : Kind) (L : Leaves α) (P : Params α) (ts : List (TeamAgg α)) (i : Nat) (ti : TeamAgg α)
    (hbt : K = .BTF ∨ K = .BTP → ∀ j tq, j ≠ i → ts[j]? = some tq →
      S (btPair P.beta P.gamma ts.length ti tq))
    (htm : K = .TMF ∨ K = .TMP → ∀ j tq, j ≠ i → ts[j]? = some tq →
      S (tmPair L (fl3_cmul K) P.beta P.kappa P.gamma ts.length ti tq))
    (hK : K ≠ .PL) : S (fl1_od K L P ts (ti, i)) := by
  have key : ∀ (opp : List (TeamAgg α)) (pr : TeamAgg α → α × α),
      (∀ tq ∈ opp, ∃ j, j ≠ i ∧ ts[j]? = some tq) →
      (∀ j tq, j ≠ i → ts[j]? = some tq → S (pr tq)) → S (sumPairs (opp.map pr)) := by
    intro opp pr hopp hpr
    refine hS _ (List.forall_mem_map.2 fun tq htq => ?_)
    obtain ⟨j, hne, hj⟩ := hopp tq htq
    exact hpr j tq hne hj
  cases K with
  | PL => exact absurd rfl hK
  | BTF => exact key _ _ (fun _ h => mem_othersOf.1 h) (hbt (Or.inl rfl))
  | BTP => exact key _ _ (fun _ h => exists_ne_of_mem_neighboursOf h) (hbt (Or.inr rfl))
  | TMF => exact key _ _ (fun _ h => mem_othersOf.1 h) (htm (Or.inl rfl))
  | TMP => exact key _ _ (fun _ h => exists_ne_of_mem_neighboursOf h) (htm (Or.inr rfl))

/-! ### the clamp -/

theorem MonoArith.fl1_clampPlayer_sigma (M : MonoArith α) (q p : Rating α) :
    ((clampPlayer q p).sigma = q.sigma ∨ (clampPlayer q p).sigma = p.sigma)
      ∧ (clampPlayer q p).sigma ≤ p.sigma ∧ (clampPlayer q p).sigma ≤ q.sigma := by
  unfold clampPlayer
  split
  · next h => exact ⟨Or.inl rfl, h, M.le_refl' _⟩
  · next h => exact ⟨Or.inr rfl, M.le_refl' _, M.orderLaws.le_of_lt (M.orderLaws.lt_of_not_le h)⟩

end OS
