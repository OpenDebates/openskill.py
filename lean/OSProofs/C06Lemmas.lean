import OSProofs.RealInst
import OSProofs.LeafFacts
import OSProofs.GammaRealLemmas
import OSProofs.PairLemmas
import OSProofs.Props.C08
import OSProofs.RealSums

/-!
# `δ ≥ 0`, the update of one player, the inflation and the clamp, over ℝ

What C06 (sigma stays positive, grows by at most tau, limit_sigma caps it) is proved from; C01d reads
`applyTeam` through `updPlayer` as well, C08b uses the bound on a Plackett–Luce term.  Everything is at
`α := ℝ`.

* under `GammaOK` (`GammaRealLemmas`) the pair terms and the Plackett–Luce sum have a non-negative
  variance component (`fl1_od_snd_nonneg`);
* `applyTeam` is `map (updPlayer …)` and `updPlayer` can only shrink a non-negative sigma
  while keeping a positive sigma positive;
* every team `compute` returns is `IsUpdateOf` one of its input teams (`compute_isUpdateOf`).  The same slot by
  slot, through the sort and the un-sort of `rate`, is `rawResult_forall₂` in `Props/C06.lean`.
-/

noncomputable section
namespace OS
open Scalar

/-- Bradley–Terry: `γ·(σ_i²/c_iq)/c_iq · p(1-p) ≥ 0` -/
theorem btPair_snd_nonneg (beta : ℝ) (g : GammaFn ℝ) (hg : GammaOK g) (n : Nat)
    (ti tq : TeamAgg ℝ) (hi : 0 ≤ ti.sig2) : 0 ≤ (btPair beta g n ti tq).2 := by
  rw [btPair_snd]
  have hc := pairC_nonneg beta ti tq
  obtain ⟨hp0, hp1⟩ := btP_mem beta ti tq
  exact mul_nonneg (mul_nonneg (div_nonneg (mul_nonneg
    (hg _ n ti.mu ti.sig2 ti.players ti.rank hc hi) (div_nonneg hi hc)) hc) hp0.le)
    (sub_nonneg.2 hp1.le)

/-- Thurstone–Mosteller: `γ·(σ_i²/c_iq)/c_iq · W ≥ 0` (or `W̃` at draw margin `κ/c_iq ≥ 0`) -/
theorem tmPair_snd_nonneg (L : Leaves ℝ) (hL : LeafFacts L) (cmul beta kappa : ℝ)
    (hm : 0 ≤ cmul) (hk : 0 ≤ kappa) (g : GammaFn ℝ) (hg : GammaOK g) (n : Nat)
    (ti tq : TeamAgg ℝ) (hi : 0 ≤ ti.sig2) : 0 ≤ (tmPair L cmul beta kappa g n ti tq).2 := by
  rw [tmPair_snd]
  have hc : 0 ≤ cmul * pairC beta ti tq := mul_nonneg hm (pairC_nonneg _ _ _)
  exact mul_nonneg (div_nonneg (mul_nonneg
    (hg _ n ti.mu ti.sig2 ti.players ti.rank hc hi) (div_nonneg hi hc)) hc)
    (byOutcome_cases (P := (0 ≤ ·)) _ _ (hL.w_nonneg _ _) (hL.wt_nonneg _ _ (div_nonneg hk hc))
      (hL.w_nonneg _ _))

/-- `sum_q[q]` runs over the teams ranked no better than `q`: the term of each of them is at most the
sum, in particular the term of `q` itself -/
theorem pl_term_le_sumQ (ts : List (TeamAgg ℝ)) (c : ℝ) {ti tq : TeamAgg ℝ} (hti : ti ∈ ts)
    (hr : tq.rank ≤ ti.rank) : Real.exp (ti.mu / c) ≤ fl1_plSum ts c tq := by
  rw [fl1_plSum, sumL_eq_sum]
  exact le_sum_map_of_mem (ts.filter (fun tj => decide (tq.rank ≤ tj.rank)))
    (fun tj => Real.exp (tj.mu / c)) (fun _ _ => (Real.exp_pos _).le)
    (List.mem_filter.mpr ⟨hti, decide_eq_true hr⟩)

/-- `p_iq = e_i / sum_q[q] ∈ [0,1]` when team `i` is one of the teams `sum_q[q]` runs over -/
theorem pl_p_mem (ts : List (TeamAgg ℝ)) (c : ℝ) (ti tq : TeamAgg ℝ) (hti : ti ∈ ts)
    (hr : tq.rank ≤ ti.rank) :
    0 ≤ Real.exp (ti.mu / c) / fl1_plSum ts c tq ∧ Real.exp (ti.mu / c) / fl1_plSum ts c tq ≤ 1 := by
  have hpos : 0 < Real.exp (ti.mu / c) := Real.exp_pos _
  have hle := pl_term_le_sumQ ts c hti hr
  exact ⟨div_nonneg hpos.le (hpos.le.trans hle), (div_le_one (hpos.trans_le hle)).2 hle⟩

theorem plOmegaDelta_snd_nonneg (g : GammaFn ℝ) (hg : GammaOK g) (ts : List (TeamAgg ℝ))
    (c : ℝ) (hc : 0 ≤ c) (i : Nat) (ti : TeamAgg ℝ) (hti : ti ∈ ts) (hs : 0 ≤ ti.sig2) :
    0 ≤ (plOmegaDelta g ts c (plSumQ ts c) (plA ts) i ti).2 := by
  refine mul_nonneg (mul_nonneg (sumL_map_nonneg fun x hx => ?_) (div_nonneg hs (mul_self_nonneg c)))
    (hg c ts.length ti.mu ti.sig2 ti.players ti.rank hc hs)
  obtain ⟨tq, _, hr, hxe⟩ := fl1_pl_mem_qs hx
  rw [hxe]
  obtain ⟨hp0, hp1⟩ := pl_p_mem ts c ti tq hti hr
  exact div_nonneg (mul_nonneg hp0 (sub_nonneg.2 (hp1.trans_eq Nat.cast_one.symm)))
    (Nat.cast_nonneg _)

theorem fl1_od_snd_nonneg (K : Kind) (L : Leaves ℝ)
    (hL : K = .TMF ∨ K = .TMP → LeafFacts L) (P : Params ℝ)
    (hk : 0 ≤ P.kappa) (hg : GammaOK P.gamma) (ts : List (TeamAgg ℝ))
    (hts : ∀ t ∈ ts, 0 ≤ t.sig2) (x : TeamAgg ℝ × Nat) (hx : x.1 ∈ ts) :
    0 ≤ (fl1_od K L P ts x).2 := by
  have hbt := fun tq => btPair_snd_nonneg P.beta P.gamma hg ts.length x.1 tq (hts _ hx)
  have htm := fun (hL : LeafFacts L) (cmul : ℝ) (hm : 0 ≤ cmul) tq =>
    tmPair_snd_nonneg L hL cmul P.beta P.kappa hm hk P.gamma hg ts.length x.1 tq (hts _ hx)
  cases K with
  | PL => exact plOmegaDelta_snd_nonneg _ hg ts _ (Real.sqrt_nonneg _) _ _ hx (hts _ hx)
  | BTF => exact sumPairs_map_snd_nonneg _ _ hbt
  | BTP => exact sumPairs_map_snd_nonneg _ _ hbt
  | TMF => exact sumPairs_map_snd_nonneg _ _ (htm (hL (Or.inl rfl)) _ (Nat.cast_nonneg 1))
  | TMP => exact sumPairs_map_snd_nonneg _ _ (htm (hL (Or.inr rfl)) _ (Nat.cast_nonneg 2))

theorem omegaDelta_snd_nonneg (K : Kind) (L : Leaves ℝ)
    (hL : K = .TMF ∨ K = .TMP → LeafFacts L) (P : Params ℝ)
    (hk : 0 ≤ P.kappa) (hg : GammaOK P.gamma) (ts : List (TeamAgg ℝ))
    (hts : ∀ t ∈ ts, 0 ≤ t.sig2) : ∀ od ∈ omegaDelta K L P ts, 0 ≤ od.2 := by
  intro od hod
  rw [omegaDelta_eq] at hod
  obtain ⟨x, hx, rfl⟩ := List.mem_map.1 hod
  exact fl1_od_snd_nonneg K L hL P hk hg ts hts x (List.fst_mem_of_mem_zipIdx hx)

/-- the per-player update at the tail of every `_compute` -/
def updPlayer (kappa sig2 omega delta : ℝ) (p : Rating ℝ) : Rating ℝ :=
  { p with mu := p.mu + p.sigma * p.sigma / sig2 * omega,
           sigma := p.sigma * sqrt (smax (ofNat 1 - p.sigma * p.sigma / sig2 * delta) kappa) }

theorem applyTeam_eq_map (kappa : ℝ) (t : TeamAgg ℝ) (omega delta : ℝ) :
    applyTeam kappa t omega delta = t.players.map (updPlayer kappa t.sig2 omega delta) := rfl

@[simp] theorem updPlayer_id (kappa sig2 omega delta : ℝ) (p : Rating ℝ) :
    (updPlayer kappa sig2 omega delta p).id = p.id := rfl

theorem updPlayer_mu (kappa sig2 omega delta : ℝ) (p : Rating ℝ) :
    (updPlayer kappa sig2 omega delta p).mu = p.mu + p.sigma * p.sigma / sig2 * omega := rfl

theorem updPlayer_sigma (kappa sig2 omega delta : ℝ) (p : Rating ℝ) :
    (updPlayer kappa sig2 omega delta p).sigma
      = p.sigma * √(max (1 - p.sigma * p.sigma / sig2 * delta) kappa) := by
  simp only [updPlayer, sc_sqrt, sc_one, smax_eq_max]

theorem updPlayer_sigma_sq {kappa : ℝ} (hk : 0 < kappa) (sig2 omega delta : ℝ) (p : Rating ℝ) :
    (updPlayer kappa sig2 omega delta p).sigma ^ 2
      = p.sigma ^ 2 * max (1 - p.sigma * p.sigma / sig2 * delta) kappa := by
  rw [updPlayer_sigma, mul_pow, Real.sq_sqrt (le_trans hk.le (le_max_right _ _))]

theorem updPlayer_sigma_le {kappa sig2 omega delta : ℝ} (hd : 0 ≤ delta) (hk1 : kappa ≤ 1)
    (hs : 0 ≤ sig2) (p : Rating ℝ) (hp : 0 ≤ p.sigma) :
    (updPlayer kappa sig2 omega delta p).sigma ≤ p.sigma := by
  rw [updPlayer_sigma]
  -- the factor `√max(1 − share·δ, κ)` is at most `1`
  exact mul_le_of_le_one_right hp (Real.sqrt_le_one.2
    (max_le (sub_le_self 1 (mul_nonneg (div_nonneg (mul_self_nonneg _) hs) hd)) hk1))

theorem updPlayer_sigma_nonneg {kappa sig2 omega delta : ℝ} (p : Rating ℝ) (hp : 0 ≤ p.sigma) :
    0 ≤ (updPlayer kappa sig2 omega delta p).sigma := by
  rw [updPlayer_sigma]
  exact mul_nonneg hp (Real.sqrt_nonneg _)

theorem updPlayer_sigma_pos {kappa sig2 omega delta : ℝ} (hk0 : 0 < kappa)
    (p : Rating ℝ) (hp : 0 < p.sigma) :
    0 < (updPlayer kappa sig2 omega delta p).sigma := by
  rw [updPlayer_sigma]
  exact mul_pos hp (Real.sqrt_pos.2 (lt_of_lt_of_le hk0 (le_max_right _ _)))

/-- the `tau` inflation of one player (`inflPlayer` at ℝ) -/
def inflP (tau : ℝ) (p : Rating ℝ) : Rating ℝ :=
  { p with sigma := sqrt (p.sigma * p.sigma + tau * tau) }

@[simp] theorem inflP_id (tau : ℝ) (p : Rating ℝ) : (inflP tau p).id = p.id := rfl

theorem inflPlayer_sigma (tau : ℝ) (p : Rating ℝ) :
    (inflPlayer tau p).sigma = √(p.sigma ^ 2 + tau ^ 2) := by
  simp only [inflPlayer, sc_sqrt, sq]

theorem inflPlayer_sigma_nonneg (tau : ℝ) (p : Rating ℝ) : 0 ≤ (inflPlayer tau p).sigma := by
  rw [inflPlayer_sigma]; exact Real.sqrt_nonneg _

theorem inflPlayer_sigma_pos (tau : ℝ) (p : Rating ℝ) (h : p.sigma ≠ 0 ∨ tau ≠ 0) :
    0 < (inflPlayer tau p).sigma :=
  C08_inflate_pos p.sigma tau h

/-- `T` is what the tail of `_compute` makes of the team `S` for some rank, some `ω` and some
non-negative `δ` -/
def IsUpdateOf (kappa : ℝ) (S T : List (Rating ℝ)) : Prop :=
  ∃ (rank : Nat) (omega delta : ℝ), 0 ≤ delta ∧ T = applyTeam kappa (teamAgg S rank) omega delta

theorem compute_isUpdateOf (K : Kind) (L : Leaves ℝ)
    (hL : K = .TMF ∨ K = .TMP → LeafFacts L) (P : Params ℝ)
    (hk : 0 ≤ P.kappa) (hg : GammaOK P.gamma) (teams : List (List (Rating ℝ))) (dense : List Nat) :
    ∀ T ∈ compute K L P teams dense, ∃ S ∈ teams, IsUpdateOf P.kappa S T := by
  intro T hT
  obtain ⟨t, ht, od, hod, rfl⟩ := mem_compute hT
  obtain ⟨S, hS, r, rfl⟩ := mem_teamAggs ht
  exact ⟨S, hS, r, od.1, od.2,
    omegaDelta_snd_nonneg K L hL P hk hg _ (fun t ht => teamAggs_sig2_nonneg ht) _ hod, rfl⟩

/-- the limit_sigma clamp of one player: `q` is the new rating, `p` the deep-copied original
(`clampPlayer` at ℝ) -/
def clampP (q p : Rating ℝ) : Rating ℝ :=
  if q.sigma ≤ p.sigma then q else { q with sigma := p.sigma }

theorem clampP_eq_clampPlayer : clampP = clampPlayer (α := ℝ) := rfl

theorem clampPlayer_sigma (q p : Rating ℝ) : (clampPlayer q p).sigma = min q.sigma p.sigma := by
  unfold clampPlayer
  split_ifs with h
  · exact (min_eq_left h).symm
  · exact (min_eq_right (not_le.1 h).le).symm

end OS
end
