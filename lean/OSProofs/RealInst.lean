import OSModel
import OSProofs.Gauss
import OSProofs.OrderLaws
import Mathlib.Analysis.SpecialFunctions.Sqrt
import Mathlib.Analysis.SpecialFunctions.Exp

/-!
# The model's scalar interface at ℝ

`instance : Scalar ℝ` makes every definition of `OSModel` a definition over the reals: the
objects the theorems of `OSProofs` are about are literally the terms the driver executes at
`Float`.
-/

noncomputable section
namespace OS

instance instScalarReal : Scalar ℝ where
  ofNat n := (n : ℝ)
  sqrt := Real.sqrt
  exp := Real.exp
  Phi := Gauss.Phi
  phi := Gauss.phi
  PhiInv := Gauss.PhiInv
  decLt _ _ := Classical.propDecidable _
  decLe _ _ := Classical.propDecidable _

@[simp] theorem sc_sqrt (x : ℝ) : Scalar.sqrt x = Real.sqrt x := rfl
@[simp] theorem sc_exp (x : ℝ) : Scalar.exp x = Real.exp x := rfl
@[simp] theorem sc_ofNat (n : ℕ) : (Scalar.ofNat n : ℝ) = (n : ℝ) := rfl
@[simp] theorem sc_Phi (x : ℝ) : Scalar.Phi x = Gauss.Phi x := rfl
@[simp] theorem sc_phi (x : ℝ) : Scalar.phi x = Gauss.phi x := rfl
@[simp] theorem sc_PhiInv (x : ℝ) : Scalar.PhiInv x = Gauss.PhiInv x := rfl

theorem sc_zero : (Scalar.ofNat 0 : ℝ) = 0 := Nat.cast_zero
theorem sc_one : (Scalar.ofNat 1 : ℝ) = 1 := Nat.cast_one

theorem sc_one_mul : ∀ a : ℝ, (Scalar.ofNat 1 : ℝ) * a = a := by
  intro a
  simp only [sc_one, one_mul]

theorem sc_zero_add : ∀ a : ℝ, (Scalar.ofNat 0 : ℝ) + a = a := by
  intro a
  simp only [sc_zero, zero_add]

theorem sumL_eq_sum (l : List ℝ) : sumL l = l.sum := by
  rw [List.sum_eq_foldl, sumL, sc_zero]

theorem smax_eq_max (a b : ℝ) : smax a b = max a b := by
  unfold smax
  split_ifs with h
  · exact (max_eq_right h.le).symm
  · exact (max_eq_left (not_lt.mp h)).symm

theorem sabs_eq_abs (a : ℝ) : sabs a = |a| := by
  unfold sabs
  rw [sc_zero]
  split_ifs with h
  · exact (abs_of_neg h).symm
  · exact (abs_of_nonneg (not_lt.mp h)).symm

theorem OrderLaws.real : OrderLaws ℝ := ⟨le_refl, le_trans, le_total, lt_iff_not_ge⟩

theorem epsF_pos : (0 : ℝ) < epsF := by
  unfold epsF; simp only [sc_ofNat]; positivity

theorem tiny5_pos : (0 : ℝ) < tiny5 := by
  unfold tiny5; simp only [sc_ofNat]; positivity

end OS
end
